import PytmeModel.Model.C01
import PytmeModel.Model.C02
import PytmeModel.Model.C02Run
import PytmeModel.Model.C03
import PytmeModel.Model.C04
import PytmeModel.Model.C05
import PytmeModel.Model.C05Batch
import PytmeModel.Model.C06
import PytmeModel.Model.C07
import PytmeModel.Model.C08
import PytmeModel.Model.C09
import PytmeModel.Model.C10
import PytmeModel.Model.C10K
import PytmeModel.Model.C11
import PytmeModel.Model.C12
import PytmeModel.Model.C13
import PytmeModel.Model.C14
import PytmeModel.Model.C15
import PytmeModel.Model.C16
import PytmeModel.Model.C17
import PytmeModel.Model.C17Scores
import PytmeModel.Model.C18
import PytmeModel.Model.C18Cli
import PytmeModel.Model.Common
import PytmeModel.Extracted.C02
import PytmeModel.Extracted.C17
import PytmeModel.Proofs.C01Field
import PytmeModel.Proofs.C01Frame
import PytmeModel.Proofs.C01Grid
import PytmeModel.Proofs.C01Textbook
import PytmeModel.Proofs.C02Enum
import PytmeModel.Proofs.C03
import PytmeModel.Proofs.C04
import PytmeModel.Proofs.C04Ext
import PytmeModel.Proofs.C04Lock
import PytmeModel.Proofs.C04Merge
import PytmeModel.Proofs.C04Once
import PytmeModel.Proofs.C04Rep
import PytmeModel.Proofs.C04Run
import PytmeModel.Proofs.C05
import PytmeModel.Proofs.C05Batch
import PytmeModel.Proofs.C05Call
import PytmeModel.Proofs.C05Fast
import PytmeModel.Proofs.C05Hist
import PytmeModel.Proofs.C05Post
import PytmeModel.Proofs.C06
import PytmeModel.Proofs.C06Examples
import PytmeModel.Proofs.C06Linear
import PytmeModel.Proofs.C06LinearMoment
import PytmeModel.Proofs.C07
import PytmeModel.Proofs.C08
import PytmeModel.Proofs.C09
import PytmeModel.Proofs.C09Cif
import PytmeModel.Proofs.C09Reuse
import PytmeModel.Proofs.C10
import PytmeModel.Proofs.C10K
import PytmeModel.Proofs.C11
import PytmeModel.Proofs.C11Extract
import PytmeModel.Proofs.C11Perm
import PytmeModel.Proofs.C11Star
import PytmeModel.Proofs.C12
import PytmeModel.Proofs.C12b
import PytmeModel.Proofs.C13Dims
import PytmeModel.Proofs.C13Fast
import PytmeModel.Proofs.C13Misc
import PytmeModel.Proofs.C13Pad
import PytmeModel.Proofs.C13Post
import PytmeModel.Proofs.C13Roll
import PytmeModel.Proofs.C13TopK
import PytmeModel.Proofs.C13Window
import PytmeModel.Proofs.C14
import PytmeModel.Proofs.C15
import PytmeModel.Proofs.C15Cloud
import PytmeModel.Proofs.C15Geo
import PytmeModel.Proofs.C15Nd
import PytmeModel.Proofs.C16
import PytmeModel.Proofs.C17
import PytmeModel.Proofs.C17MI
import PytmeModel.Proofs.C17Scores
import PytmeModel.Proofs.C18Cli
import PytmeModel.Proofs.Circ
import PytmeModel.Proofs.Common
import PytmeModel.Proofs.DftConv
import PytmeModel.Proofs.DftInv
import PytmeModel.Proofs.DftRoundTrip
import PytmeModel.Props.C01
import PytmeModel.Props.C02
import PytmeModel.Props.C03
import PytmeModel.Props.C04
import PytmeModel.Props.C05
import PytmeModel.Props.C06
import PytmeModel.Props.C07
import PytmeModel.Props.C08
import PytmeModel.Props.C09
import PytmeModel.Props.C10
import PytmeModel.Props.C11
import PytmeModel.Props.C12
import PytmeModel.Props.C13
import PytmeModel.Props.C14
import PytmeModel.Props.C15
import PytmeModel.Props.C16
import PytmeModel.Props.C17
import PytmeModel.Props.C18
