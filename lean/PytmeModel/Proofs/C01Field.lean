import PytmeModel.Model.C01
import PytmeModel.Proofs.Circ
import PytmeModel.Proofs.Common
import Mathlib.Algebra.BigOperators.Group.Finset.Basic
import Mathlib.Algebra.BigOperators.Intervals
import Mathlib.Algebra.Field.Defs
import Mathlib.Tactic.Ring
import Mathlib.Tactic.Linarith

/-! Score formulas over a field: box sums are reflection invariant, so standardising the *stored*
(reversed) template is the reversal of standardising the template. -/
open Finset
namespace Pm.C01

/-- scalar operations of a field, with an uninterpreted square root, comparison and epsilon -/
def fieldOps {α : Type} [Field α] (sqrt : α → α) (lt : α → α → Bool) (eps : α) : Ops α :=
  { zero := 0, one := 1, add := (· + ·), sub := (· - ·), mul := (· * ·), div := (· / ·),
    sqrt := sqrt, lt := lt, ofNat := fun n => (n : α), eps := eps }

theorem foldl_range_add {α} [AddCommMonoid α] (n : Nat) (h : Nat → α) :
    (List.range n).foldl (fun acc i => acc + h i) 0 = sumRange n h := by
  induction n with
  | zero => simp [sumRange]
  | succ k ih => simp [List.range_succ, List.foldl_append, ih, sumRange]

theorem boxSum_eq_sumShape {α : Type} [Field α] (sqrt : α → α) (lt : α → α → Bool) (eps : α) :
    ∀ (ms : List Nat) (F : List Nat → α), boxSum (fieldOps sqrt lt eps) ms F = sumShape ms F
  | [], F => rfl
  | m :: ms, F => by
    simp only [boxSum, sumShape]
    have : ∀ i, boxSum (fieldOps sqrt lt eps) ms (fun idx => F (i :: idx)) = sumShape ms (fun idx => F (i :: idx)) :=
      fun i => boxSum_eq_sumShape sqrt lt eps ms _
    simp only [this]
    exact foldl_range_add m _

theorem sumRange_reflect {α} [AddCommMonoid α] (m : Nat) (G : Int → α) :
    sumRange m (fun i => G ((m:Int) - 1 - (i:Int))) = sumRange m (fun i => G (i:Int)) := by
  rw [sumRange_eq_sum, sumRange_eq_sum, ← Finset.sum_range_reflect]
  apply Finset.sum_congr rfl
  intro j hj
  have hj' := mem_range.mp hj
  rw [show ((m:Int) - 1) - ((m - 1 - j : Nat) : Int) = (j : Int) by omega]

theorem sumShape_reflect {α} [AddCommMonoid α] : ∀ (ms : List Nat) (F : List Int → α),
    sumShape ms (fun k => F (revK ms k)) = sumShape ms (fun k => F (natsToInts k))
  | [], F => rfl
  | m :: ms, F => by
    simp only [sumShape, revK]
    exact (sumRange_congr _ _ _ fun i _ => sumShape_reflect ms fun r => F ((((m:Int) - 1) - (i:Int)) :: r)).trans
      (sumRange_reflect m fun x => sumShape ms fun idx => F (x :: natsToInts idx))

theorem natsToInts_length (k : List Nat) : (natsToInts k).length = k.length := by simp [natsToInts]

theorem revIdx_natsToInts : ∀ (ms k : List Nat), inShape ms k = true → revIdx ms (natsToInts k) = revK ms k
  | [], [], _ => rfl
  | [], _ :: _, h => Bool.noConfusion h
  | _ :: _, [], h => Bool.noConfusion h
  | m :: ms, k :: ks, h => by
    show ((m:Int) - 1 - (k:Int)) :: revIdx ms (natsToInts ks) = _
    rw [revIdx_natsToInts ms ks (inShape_cons.mp h).2]
    rfl

theorem sumShape_rev {α} [AddCommMonoid α] (ms : List Nat) (Q : List Int → α) :
    sumShape ms (fun k => rev ms Q (natsToInts k)) = sumShape ms (fun k => Q (natsToInts k)) := by
  rw [← sumShape_reflect ms Q]
  apply sumShape_congr
  intro k hk
  simp only [rev, natsToInts_length, inShape_length hk, if_true]
  rw [revIdx_natsToInts ms k hk]

theorem rev_map2 {α β γ} (ms : List Nat) (op : α → β → γ) (g : List Int → α) (w : List Int → β) :
    (fun x => op (rev ms g x) (rev ms w x)) = rev ms (fun x => op (g x) (w x)) := by
  funext x
  simp only [rev]
  split <;> rfl

theorem rev_map1 {α β} (ms : List Nat) (op : α → β) (g : List Int → α) :
    (fun x => op (rev ms g x)) = rev ms (fun x => op (g x)) := by
  funext x
  simp only [rev]
  split <;> rfl

section
variable {α : Type} [Field α] (sqrt : α → α) (lt : α → α → Bool) (eps : α)

theorem boxSum_rev (ms : List Nat) (Q : List Int → α) :
    boxSum (fieldOps sqrt lt eps) ms (fun k => rev ms Q (natsToInts k))
      = boxSum (fieldOps sqrt lt eps) ms (fun k => Q (natsToInts k)) := by
  rw [boxSum_eq_sumShape, boxSum_eq_sumShape, sumShape_rev]

theorem boxSum_rev_map2 (ms : List Nat) (op : α → α → α) (g w : List Int → α) :
    boxSum (fieldOps sqrt lt eps) ms (fun k => op (rev ms g (natsToInts k)) (rev ms w (natsToInts k)))
      = boxSum (fieldOps sqrt lt eps) ms (fun k => op (g (natsToInts k)) (w (natsToInts k))) := by
  have e : (fun k => op (rev ms g (natsToInts k)) (rev ms w (natsToInts k)))
      = fun k => rev ms (fun x => op (g x) (w x)) (natsToInts k) := by
    funext k; exact congrFun (rev_map2 ms op g w) _
  rw [e, boxSum_rev]

theorem maskSum_rev (ms : List Nat) (w : List Int → α) :
    maskSum (fieldOps sqrt lt eps) ms (rev ms w) = maskSum (fieldOps sqrt lt eps) ms w := by
  unfold maskSum; exact boxSum_rev sqrt lt eps ms w

/-- the template statistics are reflection invariant -/
theorem normStats_rev (ms : List Nat) (g w : List Int → α) (n : α) :
    normStats (fieldOps sqrt lt eps) ms (rev ms g) (rev ms w) n = normStats (fieldOps sqrt lt eps) ms g w n := by
  unfold normStats
  rw [boxSum_rev_map2 sqrt lt eps ms (fieldOps sqrt lt eps).mul,
    boxSum_rev_map2 sqrt lt eps ms (fun a b => (fieldOps sqrt lt eps).mul ((fieldOps sqrt lt eps).sq a) b)]

/-- standardising the stored (reversed) template under the stored mask = reversal of the standardised template -/
theorem normTemplate_rev (ms : List Nat) (g w : List Int → α) (n : α) :
    normTemplate (fieldOps sqrt lt eps) ms (rev ms g) (rev ms w) n
      = rev ms (normTemplate (fieldOps sqrt lt eps) ms g w n) := by
  unfold normTemplate
  rw [normStats_rev]
  exact rev_map2 ms (normApply _ _) g w

/-- the closure the score formulas use *is* `normTemplate` -/
theorem normT_eq (o : Ops α) (ms : List Nat) (g w : List Int → α) (n : α) :
    normT o (normStats o ms g w n) g w = normTemplate o ms g w n := rfl

theorem normT_rev (o : Ops α) (st : α × α) (ms : List Nat) (g w : List Int → α) :
    normT o st (rev ms g) (rev ms w) = rev ms (normT o st g w) :=
  rev_map2 ms (normApply o st) g w

theorem supp_normT (st : α × α) (ms : List Nat) (g w : List Int → α) (hw : ∀ j, OutOfBox ms j → w j = 0) :
    ∀ j, OutOfBox ms j → normT (fieldOps sqrt lt eps) st g w j = 0 := by
  intro j hj
  simp only [normT, normApply, fieldOps, hw j hj, mul_zero]

/-- the standardised template vanishes wherever the mask does -/
theorem supp_normTemplate (ms : List Nat) (g w : List Int → α) (n : α) (hw : ∀ j, OutOfBox ms j → w j = 0) :
    ∀ j, OutOfBox ms j → normTemplate (fieldOps sqrt lt eps) ms g w n j = 0 := by
  intro j hj
  simp only [normTemplate, normApply, fieldOps, hw j hj, mul_zero]
end

end Pm.C01
