import PytmeModel.Proofs.Circ
import PytmeModel.Proofs.Common

/-! Index and frame arithmetic of C01, one axis at a time: reversed and window indices, what `conv_shape`, `fourier_shift`
and the crop start of `_fourier_padding` / the analyzer amount to in each branch, and the step from one axis to all. -/
namespace Pm.C01

theorem outOfRange_cases : ∀ (ns ms : List Nat) (j r : List Int), OutOfRange ns ms j r → OutOfBox ns j ∨ OutOfBox ms r
  | n :: ns, m :: ms, j :: js, r :: rs, h => by
    rcases h with (h | h | h | h) | h
    exacts [.inl (.inl (.inl h)), .inl (.inl (.inr h)), .inr (.inl (.inl h)), .inr (.inl (.inr h)),
      (outOfRange_cases ns ms js rs h).imp .inr .inr]
  | [], _, _, _, h => h.elim
  | _ :: _, [], _, _, h => h.elim
  | _ :: _, _ :: _, [], _, h => h.elim
  | _ :: _, _ :: _, _ :: _, [], h => h.elim

theorem revIdx_revK : ∀ (ms k : List Nat), inShape ms k = true → revIdx ms (revK ms k) = natsToInts k
  | [], [], _ => rfl
  | [], _ :: _, h => Bool.noConfusion h
  | _ :: _, [], h => Bool.noConfusion h
  | m :: ms, k :: ks, h => by
    show ((m:Int) - 1 - ((m:Int) - 1 - k)) :: revIdx ms (revK ms ks) = (k:Int) :: natsToInts ks
    rw [revIdx_revK ms ks (inShape_cons.mp h).2, sub_sub_cancel]

theorem outOfBox_revIdx : ∀ (ms : List Nat) (r : List Int), OutOfBox ms r → OutOfBox ms (revIdx ms r)
  | m :: ms, r :: rs, h => h.imp (fun h => by omega) (outOfBox_revIdx ms rs)
  | [], _, h => h.elim
  | _ :: _, [], h => h.elim

theorem revK_length : ∀ (ms k : List Nat), inShape ms k = true → (revK ms k).length = ms.length
  | [], [], _ => rfl
  | [], _ :: _, h => Bool.noConfusion h
  | _ :: _, [], h => Bool.noConfusion h
  | m :: ms, k :: ks, h => congrArg Nat.succ (revK_length ms ks (inShape_cons.mp h).2)

theorem convLen_pad (n m : Nat) (h : m ≤ n) : convLen n m true = n + m - 1 := by
  simp only [convLen, if_true, Nat.max_eq_left h]
theorem convLen_nopad (n m : Nat) (h : m ≤ n) : convLen n m false = n := by
  simp only [convLen, Bool.false_eq_true, if_false, Nat.max_eq_left h, Nat.add_sub_cancel]
theorem fourierShift_pad (m : Nat) : fourierShift m true = 0 := rfl
theorem fourierShift_nopad (m : Nat) :
    fourierShift m false = 1 - ((m / 2 : Nat) : Int) - ((m % 2 : Nat) : Int) := rfl

theorem le_convLen (n m : Nat) (pad : Bool) (hm : 0 < m) : n ≤ convLen n m pad := by
  cases pad
  · exact Nat.le_sub_one_of_lt (Nat.lt_succ_of_le (Nat.le_max_left n m))
  · exact Nat.le_trans (Nat.le_max_left n m) (Nat.le_sub_one_of_lt (Nat.lt_add_of_pos_right hm))

theorem add_le_convLen_pad (n m : Nat) : n + m - 1 ≤ convLen n m true :=
  Nat.sub_le_sub_right (Nat.add_le_add_right (Nat.le_max_left n m) m) 1

theorem frame_axis (n m N : Nat) (s c t u : Int) (e : t + c - s = u) (hm : 0 < m) (hnN : n ≤ N)
    (hu : 0 ≤ u ∧ u < N ∧ u + N - ((n:Int) - 1) ≥ m) :
    rawIdx N s c t = u ∧ (0 < m ∧ n ≤ N ∧ (u + N - ((n:Int) - 1) ≥ m ∨ u ≥ (n:Int) - 1) ∧ u < N ∧ 0 ≤ u) := by
  refine ⟨?_, hm, hnN, Or.inl hu.2.2, hu.2.1, hu.1⟩
  unfold rawIdx
  rw [e]
  exact Int.emod_eq_of_lt hu.1 hu.2.1

theorem sameCrop_sub_shift (pad : Bool) (n m : Nat) (hm : 0 < m) (hmn : m ≤ n) :
    cropStart (convLen n m pad) n - fourierShift m pad = (((m - 1) / 2 : Nat) : Int) := by
  cases pad
  · rw [convLen_nopad n m hmn, fourierShift_nopad]; unfold cropStart; omega
  · rw [convLen_pad n m hmn, fourierShift_pad]; unfold cropStart; omega

theorem validCrop_sub_shift (pad : Bool) (n m : Nat) (hm : 0 < m) (hmn : m ≤ n) :
    cropStart (convLen n m pad) (validExt n m) - fourierShift m pad = ((m - 1 : Nat) : Int) := by
  cases pad
  · rw [convLen_nopad n m hmn, fourierShift_nopad]; unfold cropStart validExt; omega
  · rw [convLen_pad n m hmn, fourierShift_pad]; unfold cropStart validExt; omega

theorem frame_nil : frameIdx [] [] [] [] = rawPos [] [] ∧ AxesOk [] [] [] (rawPos [] []) ∧ (∀ m ∈ ([] : List Nat), 0 < m) :=
  ⟨rfl, trivial, fun _ h => (List.not_mem_nil h).elim⟩

theorem frame_cons {n m N : Nat} {s c t u : Int} {ns ms Ns : List Nat} {ss cs ts us : List Int}
    (hax : rawIdx N s c t = u ∧ (0 < m ∧ n ≤ N ∧ (u + N - ((n:Int) - 1) ≥ m ∨ u ≥ (n:Int) - 1) ∧ u < N ∧ 0 ≤ u))
    (ih : frameIdx Ns ss cs ts = us ∧ AxesOk ns ms Ns us ∧ (∀ x ∈ ms, 0 < x)) :
    frameIdx (N :: Ns) (s :: ss) (c :: cs) (t :: ts) = u :: us ∧ AxesOk (n :: ns) (m :: ms) (N :: Ns) (u :: us) ∧
      (∀ x ∈ m :: ms, 0 < x) := by
  refine ⟨?_, ⟨hax.2, ih.2.1⟩, List.forall_mem_cons.mpr ⟨hax.2.1, ih.2.2⟩⟩
  simp only [frameIdx]
  rw [hax.1, ih.1]

theorem fourierShiftFull_pad_le (n m : Nat) (h : m ≤ n) : fourierShiftFull n m true = 0 := by
  unfold fourierShiftFull
  exact if_neg (not_lt.mpr (sub_nonneg.mpr (Int.ofNat_le.mpr h)))

/-- with full padding and a template larger than the target, the correction branch of `_fourier_padding` (halved shape
difference, parity offsets, truncating cast) amounts to the shift `m/2 - n/2` -/
theorem fourierShiftFull_pad_lt (n m : Nat) (h : n < m) :
    fourierShiftFull n m true = ((m / 2 : Nat) : Int) - ((n / 2 : Nat) : Int) := by
  unfold fourierShiftFull fourierShift
  simp only [if_true]
  rw [if_pos (sub_neg.mpr (Int.ofNat_lt.mpr h)), Int.tdiv_eq_ediv_of_nonneg (by omega)]
  omega

theorem not_outOfBox_of_inShape : ∀ (ns : List Nat) (j : List Int), j.all (fun i => decide (0 ≤ i)) = true →
    inShape ns (j.map Int.toNat) = true → ¬ OutOfBox ns j
  | [], [], _, _ => id
  | [], _ :: _, _, h => Bool.noConfusion h
  | _ :: _, [], _, h => Bool.noConfusion h
  | n :: ns, j :: js, hall, hin => by
    simp only [List.all_cons, Bool.and_eq_true, decide_eq_true_eq] at hall
    simp only [List.map_cons, inShape, Bool.and_eq_true, decide_eq_true_eq] at hin
    rintro ((h | h) | h)
    · omega
    · omega
    · exact not_outOfBox_of_inShape ns js hall.2 hin.2 h

theorem specIdx_shift : ∀ (ms : List Nat) (t s : List Int) (k : List Nat),
    specIdx ms (List.zipWith (· + ·) t s) k = List.zipWith (· + ·) (specIdx ms t k) s
  | [], _, _, _ => rfl
  | _ :: _, [], _, _ => rfl
  | _ :: _, _ :: _, [], _ => by rw [List.zipWith_nil_right, List.zipWith_nil_right]; rfl
  | _ :: _, _ :: _, _ :: _, [] => rfl
  | m :: ms, t :: ts, s :: ss, k :: ks => by
    simp only [List.zipWith_cons_cons, specIdx]
    rw [specIdx_shift ms ts ss ks]
    congr 1; ring

end Pm.C01
