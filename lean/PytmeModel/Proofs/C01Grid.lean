import PytmeModel.Proofs.C01Field

/-! Grid rotations as signed axis permutations, in any dimension: `GridRot.pull` entry by entry, and what follows
from the permutation keeping the shape — reversal commutes with the rotation, and the outside of the template box is
mapped to the outside. -/
namespace Pm.C01

/-- `R.perm` permutes the axes of `ms` and leaves the shape unchanged (the flips are unconstrained) -/
structure GridRot.Ok (R : GridRot) (ms : List Nat) : Prop where
  lt : ∀ i, i < ms.length → R.perm.getD i 0 < ms.length
  shape : ∀ i, i < ms.length → ms.getD (R.perm.getD i 0) 0 = ms.getD i 0
  surj : ∀ a, a < ms.length → ∃ i, i < ms.length ∧ R.perm.getD i 0 = a

theorem ext_getD {l₁ l₂ : List Int} (hl : l₁.length = l₂.length)
    (h : ∀ i, i < l₁.length → l₁.getD i 0 = l₂.getD i 0) : l₁ = l₂ := by
  apply List.ext_getElem hl
  intro i h1 h2
  rw [List.getElem_eq_getD 0, List.getElem_eq_getD 0]
  exact h i h1

@[simp] theorem pull_length (R : GridRot) (ms : List Nat) (x : List Int) : (R.pull ms x).length = ms.length := by
  unfold GridRot.pull
  rw [List.length_map, List.length_range]

theorem pull_getD (R : GridRot) (ms : List Nat) (x : List Int) (i : Nat) (hi : i < ms.length) :
    (R.pull ms x).getD i 0 = if R.flip.getD i false then ((ms.getD i 0 : Nat) : Int) - 1 - x.getD (R.perm.getD i 0) 0
      else x.getD (R.perm.getD i 0) 0 := by
  unfold GridRot.pull
  exact getD_map_range _ 0 _ i hi

theorem revIdx_length : ∀ (ms : List Nat) (x : List Int), x.length = ms.length → (revIdx ms x).length = ms.length
  | [], [], _ => rfl
  | [], _ :: _, h => nomatch h
  | _ :: _, [], h => nomatch h
  | m :: ms, r :: rs, h => by
    simp only [revIdx, List.length_cons, revIdx_length ms rs (Nat.succ.inj h)]

theorem revIdx_getD : ∀ (ms : List Nat) (x : List Int) (i : Nat), x.length = ms.length → i < ms.length →
    (revIdx ms x).getD i 0 = ((ms.getD i 0 : Nat) : Int) - 1 - x.getD i 0
  | [], _, _, _, hi => nomatch hi
  | _ :: _, [], _, h, _ => nomatch h
  | _ :: _, _ :: _, 0, _, _ => rfl
  | _ :: ms, _ :: rs, i + 1, h, hi => revIdx_getD ms rs i (Nat.succ.inj h) (Nat.lt_of_succ_lt_succ hi)

theorem pull_rev_comm (R : GridRot) (ms : List Nat) (h : R.Ok ms) (x : List Int) (hx : x.length = ms.length) :
    revIdx ms (R.pull ms x) = R.pull ms (revIdx ms x) := by
  have hp := pull_length R ms x
  apply ext_getD
  · rw [revIdx_length ms _ hp, pull_length]
  · intro i hi
    rw [revIdx_length ms _ hp] at hi
    rw [revIdx_getD ms _ i hp hi, pull_getD R ms _ i hi, pull_getD R ms _ i hi,
      revIdx_getD ms x _ hx (h.lt i hi), h.shape i hi]
    split <;> ring

theorem outOfBox_iff : ∀ (ms : List Nat) (x : List Int), x.length = ms.length →
    (OutOfBox ms x ↔ ∃ i, i < ms.length ∧ (x.getD i 0 < 0 ∨ ((ms.getD i 0 : Nat) : Int) ≤ x.getD i 0))
  | [], [], _ => ⟨fun h => h.elim, fun ⟨i, hi, _⟩ => absurd hi (Nat.not_lt_zero i)⟩
  | [], _ :: _, h => nomatch h
  | _ :: _, [], h => nomatch h
  | m :: ms, r :: rs, h => by
    simp only [OutOfBox, outOfBox_iff ms rs (Nat.succ.inj h)]
    constructor
    · rintro (h0 | ⟨i, hi, hout⟩)
      · exact ⟨0, Nat.succ_pos _, h0⟩
      · exact ⟨i + 1, Nat.succ_lt_succ hi, hout⟩
    · rintro ⟨i, hi, hout⟩
      cases i with
      | zero => exact Or.inl hout
      | succ i => exact Or.inr ⟨i, Nat.lt_of_succ_lt_succ hi, hout⟩

theorem outOfBox_pull (R : GridRot) (ms : List Nat) (h : R.Ok ms) (x : List Int) (hx : x.length = ms.length)
    (hout : OutOfBox ms x) : OutOfBox ms (R.pull ms x) := by
  obtain ⟨a, ha, hout⟩ := (outOfBox_iff ms x hx).1 hout
  obtain ⟨i, hi, rfl⟩ := h.surj a ha
  rw [h.shape i hi] at hout
  refine (outOfBox_iff ms _ (pull_length R ms x)).2 ⟨i, hi, ?_⟩
  rw [pull_getD R ms x i hi]
  split <;> omega

theorem lt_two_cases {i : Nat} (h : i < 2) : i = 0 ∨ i = 1 := by omega
theorem lt_three_cases {i : Nat} (h : i < 3) : i = 0 ∨ i = 1 ∨ i = 2 := by omega

theorem GridOk3.ok {R : GridRot} {a b c : Nat} (h : GridOk3 R a b c) : R.Ok [a, b, c] := by
  obtain ⟨-, hp | ⟨hp, rfl⟩ | ⟨hp, rfl⟩ | ⟨hp, rfl, rfl⟩ | ⟨hp, rfl, rfl⟩ | ⟨hp, rfl⟩⟩ := h <;>
  · refine ⟨?_, ?_, ?_⟩
    · show ∀ i, i < 3 → R.perm.getD i 0 < 3
      rw [hp]; decide
    · intro i hi
      obtain rfl | rfl | rfl := lt_three_cases hi
      all_goals rw [hp]; rfl
    · show ∀ a, a < 3 → ∃ i, i < 3 ∧ R.perm.getD i 0 = a
      rw [hp]; decide

theorem GridOk2.ok {R : GridRot} {a b : Nat} (h : GridOk2 R a b) : R.Ok [a, b] := by
  obtain ⟨-, hp | ⟨hp, rfl⟩⟩ := h <;>
  · refine ⟨?_, ?_, ?_⟩
    · show ∀ i, i < 2 → R.perm.getD i 0 < 2
      rw [hp]; decide
    · intro i hi
      obtain rfl | rfl := lt_two_cases hi
      all_goals rw [hp]; rfl
    · show ∀ a, a < 2 → ∃ i, i < 2 ∧ R.perm.getD i 0 = a
      rw [hp]; decide

end Pm.C01
