import PytmeModel.Proofs.C03
import PytmeModel.Proofs.C01Field
import Mathlib.Algebra.BigOperators.Group.Finset.Basic
import Mathlib.Algebra.BigOperators.Intervals
import Mathlib.Algebra.Order.Field.Basic
import Mathlib.Tactic.Ring
import Mathlib.Tactic.Linarith
import Mathlib.Tactic.FieldSimp

/-! Box sums are invariant under grid rotations (axis permutations that keep the shape, with reflections), and
for a binary mask standardising twice is standardising once: the code's FLC formula is the textbook formula.
At the end, two identities about box sums that the linearity and MCC theorems of `Props/C01` rest on: the weighted
covariance identity and bilinearity of a sum of products. -/
open Finset
namespace Pm.C01

section flip
variable {α : Type} [AddCommMonoid α]

/-- per-axis optional reflection of a box index -/
def flipIdx : List Nat → List Bool → List Nat → List Int
  | m :: ms, b :: bs, k :: ks => (if b then ((m:Int) - 1 - (k:Int)) else (k:Int)) :: flipIdx ms bs ks
  | _, _, _ => []

theorem sumShape_flip : ∀ (ms : List Nat) (bs : List Bool) (F : List Int → α), bs.length = ms.length →
    sumShape ms (fun k => F (flipIdx ms bs k)) = sumShape ms (fun k => F (natsToInts k))
  | [], [], F, _ => rfl
  | [], _ :: _, _, h => by simp at h
  | _ :: _, [], _, h => by simp at h
  | m :: ms, b :: bs, F, h => by
    simp only [sumShape, flipIdx]
    refine (sumRange_congr _ _ _ fun i _ => sumShape_flip ms bs (fun r => F (_ :: r)) (Nat.succ.inj h)).trans ?_
    cases b with
    | false => rfl
    | true => exact sumRange_reflect m fun x => sumShape ms fun idx => F (x :: natsToInts idx)

theorem sumShape3 (a b c : Nat) (G : List Nat → α) :
    sumShape [a, b, c] G = ∑ i ∈ range a, ∑ j ∈ range b, ∑ k ∈ range c, G [i, j, k] := by
  simp only [sumShape, sumRange_eq_sum]

theorem sumShape2 (a b : Nat) (G : List Nat → α) :
    sumShape [a, b] G = ∑ i ∈ range a, ∑ j ∈ range b, G [i, j] := by
  simp only [sumShape, sumRange_eq_sum]

theorem sumShape_pull3 (R : GridRot) (a b c : Nat) (hR : GridOk3 R a b c) (F : List Int → α) :
    sumShape [a, b, c] (fun k => F (R.pull [a, b, c] (natsToInts k)))
      = sumShape [a, b, c] (fun k => F (natsToInts k)) := by
  obtain ⟨p, fl⟩ := R
  obtain ⟨⟨f0, f1, f2, hf⟩, hp⟩ := hR
  dsimp only at hf hp
  subst hf
  -- `F ∘ pull = (F ∘ flips) ∘ perm`: remove the reflections, then undo the permutation by exchanging summations;
  -- for each permutation `pull` and `flipIdx` compute to the same entries
  rw [← sumShape_flip [a, b, c] [f0, f1, f2] F rfl, sumShape3, sumShape3]
  rcases hp with rfl | ⟨rfl, rfl⟩ | ⟨rfl, rfl⟩ | ⟨rfl, rfl, rfl⟩ | ⟨rfl, rfl, rfl⟩ | ⟨rfl, rfl⟩
  · rfl
  · exact sum_congr rfl fun i _ => sum_comm
  · exact sum_comm
  · exact sum_comm.trans (sum_congr rfl fun j _ => sum_comm)
  · exact (sum_congr rfl fun i _ => sum_comm).trans sum_comm
  · exact (sum_congr rfl fun i _ => sum_comm).trans (sum_comm.trans (sum_congr rfl fun k _ => sum_comm))

theorem sumShape_pull2 (R : GridRot) (a b : Nat) (hR : GridOk2 R a b) (F : List Int → α) :
    sumShape [a, b] (fun k => F (R.pull [a, b] (natsToInts k))) = sumShape [a, b] (fun k => F (natsToInts k)) := by
  obtain ⟨p, fl⟩ := R
  obtain ⟨⟨f0, f1, hf⟩, hp⟩ := hR
  dsimp only at hf hp
  subst hf
  rw [← sumShape_flip [a, b] [f0, f1] F rfl, sumShape2, sumShape2]
  rcases hp with rfl | ⟨rfl, rfl⟩
  · rfl
  · exact sum_comm

end flip

open Pm.C03

theorem rotF_map2 {β γ δ : Type} (R : GridRot) (ms : List Nat) (op : β → γ → δ) (g : List Int → β) (w : List Int → γ) :
    (fun x => op (rotF R ms g x) (rotF R ms w x)) = rotF R ms (fun x => op (g x) (w x)) := by
  funext x
  simp only [rotF]
  split <;> rfl

section RotStats
variable {α : Type} [Field α] [LinearOrder α] [IsStrictOrderedRing α]

/-- what a rotation of template fields has to provide for the statistics to be rotation invariant -/
structure RotSum (ms : List Nat) (rot : (List Int → α) → (List Int → α)) : Prop where
  sum : ∀ Q : List Int → α, sumShape ms (fun k => rot Q (natsToInts k)) = sumShape ms (fun k => Q (natsToInts k))
  map2 : ∀ (op : α → α → α) (g w : List Int → α), (fun x => op (rot g x) (rot w x)) = rot (fun x => op (g x) (w x))

theorem rotSum_of_pull (R : GridRot) (ms : List Nat)
    (h : ∀ F : List Int → α, sumShape ms (fun k => F (R.pull ms (natsToInts k))) = sumShape ms (fun k => F (natsToInts k))) :
    RotSum (α := α) ms (rotF R ms) := by
  refine ⟨fun Q => (sumShape_congr _ _ _ fun k hk => ?_).trans (h Q), fun op g w => rotF_map2 R ms op g w⟩
  -- at box voxels the rotated field reads the field at the pull-back index
  simp only [rotF, natsToInts_length, inShape_length hk, if_true]

theorem rotSum_grid3 (R : GridRot) (a b c : Nat) (hR : GridOk3 R a b c) : RotSum (α := α) [a, b, c] (rotF R [a, b, c]) :=
  rotSum_of_pull R [a, b, c] (sumShape_pull3 R a b c hR)
theorem rotSum_grid2 (R : GridRot) (a b : Nat) (hR : GridOk2 R a b) : RotSum (α := α) [a, b] (rotF R [a, b]) :=
  rotSum_of_pull R [a, b] (sumShape_pull2 R a b hR)
theorem rotSum_id (ms : List Nat) : RotSum (α := α) ms id := ⟨fun _ => rfl, fun _ _ _ => rfl⟩

theorem RotSum.sum_map2 {ms : List Nat} {rot} (hr : RotSum (α := α) ms rot) (op : α → α → α) (g w : List Int → α) :
    sumShape ms (fun k => op (rot g (natsToInts k)) (rot w (natsToInts k)))
      = sumShape ms (fun k => op (g (natsToInts k)) (w (natsToInts k))) := by
  rw [← hr.sum (fun x => op (g x) (w x)), ← hr.map2 op g w]

variable (sqrt : α → α) (eps : α)

theorem maskSum_rot (ms : List Nat) (rot) (hr : RotSum (α := α) ms rot) (w : List Int → α) :
    maskSum (ordOps sqrt eps) ms (rot w) = maskSum (ordOps sqrt eps) ms w := by
  rw [maskSum_ord, maskSum_ord, hr.sum]

/-- the template statistics do not change when template and mask are rotated together -/
theorem normStats_rot (ms : List Nat) (rot) (hr : RotSum (α := α) ms rot) (g w : List Int → α) (n : α) :
    normStats (ordOps sqrt eps) ms (rot g) (rot w) n = normStats (ordOps sqrt eps) ms g w n := by
  unfold normStats
  rw [boxSum_ord, boxSum_ord, boxSum_ord, boxSum_ord, hr.sum_map2 (ordOps sqrt eps).mul,
    hr.sum_map2 (fun a b => (ordOps sqrt eps).mul ((ordOps sqrt eps).sq a) b)]

theorem normT_rot (ms : List Nat) (rot) (hr : RotSum (α := α) ms rot) (st : α × α) (g w : List Int → α) :
    normT (ordOps sqrt eps) st (rot g) (rot w) = rot (normT (ordOps sqrt eps) st g w) :=
  hr.map2 (normApply (ordOps sqrt eps) st) g w

theorem sqrt_one (hs : SqrtOk sqrt) : sqrt 1 = 1 := by
  rcases mul_self_eq_one_iff.mp (hs.sq 1 zero_le_one) with h | h
  · exact h
  · have h0 := hs.nonneg 1
    rw [h] at h0
    exact absurd h0 (by norm_num)

/-- **Standardising twice under a binary mask is standardising once.**  For a mask with `w² = w`, positive mass and a
template that is not constant under it, the standardised template has mean 0 and standard deviation 1 under the
mask, and standardising it again returns it unchanged. -/
theorem normT_idempotent_binary (hs : SqrtOk sqrt) (ms : List Nat) (g w : List Int → α)
    (hbin : ∀ x, w x * w x = w x)
    (hn : 0 < sumShape ms (fun k => w (natsToInts k)))
    (hvar : 0 < (Win.mk ms (fun k => w (natsToInts k)) (fun k => g (natsToInts k)) (fun k => g (natsToInts k))).B) :
    let n := sumShape ms (fun k => w (natsToInts k))
    let gh := normT (ordOps sqrt eps) (normStats (ordOps sqrt eps) ms g w n) g w
    normStats (ordOps sqrt eps) ms gh w n = (0, 1) ∧ normT (ordOps sqrt eps) (0, 1) gh w = gh := by
  intro n gh
  set W : Win α := ⟨ms, fun k => w (natsToInts k), fun k => g (natsToInts k), fun k => g (natsToInts k)⟩
  have hnn : W.n ≠ 0 := ne_of_gt hn
  have hBn : 0 < W.B / W.n := div_pos hvar hn
  have e_st : normStats (ordOps sqrt eps) ms g w n = (W.mu, sqrt (W.B / W.n)) := by
    rw [← max0_of_nonneg sqrt eps _ hBn.le]
    exact normStats_win sqrt eps ms g w _ hnn
  set σ := sqrt (W.B / W.n)
  have hσσ : σ * σ = W.B / W.n := hs.sq _ hBn.le
  have hgh : ∀ x, gh x = (g x - W.mu) / σ * w x := by
    intro x
    show normApply (ordOps sqrt eps) (normStats (ordOps sqrt eps) ms g w n) (g x) (w x) = _
    rw [e_st]
    rfl
  have hmean : sumShape ms (fun k => w (natsToInts k) * gh (natsToInts k)) = 0 := by
    have e : (fun k => w (natsToInts k) * gh (natsToInts k)) = fun k => (1 / σ) * (W.w k * (W.h k - W.mu)) := by
      funext k
      rw [hgh, mul_left_comm, hbin (natsToInts k)]
      show (g (natsToInts k) - W.mu) / σ * w (natsToInts k) = 1 / σ * (w (natsToInts k) * (g (natsToInts k) - W.mu))
      ring
    rw [e, sumShape_mul_left, W.centered_sum_zero hnn, mul_zero]
  -- `Σ w (g - μ)² = B = σ² n`
  have hsq : sumShape ms (fun k => w (natsToInts k) * (gh (natsToInts k) * gh (natsToInts k))) = W.n := by
    have e : (fun k => w (natsToInts k) * (gh (natsToInts k) * gh (natsToInts k)))
        = fun k => (1 / (σ * σ)) * (W.w k * ((W.h k - W.mu) * (W.h k - W.mu))) := by
      funext k
      rw [hgh, mul_mul_mul_comm, hbin, mul_left_comm, hbin]
      show (g (natsToInts k) - W.mu) / σ * ((g (natsToInts k) - W.mu) / σ) * w (natsToInts k)
        = 1 / (σ * σ) * (w (natsToInts k) * ((g (natsToInts k) - W.mu) * (g (natsToInts k) - W.mu)))
      ring
    rw [e, sumShape_mul_left]
    show 1 / (σ * σ) * W.B = W.n
    rw [hσσ, one_div_div, div_mul_cancel₀ _ hvar.ne']
  constructor
  · rw [normStats_ord,
      show (fun k => gh (natsToInts k) * w (natsToInts k)) = fun k => w (natsToInts k) * gh (natsToInts k) from
        funext fun _ => mul_comm _ _,
      show (fun k => gh (natsToInts k) * gh (natsToInts k) * w (natsToInts k))
        = fun k => w (natsToInts k) * (gh (natsToInts k) * gh (natsToInts k)) from funext fun _ => mul_comm _ _,
      hmean, hsq, zero_div, mul_zero, sub_zero, show W.n / n = 1 from div_self hnn, max0_of_nonneg sqrt eps 1 zero_le_one,
      sqrt_one sqrt hs]
  · funext x
    show (gh x - 0) / 1 * w x = gh x
    rw [sub_zero, div_one, hgh, mul_assoc, hbin x]

end RotStats

theorem box_weighted_cov {α : Type} [Field α] (ms : List Nat) (w a b : List Nat → α) (hD : sumShape ms w ≠ 0) :
    sumShape ms (fun k => w k * (a k * b k))
        - sumShape ms (fun k => w k * a k) * sumShape ms (fun k => w k * b k) / sumShape ms w
      = sumShape ms (fun k => w k * ((a k - sumShape ms (fun k => w k * a k) / sumShape ms w) *
          (b k - sumShape ms (fun k => w k * b k) / sumShape ms w))) := by
  have e : ∀ ab bb : α, (fun k => w k * ((a k - ab) * (b k - bb)))
      = fun k => w k * (a k * b k) + ((-bb) * (w k * a k) + ((-ab) * (w k * b k) + (ab * bb) * w k)) := by
    intro ab bb; funext k; ring
  rw [e, sumShape_add, sumShape_add, sumShape_add, sumShape_mul_left, sumShape_mul_left, sumShape_mul_left]
  generalize sumShape ms (fun k => w k * (a k * b k)) = A
  generalize sumShape ms (fun k => w k * a k) = B
  generalize sumShape ms (fun k => w k * b k) = C
  generalize sumShape ms w = D at hD ⊢
  field_simp
  ring

section bilinear
variable {α : Type} [CommRing α] (S : List Nat) (A A' B B' : List Nat → α) (c : α)

theorem sumShape_mul_add :
    sumShape S (fun k => A k * (B k + B' k)) = sumShape S (fun k => A k * B k) + sumShape S (fun k => A k * B' k) :=
  (sumShape_congr _ _ _ fun _ _ => mul_add _ _ _).trans (sumShape_add S _ _)

theorem sumShape_add_mul :
    sumShape S (fun k => (A k + A' k) * B k) = sumShape S (fun k => A k * B k) + sumShape S (fun k => A' k * B k) :=
  (sumShape_congr _ _ _ fun _ _ => add_mul _ _ _).trans (sumShape_add S _ _)

theorem sumShape_mul_smul : sumShape S (fun k => A k * (c * B k)) = c * sumShape S (fun k => A k * B k) :=
  (sumShape_congr _ _ _ fun _ _ => mul_left_comm _ _ _).trans (sumShape_mul_left S c _)

theorem sumShape_smul_mul : sumShape S (fun k => c * A k * B k) = c * sumShape S (fun k => A k * B k) :=
  (sumShape_congr _ _ _ fun _ _ => mul_assoc _ _ _).trans (sumShape_mul_left S c _)

end bilinear

end Pm.C01
