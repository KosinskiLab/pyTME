import PytmeModel.Model.C02
import PytmeModel.Model.C02Run
import PytmeModel.Props.C04
import PytmeModel.Props.C14

/-! Lemmas behind C02, in this order: the copies of C14's `split_shape` in `Model/C02` are C14's; one step of the buffer
language; rotation chunking; the job enumeration of `scan_subsets`; one axis of a padded tile and the crop mode; the box a
job reports and the cell of a voxel in it; the run of the jobs through C04's analyzer / `merge` model; a returned schedule
has `inner ≥ 1`. -/
namespace Pm.C02

/-! ## the copies of C14's `split_shape` are C14's -/

theorem splitAxis_eq_C14 (N k : Nat) : splitAxis N k = Pm.C14.splitAxis N k := rfl

theorem productL_eq_C14 {α : Type} : ∀ ls : List (List α), productL ls = Pm.C14.productL ls
  | [] => rfl
  | l :: ls => by simp only [productL, Pm.C14.productL, productL_eq_C14 ls]

theorem splitShape_eq_C14 (shape splits : List Nat) : splitShape shape splits = Pm.C14.splitShape shape splits := by
  unfold splitShape Pm.C14.splitShape
  rw [productL_eq_C14]
  rfl

theorem paddedExtent_eq_C14 (N : Nat) (sl : Nat × Nat) (p : Nat) :
    paddedExtent N sl p = (Pm.C14.tileAxis N sl.1 sl.2 p).extent := rfl

theorem targetPad_eq_C14 (tmpl : List Nat) :
    targetPad tmpl true = tmpl.map Pm.C14.targetPadding := by
  simp [targetPad, Pm.C14.targetPadding]

/-! ## the buffer language of the loop bodies -/

theorem update_input {V} {inputs : List Nat} {b : Nat} (hb : inputs.contains b = false) {t s : Nat → V} {v : V}
    (h : ∀ x, inputs.contains x = true → t x = if x = b then v else s x) : ∀ x, inputs.contains x = true → t x = s x :=
  fun x hx => (h x hx).trans (if_neg (by rintro rfl; rw [hb] at hx; cases hx))

/-! ## rotation chunking -/

theorem chunks_concat {α} (L : List α) (per : Nat) : ∀ c : Nat,
    ((List.range c).map (fun n => (L.drop (n * per)).take per)).flatten ++ L.drop (c * per) = L
  | 0 => by simp
  | c + 1 => by
    rw [List.range_succ, List.map_append, List.flatten_append, List.map_singleton, List.flatten_singleton,
      List.append_assoc, Nat.succ_mul, ← List.drop_drop, List.take_append_drop]
    exact chunks_concat L per c

theorem splitRotations_succ {α} (rots : List α) (J : Nat) :
    splitRotations rots (J + 1)
      = (List.range J).map (fun n => (rots.drop (n * (rots.length / (J + 1)))).take (rots.length / (J + 1)))
        ++ [rots.drop (J * (rots.length / (J + 1)))] := by
  unfold splitRotations
  simp only [Nat.add_sub_cancel]
  rw [List.range_succ, List.map_append, List.map_singleton, if_pos rfl]
  congr 1
  apply List.map_congr_left
  intro n hn
  rw [if_neg (Nat.ne_of_lt (List.mem_range.mp hn))]

theorem splitRotations_flatten {α} (rots : List α) (n : Nat) (h : 1 ≤ n) : (splitRotations rots n).flatten = rots := by
  obtain ⟨J, rfl⟩ : ∃ J, n = J + 1 := ⟨n - 1, by omega⟩
  rw [splitRotations_succ, List.flatten_append, List.flatten_singleton]
  exact chunks_concat rots _ J

/-! ## the job enumeration -/

theorem zipIdx_map_indep {α β : Type} (l : List α) (h : α × Nat → β) (k : α → β) (hk : ∀ x i, h (x, i) = k x) (n : Nat) :
    (l.zipIdx n).map h = l.map k := by
  conv_rhs => rw [← List.zipIdx_map_fst n l, List.map_map]
  exact List.map_congr_left (fun p _ => hk p.1 p.2)

variable {R : Type}

theorem mem_enumJobs {tgt tmpl tS mS : List Nat} {outer inner : Nat} {rots : List R} {pe : Bool} {J : Job R}
    (h : J ∈ enumJobs tgt tmpl tS mS outer inner rots pe) :
    ∃ tm ∈ splitPairs tgt tmpl tS mS, ∃ i, J = mkJob tgt tmpl outer inner rots pe tm i := by
  obtain ⟨⟨tm, i⟩, hp, rfl⟩ := List.mem_map.mp h
  have := List.mem_map_of_mem (f := Prod.fst) hp
  rw [List.zipIdx_map_fst] at this
  exact ⟨tm, this, i, rfl⟩

theorem enumJobs_of_mem (tgt tmpl tS mS : List Nat) (outer inner : Nat) (rots : List R) (pe : Bool)
    (tm : List (Nat × Nat) × List (Nat × Nat)) (h : tm ∈ splitPairs tgt tmpl tS mS) :
    ∃ i, mkJob tgt tmpl outer inner rots pe tm i ∈ enumJobs tgt tmpl tS mS outer inner rots pe := by
  rw [← List.zipIdx_map_fst 0 (splitPairs tgt tmpl tS mS)] at h
  obtain ⟨⟨_, i⟩, hi, rfl⟩ := List.mem_map.mp h
  exact ⟨i, List.mem_map.mpr ⟨_, hi, rfl⟩⟩

theorem enumJobs_length (tgt tmpl tS mS : List Nat) (outer inner : Nat) (rots : List R) (pe : Bool) :
    (enumJobs tgt tmpl tS mS outer inner rots pe).length = (splitPairs tgt tmpl tS mS).length := by
  simp only [enumJobs, List.length_map, List.length_zipIdx]

theorem splitPairs_length (tgt tmpl tS mS : List Nat) :
    (splitPairs tgt tmpl tS mS).length = (splitShape tgt tS).length * (splitShape tmpl mS).length :=
  Pm.length_flatMap_const _ _ _ (fun _ _ => List.length_map _)

theorem enumJobs_index (tgt tmpl tS mS : List Nat) (outer inner : Nat) (rots : List R) (pe : Bool) :
    (enumJobs tgt tmpl tS mS outer inner rots pe).map Job.index = List.range (splitPairs tgt tmpl tS mS).length := by
  unfold enumJobs
  rw [List.map_map]
  exact (List.zipIdx_map_snd 0 _).trans (List.range_eq_range' ).symm

theorem mem_splitPairs {tgt tmpl tS mS : List Nat} {tm : List (Nat × Nat) × List (Nat × Nat)} :
    tm ∈ splitPairs tgt tmpl tS mS ↔ tm.1 ∈ splitShape tgt tS ∧ tm.2 ∈ splitShape tmpl mS := by
  unfold splitPairs
  simp only [List.mem_flatMap, List.mem_map]
  constructor
  · rintro ⟨t, ht, m, hm, rfl⟩; exact ⟨ht, hm⟩
  · rintro ⟨h1, h2⟩; exact ⟨tm.1, h1, tm.2, h2, rfl⟩

theorem mem_splitPairs_whole {tgt tmpl tS mS : List Nat} {w : List (Nat × Nat)} (hm : splitShape tmpl mS = [w])
    {tm : List (Nat × Nat) × List (Nat × Nat)} :
    tm ∈ splitPairs tgt tmpl tS mS ↔ tm.1 ∈ splitShape tgt tS ∧ tm.2 = w := by
  rw [mem_splitPairs, hm, List.mem_singleton]

/-- the schedule-free part of a job, computed from the pair alone -/
def coreOf (tgt tmpl : List Nat) (rots : List R) (pe : Bool) (tm : List (Nat × Nat) × List (Nat × Nat)) : JobCore R :=
  (mkJob tgt tmpl 1 1 rots pe tm 0).core

theorem mkJob_core (tgt tmpl : List Nat) (outer inner : Nat) (rots : List R) (pe : Bool)
    (tm : List (Nat × Nat) × List (Nat × Nat)) (i : Nat) (hi : 1 ≤ inner) :
    (mkJob tgt tmpl outer inner rots pe tm i).core = coreOf tgt tmpl rots pe tm := by
  simp only [coreOf, Job.core, mkJob, splitRotations_flatten rots inner hi, splitRotations_flatten rots 1 (le_refl 1)]

theorem enumJobs_core {tgt tmpl tS mS : List Nat} {outer inner : Nat} {rots : List R} {pe : Bool} (hi : 1 ≤ inner) :
    (enumJobs tgt tmpl tS mS outer inner rots pe).map Job.core
      = (splitPairs tgt tmpl tS mS).map (coreOf tgt tmpl rots pe) := by
  unfold enumJobs
  rw [List.map_map]
  exact zipIdx_map_indep _ _ _ (fun tm i => mkJob_core tgt tmpl outer inner rots pe tm i hi) 0

/-! ## one axis of a padded tile; the crop mode -/

theorem paddedExtent_eq (N a b p : Nat) (h : a ≤ b) :
    paddedExtent N (a, b) p = (b - a) + 2 * ((p + p % 2) / 2) := by
  unfold paddedExtent
  generalize (p + p % 2) / 2 = left
  have hl := Nat.min_le_left a left
  have hl' := Nat.min_le_right a left
  have hr := Nat.min_le_right (N - b) left
  simp only
  generalize min a left = dl at *
  generalize min (N - b) left = dr at *
  omega

theorem two_mul_half (m : Nat) : 2 * (m / 2) = m - m % 2 := by omega

theorem margin_of_targetPadding (m : Nat) : ((m - m % 2) + (m - m % 2) % 2) / 2 = m / 2 := by
  rw [← two_mul_half, Nat.mul_mod_right, Nat.add_zero, Nat.mul_div_cancel_left _ (by decide)]

theorem paddedExtent_targetPad (N a b m : Nat) (h : a ≤ b) :
    paddedExtent N (a, b) (m - m % 2) = (b - a) + (m - m % 2) := by
  rw [paddedExtent_eq N a b _ h, margin_of_targetPadding, two_mul_half]

/-- `0 < L` is needed: for `L = 0` and odd `m` the truncated subtraction leaves the parity term -/
theorem crop_padded (L m : Nat) (hL : 0 < L) : L + (m - m % 2) - m + m % 2 = L := by omega

/-- the cropped score array of a tile has the extent of the tile's slice: "valid" crop of the tile padded for the whole
template, "same" crop of the bare slice -/
theorem outExtent_axis (N a b m : Nat) (valid : Bool) (h : a < b) :
    outExtent valid (paddedExtent N (a, b) (if valid then m - m % 2 else 0)) m = b - a := by
  cases valid
  · exact paddedExtent_eq N a b 0 (Nat.le_of_lt h)
  · simp only [outExtent, if_true]
    rw [paddedExtent_targetPad N a b m (Nat.le_of_lt h), crop_padded _ m (Nat.sub_pos_of_lt h)]

/-- `_is_padded = sum(target_pad) > 0`: edge padding was requested and some template extent is at least 2 -/
theorem targetPad_sum_pos (tmpl : List Nat) (pe : Bool) :
    0 < (targetPad tmpl pe).foldl (· + ·) 0 ↔ pe = true ∧ ∃ m ∈ tmpl, 2 ≤ m := by
  rw [Nat.pos_iff_ne_zero, Ne, ← List.sum_eq_foldl, List.sum_eq_zero_iff_forall_eq_nat]
  simp only [targetPad, List.forall_mem_map, Classical.not_forall]
  cases pe
  · simp
  · simp only [if_true, true_and, exists_prop]
    exact exists_congr fun m => and_congr_right fun _ => by omega

theorem targetPad_of_valid (tmpl : List Nat) (pe : Bool) :
    targetPad tmpl pe
      = tmpl.map (fun m => if decide (0 < (targetPad tmpl pe).foldl (· + ·) 0) = true then m - m % 2 else 0) := by
  apply List.map_congr_left
  intro m hm
  by_cases hv : 0 < (targetPad tmpl pe).foldl (· + ·) 0
  · obtain ⟨rfl, -⟩ := (targetPad_sum_pos tmpl pe).mp hv
    simp only [hv, decide_true, if_true]
  · have := mt (targetPad_sum_pos tmpl pe).mpr hv
    simp only [hv, decide_false, Bool.false_eq_true, if_false]
    cases pe
    · rfl
    · have : ¬ 2 ≤ m := fun h => this ⟨rfl, m, hm, h⟩
      simp only [if_true]; omega

/-! ## the box a job reports; the cell of a voxel -/

theorem outShape_slices (valid : Bool) (tgt : List Nat) (sl : List (Nat × Nat)) (tmpl : List Nat)
    (hb : List.Forall₂ (fun (r : Nat × Nat) (N : Nat) => r.1 < r.2 ∧ r.2 ≤ N) sl tgt) (hl : sl.length = tmpl.length) :
    List.zipWith (outExtent valid)
        (zipWith3 paddedExtent tgt sl (tmpl.map (fun m => if valid = true then m - m % 2 else 0))) tmpl
      = sl.map (fun s => s.2 - s.1) := by
  induction hb generalizing tmpl with
  | nil => cases tmpl with
    | nil => rfl
    | cons => cases hl
  | cons h _ ih => cases tmpl with
    | nil => cases hl
    | cons m tmpl =>
      simp only [List.map_cons, zipWith3, List.zipWith_cons_cons]
      rw [ih tmpl (Nat.succ.inj hl), outExtent_axis _ _ _ m valid h.1]

theorem forall₂_zip_left {α β γ : Type} (P : α → β × γ → Prop) (Q : α → β → Prop) (hPQ : ∀ a b c, P a (b, c) → Q a b) :
    ∀ (t : List α) (xs : List β) (ys : List γ), xs.length = ys.length → List.Forall₂ P t (List.zip xs ys) → List.Forall₂ Q t xs
  | _, [], [], _, .nil => .nil
  | _, x :: xs, y :: ys, hl, .cons h1 h2 => .cons (hPQ _ _ _ h1) (forall₂_zip_left P Q hPQ _ xs ys (Nat.succ.inj hl) h2)
  | _, [], _ :: _, hl, _ => by cases hl
  | _, _ :: _, [], hl, _ => by cases hl

theorem splitAxis_whole (N k : Nat) (hk : k ≤ 1) : splitAxis N k = [(0, N)] := by
  have : max k 1 = 1 := by omega
  simp only [splitAxis, this, List.range_one, List.map_cons, List.map_nil, tile, tileStart, tileLen, cdiv,
    Nat.add_sub_cancel, Nat.div_one, Nat.zero_mul, Nat.zero_min, Nat.zero_add]

theorem splitShape_in_bounds (shape splits : List Nat) (h : shape.length = splits.length) (hpos : ∀ n ∈ shape, 0 < n)
    (t : List (Nat × Nat)) (ht : t ∈ splitShape shape splits) :
    List.Forall₂ (fun (r : Nat × Nat) (N : Nat) => r.1 < r.2 ∧ r.2 ≤ N) t shape := by
  rw [splitShape_eq_C14] at ht
  have := Pm.C14.splitShape_tiles_ok shape splits h hpos t ht
  exact forall₂_zip_left _ _ (fun a b c hp => ⟨hp.1, hp.2.1⟩) t shape splits h this

theorem whole_target_slices_ok : ∀ (tgt : List Nat) (t : List (Nat × Nat)) (tmpl : List Nat),
    List.Forall₂ (fun (r : Nat × Nat) (N : Nat) => r.1 < r.2 ∧ r.2 ≤ N) t tgt →
    List.Forall₂ (fun (r : Nat × Nat) (m : Nat) => m / 2 < r.2 - r.1) t tmpl →
    List.Forall₂ (fun (r : Nat × Nat) (N : Nat) => r.1 < r.2 ∧ r.2 ≤ N) (tgt.map (fun N => (0, N))) tgt ∧
    List.Forall₂ (fun (r : Nat × Nat) (m : Nat) => m / 2 < r.2 - r.1) (tgt.map (fun N => (0, N))) tmpl
  | tgt, t, tmpl, hb, hh => by
    induction hb generalizing tmpl with
    | nil => cases hh; exact ⟨.nil, .nil⟩
    | cons h1 _ ih => cases hh with
      | cons h2 hr2 =>
        obtain ⟨a, b⟩ := ih _ hr2
        exact ⟨.cons ⟨by simp only; omega, Nat.le_refl _⟩ a, .cons (by simp only; omega) b⟩

theorem inShape_of_in_slice (t : List (Nat × Nat)) (tgt p : List Nat)
    (hb : List.Forall₂ (fun (r : Nat × Nat) (N : Nat) => r.1 < r.2 ∧ r.2 ≤ N) t tgt)
    (hp : List.Forall₂ (fun (r : Nat × Nat) (i : Nat) => r.1 ≤ i ∧ i < r.2) t p) : inShape tgt p = true := by
  induction hb generalizing p with
  | nil => cases hp; rfl
  | cons h1 _ ih => cases hp with
    | cons h2 hr2 =>
      rw [inShape_cons]
      exact ⟨Nat.lt_of_lt_of_le h2.2 h1.2, ih _ hr2⟩

/-- **Every job reports the box of its own target slice**: the offset handed to the analyzer is the slice start, and
(whole template) the score array left by `_postprocess` has the slice's extent — with edge padding ("valid" crop of the
padded tile) and without ("same" crop) alike. -/
theorem mkJob_box (tgt tmpl tS : List Nat) (outer inner : Nat) (rots : List R) (pe : Bool)
    (hl : tgt.length = tS.length) (hr : tgt.length = tmpl.length) (hpos : ∀ n ∈ tgt, 0 < n)
    (t : List (Nat × Nat)) (ht : t ∈ splitShape tgt tS) (i : Nat) :
    let J := mkJob tgt tmpl outer inner rots pe (t, tmpl.map (fun m => (0, m))) i
    J.offset = t.map Prod.fst ∧ J.outShape = t.map (fun s => s.2 - s.1) := by
  refine ⟨rfl, ?_⟩
  have hb := splitShape_in_bounds tgt tS hl hpos t ht
  have e : (tmpl.map fun m => ((0, m) : Nat × Nat)).map (fun s => s.2 - s.1) = tmpl := by
    rw [List.map_map]; exact List.map_id' _
  simp only [mkJob, e]
  generalize hv : decide (0 < (targetPad tmpl pe).foldl (· + ·) 0) = valid
  rw [targetPad_of_valid tmpl pe, hv]
  exact outShape_slices valid tgt t tmpl hb ((List.Forall₂.length_eq hb).trans hr)

open Pm.C04 in
theorem localIdx_add {off sh p q : List Nat} (h : localIdx off sh p = some q) : List.zipWith (· + ·) off q = p := by
  fun_induction localIdx off sh p generalizing q with
  | case1 => cases h; rfl
  | case2 o os s ss x xs hc ih =>
    obtain ⟨q', hq', rfl⟩ := Option.map_eq_some_iff.mp h
    rw [List.zipWith_cons_cons, ih hq', Nat.add_sub_cancel' hc.1]
  | case3 => cases h
  | case4 => cases h

open Pm.C04 in
theorem localIdx_of_in_slice (t : List (Nat × Nat)) (p : List Nat)
    (h : List.Forall₂ (fun (r : Nat × Nat) (i : Nat) => r.1 ≤ i ∧ i < r.2) t p) :
    ∃ q, localIdx (t.map Prod.fst) (t.map (fun s => s.2 - s.1)) p = some q := by
  induction h with
  | nil => exact ⟨[], rfl⟩
  | cons h _ ih =>
    obtain ⟨q, hq⟩ := ih
    have := h.2
    exact ⟨_ :: q, by simp only [List.map_cons, localIdx, hq, Option.map_some]; rw [if_pos ⟨h.1, by omega⟩]⟩

open Pm.C04 in
/-- C14's covering: every voxel of the target has a cell in the box of some tile of `split_shape` -/
theorem exists_tile_cell (tgt tS p : List Nat) (hl : tgt.length = tS.length) (hp : inShape tgt p = true) :
    ∃ t ∈ splitShape tgt tS, ∃ q, localIdx (t.map Prod.fst) (t.map (fun s => s.2 - s.1)) p = some q := by
  obtain ⟨t, ht, hcov⟩ := Pm.C14.splitShape_covers tgt tS p hl hp
  exact ⟨t, by rw [splitShape_eq_C14]; exact ht, localIdx_of_in_slice t p hcov⟩

open Pm.C04 in
theorem in_slice_of_localIdx {t : List (Nat × Nat)} {tgt : List Nat}
    (hb : List.Forall₂ (fun (r : Nat × Nat) (N : Nat) => r.1 < r.2 ∧ r.2 ≤ N) t tgt) (p q : List Nat)
    (h : localIdx (t.map Prod.fst) (t.map (fun s => s.2 - s.1)) p = some q) :
    List.Forall₂ (fun (r : Nat × Nat) (i : Nat) => r.1 ≤ i ∧ i < r.2) t p := by
  induction hb generalizing p q with
  | nil => cases p with
    | nil => exact .nil
    | cons => cases h
  | cons hs _ ih => cases p with
    | nil => cases h
    | cons i p =>
      rw [List.map_cons, List.map_cons, localIdx] at h
      split at h
      · rename_i hc
        obtain ⟨q', hq', -⟩ := Option.map_eq_some_iff.mp h
        have := hs.1
        exact .cons ⟨hc.1, by omega⟩ (ih p q' hq')
      · cases h

/-! ## the run of the jobs through C04's `merge` -/

section run
open Pm.C04
variable {K : Type} [DecidableEq K]

/-- everything the rotations of a job submit at the absolute voxel `p` -/
def coreVals (score : ScoreFn R K) (p : List Nat) (c : JobCore R) : List Int :=
  tileVals (⟨c.offset, c.outShape, c.rots.map (score c.targetSlice c.templateSlice)⟩ : Tile K) p

theorem merge_dims {thr : Int} {d : Nat} {ss : List (Store K)} (hd : SameDim d ss) {M : Store K}
    (hM : merge thr ss = some M) : M.offset.length = d ∧ M.scores.shape.length = d := by
  match ss, hd, hM with
  | [], _, hM => simp [merge] at hM
  | [s], hd, hM => simp [merge] at hM; subst hM; exact hd _ (List.mem_singleton.mpr rfl)
  | s1 :: s2 :: rest, hd, hM =>
    simp only [merge, Option.some.injEq] at hM
    subst hM
    have hl := outShape_length hd (by simp)
    have hs := mergeFold_shape (outShape (s1 :: s2 :: rest)) (newTable (s1 :: s2 :: rest)) (s1 :: s2 :: rest)
      (Arr.ofFn (outShape (s1 :: s2 :: rest)) (fun _ => thr), Arr.ofFn (outShape (s1 :: s2 :: rest)) (fun _ => -1)) rfl rfl
    refine ⟨by simp [mergeMany, hl], ?_⟩
    simp only [mergeMany]
    rw [hs.1, hl]

theorem merge_map_none {α : Type} {thr : Int} (l : List α) (f : α → Store K) (h : merge thr (l.map f) = none) : l = [] := by
  match l, h with
  | [], _ => rfl
  | [_], h => simp [merge] at h
  | _ :: _ :: _, h => simp [merge] at h

omit [DecidableEq K] in
theorem allVals_flatMap {α : Type} (l : List α) (f : α → List (Tile K)) (p : List Nat) :
    allVals (l.flatMap f) p = l.flatMap (fun x => allVals (f x) p) :=
  List.flatMap_assoc

omit [DecidableEq K] in
theorem allVals_chunk_tiles {α : Type} (off shape : List Nat) (f : α → Arr Int × K) (chunks : List (List α)) (p : List Nat) :
    allVals (chunks.map (fun c => (⟨off, shape, c.map f⟩ : Tile K))) p
      = tileVals (⟨off, shape, chunks.flatten.map f⟩ : Tile K) p := by
  simp only [allVals, tileVals, List.flatMap_map]
  cases localIdx off shape p with
  | none => simp
  | some q => simp [valsAt, List.flatMap_def, List.map_flatten]

omit [DecidableEq K] in
theorem allVals_jobTiles (score : ScoreFn R K) (J : Job R) (p : List Nat) :
    allVals (jobTiles score J) p = coreVals score p J.core :=
  allVals_chunk_tiles J.offset J.outShape (score J.targetSlice J.templateSlice) J.chunks p

omit [DecidableEq K] in
theorem mem_tileVals (t : Tile K) (p : List Nat) (x : Int) :
    x ∈ tileVals t p ↔ ∃ q, localIdx t.offset t.shape p = some q ∧ ∃ ak ∈ t.hist, ak.1.getD q 0 = x := by
  unfold tileVals
  cases localIdx t.offset t.shape p with
  | none => exact ⟨fun h => (nomatch h), fun ⟨_, h, _⟩ => (nomatch h)⟩
  | some q => simp only [valsAt, List.mem_map, Option.some.injEq, exists_eq_left']

omit [DecidableEq K] in
theorem mem_coreVals_coreOf (score : ScoreFn R K) (tgt tmpl : List Nat) (rots : List R) (pe : Bool)
    (tm : List (Nat × Nat) × List (Nat × Nat)) (p : List Nat) (x : Int) :
    x ∈ coreVals score p (coreOf tgt tmpl rots pe tm) ↔
      ∃ q, localIdx (tm.1.map Prod.fst) (coreOf tgt tmpl rots pe tm).outShape p = some q ∧
        ∃ r ∈ rots, (score tm.1 tm.2 r).1.getD q 0 = x := by
  rw [coreVals, mem_tileVals]
  show (∃ q, _ ∧ ∃ ak ∈ List.map _ (splitRotations rots 1).flatten, _) ↔ _
  rw [splitRotations_flatten rots 1 (le_refl 1)]
  simp only [List.mem_map, exists_exists_and_eq_and]
  rfl

omit [DecidableEq K] in
theorem mem_coreVals_whole (score : ScoreFn R K) (tgt tmpl tS : List Nat) (rots : List R) (pe : Bool)
    (hl : tgt.length = tS.length) (hr : tgt.length = tmpl.length) (hpos : ∀ n ∈ tgt, 0 < n)
    (t : List (Nat × Nat)) (ht : t ∈ splitShape tgt tS) (p : List Nat) (x : Int) :
    x ∈ coreVals score p (coreOf tgt tmpl rots pe (t, tmpl.map (fun m => (0, m)))) ↔
      ∃ q, localIdx (t.map Prod.fst) (t.map (fun s => s.2 - s.1)) p = some q ∧
        ∃ r ∈ rots, (score t (tmpl.map (fun m => (0, m))) r).1.getD q 0 = x := by
  rw [mem_coreVals_coreOf, show (coreOf tgt tmpl rots pe (t, tmpl.map (fun m => (0, m)))).outShape = _ from
    (mkJob_box tgt tmpl tS 1 1 rots pe hl hr hpos t ht 0).2]

theorem scanJob_tiles_flatten (thr : Int) (score : ScoreFn R K) (jobs : List (Job R)) :
    ((jobs.filterMap (fun J => (scanJob thr score J).map (fun S => (S, jobTiles score J)))).map Prod.snd).flatten
      = jobs.flatMap (jobTiles score) := by
  induction jobs with
  | nil => rfl
  | cons J js ih =>
    simp only [List.filterMap_cons, List.flatMap_cons]
    cases hs : scanJob thr score J with
    | none =>
      have : jobTiles score J = [] := merge_map_none _ _ hs
      simpa [this] using ih
    | some S => simpa using ih

/-- **what `scan_subsets` returns represents every (job, chunk, rotation) submission** — whatever the schedule -/
theorem scanSubsetsRun_represents {thr : Int} {d : Nat} (score : ScoreFn R K) (jobs : List (Job R))
    (hd : ∀ J ∈ jobs, J.offset.length = d ∧ J.outShape.length = d)
    {M : Store K} (hM : scanSubsetsRun thr score jobs = some M) :
    Represents thr M (jobs.flatMap (jobTiles score)) := by
  let pairs : List (Store K × List (Tile K)) :=
    jobs.filterMap (fun J => (scanJob thr score J).map (fun S => (S, jobTiles score J)))
  have tdims : ∀ J ∈ jobs, ∀ t ∈ jobTiles score J, t.offset.length = d ∧ t.shape.length = d := by
    intro J hJ t ht
    obtain ⟨c, _, rfl⟩ := List.mem_map.mp ht
    exact hd J hJ
  have hpairs : ∀ pr ∈ pairs, ∃ J ∈ jobs, scanJob thr score J = some pr.1 ∧ pr.2 = jobTiles score J := by
    intro pr hpr
    obtain ⟨J, hJ, h⟩ := List.mem_filterMap.mp hpr
    obtain ⟨S, hs, rfl⟩ := Option.map_eq_some_iff.mp h
    exact ⟨J, hJ, hs, rfl⟩
  have hrep : ∀ pr ∈ pairs, Represents thr pr.1 pr.2 := by
    intro pr hpr
    obtain ⟨J, hJ, hs, h2⟩ := hpairs pr hpr
    rw [h2]
    exact merge_tiles_represents (d := d) _ (tdims J hJ) hs
  have hsd : SameDim d (pairs.map Prod.fst) := by
    intro S hS
    obtain ⟨pr, hpr, rfl⟩ := List.mem_map.mp hS
    obtain ⟨J, hJ, hs, _⟩ := hpairs pr hpr
    refine merge_dims (d := d) ?_ hs
    intro T hT
    obtain ⟨t, ht, rfl⟩ := List.mem_map.mp hT
    simp only [tileStore, State.toStore, run_shape]
    exact tdims J hJ t ht
  have hps : (jobs.map (scanJob thr score)).filterMap id = pairs.map Prod.fst := by
    simp [pairs, List.filterMap_map, List.map_filterMap, Function.comp_def]
  have hall := mergeOpt_represents pairs hrep hsd _ hps hM
  rwa [scanJob_tiles_flatten thr score jobs] at hall

/-- the value `scan_subsets` returns at an absolute voxel: the largest of the threshold and everything any job's
rotations submitted there -/
theorem scanSubsetsRun_value {thr : Int} {d : Nat} (score : ScoreFn R K) (jobs : List (Job R))
    (hd : ∀ J ∈ jobs, J.offset.length = d ∧ J.outShape.length = d)
    {M : Store K} (hM : scanSubsetsRun thr score jobs = some M) (p : List Nat) :
    M.valOr thr p = specMax thr ((jobs.map Job.core).flatMap (coreVals score p)) := by
  rw [represents_valOr (scanSubsetsRun_represents score jobs hd hM) p, allVals_flatMap, List.flatMap_map]
  congr 1
  apply List.flatMap_congr
  intro J _
  exact allVals_jobTiles score J p

theorem zipWith3_length {α β γ δ : Type} (f : α → β → γ → δ) : ∀ (a : List α) (b : List β) (c : List γ),
    b.length = a.length → c.length = a.length → (zipWith3 f a b c).length = a.length
  | [], _, _, _, _ => rfl
  | _ :: as, _ :: bs, _ :: cs, hb, hc =>
    congrArg Nat.succ (zipWith3_length f as bs cs (Nat.succ.inj hb) (Nat.succ.inj hc))
  | _ :: _, [], _, hb, _ => by cases hb
  | _ :: _, _ :: _, [], _, hc => by cases hc

theorem mem_splitShape_length (shape splits : List Nat) (h : shape.length = splits.length) (t : List (Nat × Nat))
    (ht : t ∈ splitShape shape splits) : t.length = shape.length := by
  rw [splitShape_eq_C14] at ht
  unfold Pm.C14.splitShape at ht
  rw [Pm.C14.mem_productL] at ht
  rw [List.Forall₂.length_eq ht]
  simp [h]

omit [DecidableEq K] in
theorem mkJob_dims (tgt tmpl : List Nat) (outer inner : Nat) (rots : List R) (pe : Bool)
    (tm : List (Nat × Nat) × List (Nat × Nat)) (i : Nat) (h2 : tmpl.length = tgt.length)
    (h3 : tm.1.length = tgt.length) (h4 : tm.2.length = tgt.length) :
    (mkJob tgt tmpl outer inner rots pe tm i).offset.length = tgt.length ∧
      (mkJob tgt tmpl outer inner rots pe tm i).outShape.length = tgt.length := by
  refine ⟨(List.length_map _).trans h3, ?_⟩
  simp only [mkJob, List.length_zipWith, List.length_map, h4]
  rw [zipWith3_length paddedExtent tgt tm.1 (targetPad tmpl pe) h3 ((List.length_map _).trans h2), Nat.min_self]

omit [DecidableEq K] in
theorem enumJobs_dims (tgt tmpl tS mS : List Nat) (outer inner : Nat) (rots : List R) (pe : Bool)
    (h1 : tgt.length = tS.length) (h2 : tmpl.length = mS.length) (h3 : tgt.length = tmpl.length) :
    ∀ J ∈ enumJobs tgt tmpl tS mS outer inner rots pe, J.offset.length = tgt.length ∧ J.outShape.length = tgt.length := by
  intro J hJ
  obtain ⟨tm, htm, i, rfl⟩ := mem_enumJobs hJ
  obtain ⟨ht, hm⟩ := mem_splitPairs.mp htm
  exact mkJob_dims tgt tmpl outer inner rots pe tm i h3.symm
    (mem_splitShape_length tgt tS h1 _ ht) (by rw [mem_splitShape_length tmpl mS h2 _ hm, h3])

end run

/-! ## schedules -/

/-- a returned schedule uses all cores, `outer · inner = max_cores` (C14 `schedule_sound`), so `inner ≥ 1` -/
theorem schedule_inner_pos {P : Pm.C14.Problem} {fa fi : Nat} {c : Pm.C14.Cand}
    (hc : Pm.C14.schedule P fa fi = some c) (hP : 0 < P.maxCores) : 1 ≤ c.inner :=
  Nat.pos_of_ne_zero fun h => by
    have := (Pm.C14.schedule_sound P fa fi c hc).1
    rw [h] at this
    omega

end Pm.C02
