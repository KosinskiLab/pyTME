import PytmeModel.Model.C04
import PytmeModel.Proofs.Common

/-! Helper lemmas for C04: running maximum, the rotation table, one submission, boxes. -/
namespace Pm.C04
set_option linter.unusedSectionVars false

theorem specMax_nil (thr : Int) : specMax thr [] = thr := rfl
theorem specMax_cons (thr x : Int) (l : List Int) : specMax thr (x :: l) = specMax (max thr x) l := rfl

theorem specMax_append (thr : Int) (l₁ l₂ : List Int) :
    specMax thr (l₁ ++ l₂) = specMax (specMax thr l₁) l₂ :=
  List.foldl_append

theorem le_specMax (thr : Int) (l : List Int) : thr ≤ specMax thr l :=
  (foldl_max_ge l thr).1

theorem mem_le_specMax {thr x : Int} {l : List Int} (h : x ∈ l) : x ≤ specMax thr l :=
  (foldl_max_ge l thr).2 x h

theorem specMax_eq_or_mem (thr : Int) (l : List Int) : specMax thr l = thr ∨ specMax thr l ∈ l := by
  induction l generalizing thr with
  | nil => exact Or.inl rfl
  | cons x l ih =>
    rw [specMax_cons]
    rcases ih (max thr x) with h | h
    · rw [h]
      rcases Int.le_total thr x with hx | hx
      · rw [Int.max_eq_right hx]; exact Or.inr List.mem_cons_self
      · exact Or.inl (Int.max_eq_left hx)
    · exact Or.inr (List.mem_cons_of_mem _ h)

theorem specMax_le_iff {thr m : Int} {l : List Int} : specMax thr l ≤ m ↔ thr ≤ m ∧ ∀ x ∈ l, x ≤ m :=
  ⟨fun h => ⟨Int.le_trans (le_specMax thr l) h, fun _ hx => Int.le_trans (mem_le_specMax hx) h⟩,
   fun h => (specMax_eq_or_mem thr l).elim (fun e => by rw [e]; exact h.1) (h.2 _)⟩

theorem specMax_congr_mem {thr : Int} {l₁ l₂ : List Int} (h : ∀ x, x ∈ l₁ ↔ x ∈ l₂) :
    specMax thr l₁ = specMax thr l₂ :=
  Int.le_antisymm (specMax_le_iff.mpr ⟨le_specMax _ _, fun x hx => mem_le_specMax ((h x).mp hx)⟩)
    (specMax_le_iff.mpr ⟨le_specMax _ _, fun x hx => mem_le_specMax ((h x).mpr hx)⟩)

theorem specMax_perm {thr : Int} {l₁ l₂ : List Int} (h : l₁.Perm l₂) : specMax thr l₁ = specMax thr l₂ :=
  specMax_congr_mem fun _ => h.mem_iff

theorem max_specMax {thr v : Int} (l : List Int) (h : thr ≤ v) : max v (specMax thr l) = specMax v l :=
  Int.le_antisymm
    (Int.max_le.mpr ⟨le_specMax v l,
      specMax_le_iff.mpr ⟨Int.le_trans h (le_specMax v l), fun _ hx => mem_le_specMax hx⟩⟩)
    (specMax_le_iff.mpr ⟨Int.le_max_left _ _,
      fun _ hx => Int.le_trans (mem_le_specMax hx) (Int.le_max_right _ _)⟩)

theorem specMax_eq_thr_iff (thr : Int) (l : List Int) : specMax thr l = thr ↔ ∀ x ∈ l, x ≤ thr :=
  ⟨fun h _ hx => h ▸ mem_le_specMax hx,
   fun h => Int.le_antisymm (specMax_le_iff.mpr ⟨Int.le_refl _, h⟩) (le_specMax thr l)⟩

theorem marker_iff {thr v r : Int} {l : List Int} (hv : v = specMax thr l)
    (h : (r = -1 ∧ v = thr) ∨ ∃ i : Nat, r = (i : Int) ∧ thr < v) : r = -1 ↔ ∀ x ∈ l, x ≤ thr := by
  rw [← specMax_eq_thr_iff, ← hv]
  rcases h with ⟨h1, h2⟩ | ⟨i, hr, ht⟩
  · exact ⟨fun _ => h2, fun _ => h1⟩
  · exact ⟨fun e => by omega, fun e => by omega⟩

section table
variable {K : Type} [DecidableEq K]

/-- identifiers are `0 … n-1` in insertion order and keys are pairwise different -/
def TableOK (t : Table K) : Prop := t.map Prod.snd = List.range t.length ∧ (t.map Prod.fst).Nodup

theorem lookup_cons (k k' : K) (i : Nat) (t : Table K) :
    lookup k ((k', i) :: t) = if k' = k then some i else lookup k t := rfl

theorem lookup_eq_none_iff (k : K) (t : Table K) : lookup k t = none ↔ k ∉ t.map Prod.fst := by
  induction t with
  | nil => exact ⟨fun _ h => (nomatch h), fun _ => rfl⟩
  | cons kv t ih =>
    obtain ⟨k', i⟩ := kv
    rw [lookup_cons, List.map_cons, List.mem_cons, not_or, ← ih]
    by_cases h : k' = k
    · rw [if_pos h]; exact ⟨fun e => (nomatch e), fun e => absurd h.symm e.1⟩
    · rw [if_neg h]; exact ⟨fun e => ⟨fun e' => h e'.symm, e⟩, fun e => e.2⟩

theorem lookup_isSome_iff (k : K) (t : Table K) : (lookup k t).isSome ↔ k ∈ t.map Prod.fst := by
  rw [← Option.ne_none_iff_isSome, Ne, lookup_eq_none_iff, Decidable.not_not]

theorem lookup_some_mem {k : K} {t : Table K} {i : Nat} (h : lookup k t = some i) : (k, i) ∈ t := by
  induction t with
  | nil => cases h
  | cons kv t ih =>
    obtain ⟨k', j⟩ := kv
    rw [lookup_cons] at h
    by_cases hk : k' = k
    · rw [if_pos hk] at h; cases h; subst hk; exact List.mem_cons_self
    · rw [if_neg hk] at h; exact List.mem_cons_of_mem _ (ih h)

theorem lookup_append (k : K) (t u : Table K) :
    lookup k (t ++ u) = match lookup k t with | some i => some i | none => lookup k u := by
  induction t with
  | nil => rfl
  | cons kv t ih =>
    obtain ⟨k', j⟩ := kv
    rw [List.cons_append, lookup_cons, lookup_cons]
    by_cases hk : k' = k
    · rw [if_pos hk, if_pos hk]
    · rw [if_neg hk, if_neg hk, ih]

theorem mem_lookup_of_nodup {k : K} {i : Nat} {t : Table K} (hn : (t.map Prod.fst).Nodup) (h : (k, i) ∈ t) :
    lookup k t = some i := by
  induction t with
  | nil => cases h
  | cons kv t ih =>
    obtain ⟨k', j⟩ := kv
    rw [List.map_cons, List.nodup_cons] at hn
    rw [lookup_cons]
    rcases List.mem_cons.mp h with e | h'
    · cases e; exact if_pos rfl
    · have hne : ¬ k' = k := fun e => hn.1 (List.mem_map.mpr ⟨(k, i), h', e.symm⟩)
      rw [if_neg hne]; exact ih hn.2 h'

theorem fst_eq_of_nodup_snd {α β : Type} {t : List (α × β)} {a a' : α} {b : β}
    (hs : (t.map Prod.snd).Nodup) (m : (a, b) ∈ t) (m' : (a', b) ∈ t) : a = a' := by
  induction t with
  | nil => cases m
  | cons x t ih =>
    rw [List.map_cons, List.nodup_cons] at hs
    rcases List.mem_cons.mp m with e | m1 <;> rcases List.mem_cons.mp m' with e' | m1'
    · exact (Prod.mk.inj (e.trans e'.symm)).1
    · exact absurd (List.mem_map.mpr ⟨(a', b), m1', e ▸ rfl⟩) hs.1
    · exact absurd (List.mem_map.mpr ⟨(a, b), m1, e' ▸ rfl⟩) hs.1
    · exact ih hs.2 m1 m1'

theorem TableOK.snd_nodup {t : Table K} (ok : TableOK t) : (t.map Prod.snd).Nodup := by
  rw [ok.1]; exact List.nodup_range

theorem TableOK.snd_lt {t : Table K} (ok : TableOK t) {k : K} {i : Nat} (h : (k, i) ∈ t) : i < t.length :=
  List.mem_range.mp (ok.1 ▸ List.mem_map.mpr ⟨(k, i), h, rfl⟩)

theorem TableOK.lookup_lt {t : Table K} (ok : TableOK t) {k : K} {i : Nat} (h : lookup k t = some i) : i < t.length :=
  ok.snd_lt (lookup_some_mem h)

/-- different keys never share an identifier -/
theorem TableOK.injective {t : Table K} (ok : TableOK t) {k k' : K} {i : Nat}
    (h : lookup k t = some i) (h' : lookup k' t = some i) : k = k' :=
  fst_eq_of_nodup_snd ok.snd_nodup (lookup_some_mem h) (lookup_some_mem h')

theorem tableOK_nil : TableOK ([] : Table K) := ⟨rfl, List.nodup_nil⟩

theorem tableOK_snoc {t : Table K} (ok : TableOK t) {k : K} (h : lookup k t = none) :
    TableOK (t ++ [(k, t.length)]) := by
  constructor
  · simp [ok.1, List.range_succ]
  · rw [List.map_append, List.nodup_append]
    refine ⟨ok.2, by simp, ?_⟩
    intro a ha b hb
    simp at hb; subst hb
    intro e; subst e
    exact (lookup_eq_none_iff _ _).mp h ha

theorem setdefault_of_some {t : Table K} {k : K} {i : Nat} (h : lookup k t = some i) : setdefault t k = (t, i) := by
  rw [setdefault, h]

theorem setdefault_of_none {t : Table K} {k : K} (h : lookup k t = none) :
    setdefault t k = (t ++ [(k, t.length)], t.length) := by
  rw [setdefault, h]

theorem setdefault_spec (t : Table K) (k : K) :
    lookup k (setdefault t k).1 = some (setdefault t k).2 ∧
    (∀ k' i, lookup k' t = some i → lookup k' (setdefault t k).1 = some i) ∧
    (∀ k', (lookup k' (setdefault t k).1).isSome ↔ ((lookup k' t).isSome ∨ k' = k)) := by
  cases h : lookup k t with
  | some i =>
    rw [setdefault_of_some h]
    exact ⟨h, fun _ _ h' => h', fun k' => ⟨Or.inl, fun hh => hh.elim id (fun e => by rw [e, h]; rfl)⟩⟩
  | none =>
    rw [setdefault_of_none h]
    refine ⟨?_, ?_, ?_⟩
    · rw [lookup_append, h]; exact if_pos rfl
    · intro k' i h'; rw [lookup_append, h']
    · intro k'
      rw [lookup_isSome_iff, lookup_isSome_iff, List.map_append, List.mem_append, List.map_singleton,
        List.mem_singleton]

theorem setdefault_ok {t : Table K} (ok : TableOK t) (k : K) : TableOK (setdefault t k).1 := by
  cases h : lookup k t with
  | some i => rw [setdefault_of_some h]; exact ok
  | none => rw [setdefault_of_none h]; exact tableOK_snoc ok h

theorem setdefault_extends (t : Table K) (k : K) : ∃ l, (setdefault t k).1 = t ++ l := by
  cases h : lookup k t with
  | some i => rw [setdefault_of_some h]; exact ⟨[], (List.append_nil t).symm⟩
  | none => rw [setdefault_of_none h]; exact ⟨_, rfl⟩

theorem setdefault_length_le (t : Table K) (k : K) : t.length ≤ (setdefault t k).1.length := by
  obtain ⟨l, hl⟩ := setdefault_extends t k
  rw [hl, List.length_append]; exact Nat.le_add_right _ _

end table

theorem ite_gt_eq_max (a b : Int) : (if a > b then a else b) = max b a := by
  split <;> omega

theorem maxUpdate_fst_eq (sc mx rt : Arr Int) (ri : Int) :
    (maxUpdate sc mx rt ri).1 = Arr.ofFn mx.shape (fun idx => max (mx.getD idx 0) (sc.getD idx 0)) := by
  unfold maxUpdate
  exact Arr.ofFn_congr mx.shape _ _ fun idx _ => ite_gt_eq_max (sc.getD idx 0) (mx.getD idx 0)

theorem maxUpdate_snd_eq (sc mx rt : Arr Int) (ri : Int) :
    (maxUpdate sc mx rt ri).2 =
      Arr.ofFn mx.shape (fun idx => if sc.getD idx 0 > mx.getD idx 0 then ri else rt.getD idx 0) := rfl

theorem maxUpdate_fst_getD (sc mx rt : Arr Int) (ri : Int) (idx : List Nat) (h : inShape mx.shape idx = true) :
    (maxUpdate sc mx rt ri).1.getD idx 0 = max (mx.getD idx 0) (sc.getD idx 0) :=
  (Arr.getD_ofFn mx.shape idx _ 0 h).trans (ite_gt_eq_max _ _)

theorem maxUpdate_snd_getD (sc mx rt : Arr Int) (ri : Int) (idx : List Nat) (h : inShape mx.shape idx = true) :
    (maxUpdate sc mx rt ri).2.getD idx 0 = if sc.getD idx 0 > mx.getD idx 0 then ri else rt.getD idx 0 :=
  Arr.getD_ofFn mx.shape idx _ 0 h

theorem maxUpdate_fst_comm (a b mx rt₁ rt₂ rt₃ rt₄ : Arr Int) (r₁ r₂ r₃ r₄ : Int) :
    (maxUpdate b (maxUpdate a mx rt₁ r₁).1 rt₂ r₂).1 = (maxUpdate a (maxUpdate b mx rt₃ r₃).1 rt₄ r₄).1 := by
  rw [maxUpdate_fst_eq b (maxUpdate a mx rt₁ r₁).1 rt₂ r₂, maxUpdate_fst_eq a (maxUpdate b mx rt₃ r₃).1 rt₄ r₄]
  refine Arr.ofFn_congr mx.shape _ _ fun idx h => ?_
  show max ((maxUpdate a mx rt₁ r₁).1.getD idx 0) (b.getD idx 0) = max ((maxUpdate b mx rt₃ r₃).1.getD idx 0) (a.getD idx 0)
  rw [maxUpdate_fst_getD a mx rt₁ r₁ idx h, maxUpdate_fst_getD b mx rt₃ r₃ idx h, Int.max_assoc,
    Int.max_comm (a.getD idx 0), ← Int.max_assoc]

theorem maxUpdate_idem (a mx rt : Arr Int) (ri : Int) :
    maxUpdate a (maxUpdate a mx rt ri).1 (maxUpdate a mx rt ri).2 ri = maxUpdate a mx rt ri := by
  refine Prod.ext ?_ ?_
  · rw [maxUpdate_fst_eq a (maxUpdate a mx rt ri).1, maxUpdate_fst_eq a mx rt ri]
    refine Arr.ofFn_congr mx.shape _ _ fun idx h => ?_
    show max ((Arr.ofFn mx.shape _).getD idx 0) (a.getD idx 0) = _
    rw [Arr.getD_ofFn _ _ _ _ h, Int.max_eq_left (Int.le_max_right _ _)]
  · rw [maxUpdate_snd_eq a (maxUpdate a mx rt ri).1, maxUpdate_snd_eq a mx rt ri]
    refine Arr.ofFn_congr mx.shape _ _ fun idx h => ?_
    show (if a.getD idx 0 > (maxUpdate a mx rt ri).1.getD idx 0 then ri else (Arr.ofFn mx.shape _).getD idx 0) = _
    rw [if_neg (by rw [maxUpdate_fst_getD _ _ _ _ _ h]; exact Int.not_lt.mpr (Int.le_max_right _ _)),
      Arr.getD_ofFn _ _ _ _ h]

section submit
variable {K : Type} [DecidableEq K]

theorem submit_shape (s : State K) (a : Arr Int) (k : K) : (submit s a k).scores.shape = s.scores.shape := rfl

theorem submit_table (s : State K) (a : Arr Int) (k : K) : (submit s a k).table = (setdefault s.table k).1 := rfl

theorem submit_scores_getD (s : State K) (a : Arr Int) (k : K) (idx : List Nat)
    (h : inShape s.scores.shape idx = true) :
    (submit s a k).scores.getD idx 0 = max (s.scores.getD idx 0) (a.getD idx 0) :=
  maxUpdate_fst_getD a s.scores s.rots (setdefault s.table k).2 idx h

theorem submit_rots_getD (s : State K) (a : Arr Int) (k : K) (idx : List Nat)
    (h : inShape s.scores.shape idx = true) :
    (submit s a k).rots.getD idx 0 =
      if a.getD idx 0 > s.scores.getD idx 0 then ((setdefault s.table k).2 : Int) else s.rots.getD idx 0 :=
  maxUpdate_snd_getD a s.scores s.rots (setdefault s.table k).2 idx h

theorem run_snoc (shape : List Nat) (thr : Int) (h : List (Arr Int × K)) (a : Arr Int) (k : K) :
    run shape thr (h ++ [(a, k)]) = submit (run shape thr h) a k := by
  rw [run, runFrom, List.foldl_append]; rfl

theorem valsAt_append (h h' : List (Arr Int × K)) (idx : List Nat) :
    valsAt (h ++ h') idx = valsAt h idx ++ valsAt h' idx :=
  List.map_append

theorem valsAt_snoc (h : List (Arr Int × K)) (a : Arr Int) (k : K) (idx : List Nat) :
    valsAt (h ++ [(a, k)]) idx = valsAt h idx ++ [a.getD idx 0] :=
  valsAt_append h _ idx

end submit

theorem localIdx_cons (o s x : Nat) (os ss xs : List Nat) :
    localIdx (o :: os) (s :: ss) (x :: xs) =
      if o ≤ x ∧ x < o + s then (localIdx os ss xs).map (fun q => (x - o) :: q) else none := by
  rw [localIdx]

theorem localIdx_inShape {off sh p q : List Nat} (h : localIdx off sh p = some q) : inShape sh q = true := by
  fun_induction localIdx off sh p generalizing q with
  | case1 => cases h; rfl
  | case2 o os s ss x xs hx ih =>
    cases h' : localIdx os ss xs with
    | none => rw [h'] at h; cases h
    | some q' => rw [h'] at h; cases h; exact inShape_cons.mpr ⟨by omega, ih h'⟩
  | case3 => cases h
  | case4 => cases h

theorem localIdx_zero (sh p : List Nat) :
    localIdx (List.replicate sh.length 0) sh p = if inShape sh p = true then some p else none := by
  induction sh generalizing p with
  | nil => cases p <;> rfl
  | cons s ss ih =>
    cases p with
    | nil => rfl
    | cons x xs =>
      rw [List.length_cons, List.replicate_succ, localIdx_cons, ih xs]
      by_cases hx : x < s
      · rw [if_pos ⟨Nat.zero_le _, by omega⟩]
        by_cases hi : inShape ss xs = true
        · rw [if_pos hi, if_pos (inShape_cons.mpr ⟨hx, hi⟩)]; rfl
        · rw [if_neg hi, if_neg (fun h => hi (inShape_cons.mp h).2)]; rfl
      · rw [if_neg (fun h => hx (by omega)), if_neg (fun h => hx (inShape_cons.mp h).1)]

end Pm.C04
