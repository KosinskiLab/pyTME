import PytmeModel.Proofs.C04Rep

/-! C04: the path without a lock, `only_unique_rotations`, rotation keys as matrix bytes, results behind memory
maps, `MemmapHandler`. -/
namespace Pm.C04
set_option linter.unusedSectionVars false
variable {K : Type} [DecidableEq K]

theorem submitNoLock_eq (s : State K) (a : Arr Int) (k : K) : submitNoLock s a k = submit s a k := by
  unfold submitNoLock submit setdefault
  cases h : lookup k s.table <;> simp

theorem runNoLock_eq (shape : List Nat) (thr : Int) (h : List (Arr Int × K)) :
    runNoLock shape thr h = run shape thr h := by
  unfold runNoLock run runFrom
  congr 1
  funext s ak
  exact submitNoLock_eq s ak.1 ak.2

theorem dictSet_notin {A B : Type} [DecidableEq A] (d : List (A × B)) (k : A) (v : B)
    (h : k ∉ d.map Prod.fst) : dictSet d k v = d ++ [(k, v)] := by
  induction d with
  | nil => rfl
  | cons kv t ih =>
    rw [List.map_cons, List.mem_cons, not_or] at h
    rw [dictSet, if_neg (fun e => h.1 e.symm), ih h.2]
    rfl

/-- the identifier → matrix analyzer `s` and the bytes → identifier analyzer `s'` hold the same data -/
structure InvRel (s : IState K) (s' : State K) : Prop where
  scores_eq : s.scores = s'.scores
  rots_eq : s.rots = s'.rots
  imap_eq : s.imap = s'.table.map Prod.swap
  ids_eq : s'.table.map Prod.snd = List.range s'.table.length

theorem invRel_init (shape : List Nat) (thr : Int) : InvRel (K := K) (initInv shape thr) (init shape thr) :=
  ⟨rfl, rfl, rfl, rfl⟩

theorem invRel_submit {s : IState K} {s' : State K} (r : InvRel s s') (a : Arr Int) {k : K}
    (hk : lookup k s'.table = none) : InvRel (submitInv s a k) (submit s' a k) := by
  have hlen : s.imap.length = s'.table.length := by rw [r.imap_eq, List.length_map]
  have hfst : s.imap.map Prod.fst = List.range s'.table.length := by
    rw [r.imap_eq, List.map_map]
    have : (Prod.fst ∘ Prod.swap : K × Nat → Nat) = Prod.snd := by funext x; rfl
    rw [this, r.ids_eq]
  have hnot : s.imap.length ∉ s.imap.map Prod.fst := by
    rw [hfst, hlen, List.mem_range]; exact Nat.lt_irrefl _
  have hsd : setdefault s'.table k = (s'.table ++ [(k, s'.table.length)], s'.table.length) :=
    setdefault_of_none hk
  refine ⟨?_, ?_, ?_, ?_⟩
  · simp only [submitInv, submit, r.scores_eq]; rfl
  · simp only [submitInv, submit, hsd, r.scores_eq, r.rots_eq, hlen]
  · simp only [submitInv, submit, hsd]
    rw [dictSet_notin _ _ _ hnot, hlen, r.imap_eq, List.map_append]
    rfl
  · rw [submit_table, hsd, List.map_append, r.ids_eq, List.length_append]
    exact List.range_succ.symm

theorem invRel_fold (h : List (Arr Int × K)) : ∀ (s : IState K) (s' : State K), InvRel s s' →
    (h.map Prod.snd).Nodup → (∀ x ∈ h, lookup x.2 s'.table = none) →
    InvRel (h.foldl (fun s ak => submitInv s ak.1 ak.2) s) (runFrom s' h) := by
  induction h with
  | nil => intro _ _ r _ _; exact r
  | cons ak t ih =>
      intro s s' r hn hnone
      obtain ⟨a, k⟩ := ak
      rw [List.map_cons, List.nodup_cons] at hn
      have hk := hnone (a, k) List.mem_cons_self
      have r' := invRel_submit r a hk
      have htab : (submit s' a k).table = s'.table ++ [(k, s'.table.length)] := by
        rw [submit_table, setdefault_of_none hk]
      have hnone' : ∀ x ∈ t, lookup x.2 (submit s' a k).table = none := by
        intro x hx
        rw [htab, lookup_append, hnone x (List.mem_cons_of_mem _ hx)]
        have hne : ¬ k = x.2 := by
          intro e
          exact hn.1 (List.mem_map.mpr ⟨x, hx, e.symm⟩)
        exact if_neg hne
      exact ih _ _ r' hn.2 hnone'

theorem invertMap_fold (m : List (Nat × K)) : ∀ (acc : Table K),
    (m.map Prod.snd).Nodup → (∀ x ∈ m, x.2 ∉ acc.map Prod.fst) →
    m.foldl (fun t ik => dictSet t ik.2 ik.1) acc = acc ++ m.map Prod.swap := by
  induction m with
  | nil => intro acc _ _; exact (List.append_nil acc).symm
  | cons ik t ih =>
    intro acc hn hd
    rw [List.map_cons, List.nodup_cons] at hn
    rw [List.foldl_cons, dictSet_notin _ _ _ (hd ik List.mem_cons_self), ih _ hn.2]
    · rw [List.append_assoc]; rfl
    · intro x hx
      rw [List.map_append, List.mem_append, not_or]
      exact ⟨hd x (List.mem_cons_of_mem _ hx),
        fun e => hn.1 (List.mem_map.mpr ⟨x, hx, List.mem_singleton.mp e⟩)⟩

theorem invertMap_swap (t : Table K) (hn : (t.map Prod.fst).Nodup) : invertMap (t.map Prod.swap) = t := by
  have h1 : (t.map Prod.swap).map Prod.snd = t.map Prod.fst := by rw [List.map_map]; rfl
  have h2 : (t.map Prod.swap).map Prod.swap = t := by
    rw [List.map_map]; exact (List.map_congr_left fun x _ => Prod.swap_swap x).trans (List.map_id t)
  rw [invertMap, invertMap_fold _ [] (h1 ▸ hn) (fun _ _ h => nomatch h), h2]
  rfl

theorem iterInv_eq_of_nodup (shape : List Nat) (thr : Int) (h : List (Arr Int × K)) (offset : List Nat)
    (hn : (h.map Prod.snd).Nodup) :
    iterInv (runInv shape thr h) offset = (run shape thr h).toStore offset := by
  have r := invRel_fold h _ _ (invRel_init (K := K) shape thr) hn (by intro x _; rfl)
  have ok := (inv_run shape thr h).table_ok
  unfold iterInv State.toStore
  have e1 : (runInv shape thr h).scores = (run shape thr h).scores := r.scores_eq
  have e2 : (runInv shape thr h).rots = (run shape thr h).rots := r.rots_eq
  have e3 : (runInv shape thr h).imap = (run shape thr h).table.map Prod.swap := r.imap_eq
  rw [e1, e2, e3, invertMap_swap _ ok.2]

theorem runInv_scores_fold (h : List (Arr Int × K)) : ∀ (s : IState K) (s' : State K), s.scores = s'.scores →
    (h.foldl (fun s ak => submitInv s ak.1 ak.2) s).scores = (runFrom s' h).scores := by
  induction h with
  | nil => intro _ _ e; exact e
  | cons ak t ih =>
    intro s s' e
    refine ih _ _ ?_
    show (maxUpdate ak.1 s.scores s.rots s.imap.length).1 =
      (maxUpdate ak.1 s'.scores s'.rots (setdefault s'.table ak.2).2).1
    rw [e]
    rfl

theorem runInv_scores (shape : List Nat) (thr : Int) (h : List (Arr Int × K)) :
    (runInv shape thr h).scores = (run shape thr h).scores :=
  runInv_scores_fold h _ _ rfl

/-- what is true of the identifier → matrix analyzer after exactly the history `h` (any history) -/
structure InvI (shape : List Nat) (thr : Int) (h : List (Arr Int × K)) (s : IState K) : Prop where
  shape_sc : s.scores.shape = shape
  imap_eq : s.imap = (List.range h.length).zip (h.map Prod.snd)
  score : ∀ idx, inShape shape idx = true → s.scores.getD idx 0 = specMax thr (valsAt h idx)
  rot : ∀ idx, inShape shape idx = true →
    (s.rots.getD idx 0 = -1 ∧ s.scores.getD idx 0 = thr) ∨
    (∃ (i : Nat) (a : Arr Int) (k : K), h[i]? = some (a, k) ∧ s.rots.getD idx 0 = (i : Int) ∧
      a.getD idx 0 = s.scores.getD idx 0 ∧ thr < s.scores.getD idx 0)

theorem invI_init (shape : List Nat) (thr : Int) : InvI (K := K) shape thr [] (initInv shape thr) where
  shape_sc := rfl
  imap_eq := rfl
  score := fun idx h => Arr.getD_ofFn shape idx (fun _ => thr) 0 h
  rot := fun idx h => Or.inl ⟨Arr.getD_ofFn shape idx (fun _ => -1) 0 h, Arr.getD_ofFn shape idx (fun _ => thr) 0 h⟩

theorem submitInv_scores (s : IState K) (a : Arr Int) (k : K) :
    (submitInv s a k).scores = (maxUpdate a s.scores s.rots s.imap.length).1 := rfl

theorem submitInv_rots (s : IState K) (a : Arr Int) (k : K) :
    (submitInv s a k).rots = (maxUpdate a s.scores s.rots s.imap.length).2 := rfl

theorem invI_submit {shape : List Nat} {thr : Int} {h : List (Arr Int × K)} {s : IState K}
    (inv : InvI shape thr h s) (a : Arr Int) (k : K) : InvI shape thr (h ++ [(a, k)]) (submitInv s a k) := by
  have hlen : s.imap.length = h.length := by
    rw [inv.imap_eq, List.length_zip, List.length_range, List.length_map, Nat.min_self]
  have hnot : s.imap.length ∉ s.imap.map Prod.fst := by
    rw [hlen, inv.imap_eq]
    intro hm
    obtain ⟨x, hx, e⟩ := List.mem_map.mp hm
    exact Nat.lt_irrefl _ (List.mem_range.mp (e ▸ (List.of_mem_zip hx).1))
  have hsh : ∀ {idx}, inShape shape idx = true → inShape s.scores.shape idx = true :=
    fun hin => inv.shape_sc ▸ hin
  refine ⟨inv.shape_sc, ?_, ?_, ?_⟩
  · show dictSet s.imap s.imap.length k = _
    rw [dictSet_notin _ _ _ hnot, hlen, inv.imap_eq, List.length_append, List.length_singleton, List.range_succ,
      List.map_append, List.zip_append (by rw [List.length_range, List.length_map])]
    rfl
  · intro idx hin
    rw [submitInv_scores, maxUpdate_fst_getD _ _ _ _ _ (hsh hin), inv.score idx hin, valsAt_snoc, specMax_append]
    rfl
  · intro idx hin
    rw [submitInv_scores, submitInv_rots, maxUpdate_fst_getD _ _ _ _ _ (hsh hin),
      maxUpdate_snd_getD _ _ _ _ _ (hsh hin), hlen]
    have hge : thr ≤ s.scores.getD idx 0 := inv.score idx hin ▸ le_specMax _ _
    by_cases hgt : a.getD idx 0 > s.scores.getD idx 0
    · rw [if_pos hgt, Int.max_eq_right (Int.le_of_lt hgt)]
      exact Or.inr ⟨h.length, a, k, List.getElem?_concat_length, rfl, rfl, Int.lt_of_le_of_lt hge hgt⟩
    · rw [if_neg hgt, Int.max_eq_left (Int.not_lt.mp hgt)]
      rcases inv.rot idx hin with hm | ⟨i, a', k', hm, hr, hv, ht⟩
      · exact Or.inl hm
      · exact Or.inr ⟨i, a', k', (List.getElem?_append_left (getElem?_lt hm)).trans hm, hr, hv, ht⟩

theorem invI_run (shape : List Nat) (thr : Int) (h : List (Arr Int × K)) : InvI shape thr h (runInv shape thr h) := by
  have := foldl_snoc_invariant (I := InvI shape thr) (fun _ _ x inv => invI_submit inv x.1 x.2) h []
    (initInv shape thr) (invI_init shape thr)
  rwa [List.nil_append] at this

theorem mem_imap_of_getElem? {h : List (Arr Int × K)} {i : Nat} {a : Arr Int} {k : K} (hm : h[i]? = some (a, k)) :
    (i, k) ∈ (List.range h.length).zip (h.map Prod.snd) := by
  have hi : i < h.length := getElem?_lt hm
  rw [List.mem_iff_getElem?]
  refine ⟨i, ?_⟩
  rw [List.getElem?_zip_eq_some]
  refine ⟨by simp [hi], ?_⟩
  simp [hm]

theorem rowsOf_flatten {W : Type} (n : Nat) : ∀ (m : List (List W)), (∀ row ∈ m, row.length = n) →
    rowsOf n m.length m.flatten = m
  | [], _ => rfl
  | row :: rest, h => by
      have hr : row.length = n := h row List.mem_cons_self
      simp only [List.length_cons, List.flatten_cons, rowsOf]
      rw [List.take_left' hr, List.drop_left' hr, rowsOf_flatten n rest (fun x hx => h x (List.mem_cons_of_mem _ hx))]

/-- `np.frombuffer(m.tobytes()).reshape(n, n)` is `m` -/
theorem keyMat_matKey {W : Type} {n : Nat} {m : List (List W)} (hm : IsMat n m) : keyMat n (matKey m) = m := by
  unfold keyMat matKey
  have := rowsOf_flatten n m hm.2
  rw [hm.1] at this
  exact this

theorem matKey_injective {W : Type} {n : Nat} {m m' : List (List W)} (hm : IsMat n m) (hm' : IsMat n m')
    (e : matKey m = matKey m') : m = m' := by
  rw [← keyMat_matKey hm, ← keyMat_matKey hm', e]

theorem find_snd {t : Table K} (hs : (t.map Prod.snd).Nodup) {k : K} {i : Nat} (h : (k, i) ∈ t) :
    t.find? (fun kv => decide (kv.2 = i)) = some (k, i) := by
  induction t with
  | nil => cases h
  | cons kv t ih =>
    simp only [List.map_cons, List.nodup_cons] at hs
    rcases List.mem_cons.mp h with e | h'
    · subst e; simp
    · have hne : ¬ kv.2 = i := by
        intro e
        exact hs.1 (List.mem_map.mpr ⟨(k, i), h', e.symm⟩)
      simp only [List.find?_cons, hne, decide_false]
      exact ih hs.2 h'

theorem keyOf_of_lookup {t : Table K} (ok : TableOK t) {k : K} {i : Nat} (h : lookup k t = some i) :
    keyOf t (i : Int) = some k := by
  rw [keyOf, if_neg (Int.not_lt.mpr (Int.natCast_nonneg i)), Int.toNat_natCast, find_snd ok.snd_nodup (lookup_some_mem h)]
  rfl

theorem FS.read_write (fs : FS) (p q : Nat) (a : Arr Int) :
    (fs.write p a).read q = if p = q ∧ p < fs.length then a else fs.read q := by
  unfold FS.read FS.write
  rw [List.getD_eq_getElem?_getD, List.getD_eq_getElem?_getD, List.getElem?_set]
  by_cases e : p = q
  · subst e
    by_cases l : p < fs.length
    · rw [if_pos rfl, if_pos l, if_pos ⟨rfl, l⟩]; rfl
    · rw [if_pos rfl, if_neg l, if_neg (fun h => l h.2), List.getElem?_eq_none (Nat.le_of_not_lt l)]
  · rw [if_neg e, if_neg (fun h => e h.1)]

theorem FS.read_write_self {fs : FS} {p : Nat} (a : Arr Int) (h : p < fs.length) : (fs.write p a).read p = a := by
  rw [FS.read_write, if_pos ⟨rfl, h⟩]

theorem FS.read_write_ne {fs : FS} {p q : Nat} (a : Arr Int) (h : p ≠ q) : (fs.write p a).read q = fs.read q := by
  rw [FS.read_write, if_neg (fun e => h e.1)]

theorem FS.length_write (fs : FS) (p : Nat) (a : Arr Int) : (fs.write p a).length = fs.length :=
  List.length_set

theorem FS.read_create_old (fs : FS) (a : Arr Int) {q : Nat} (h : q < fs.length) :
    (fs.create a).1.read q = fs.read q := by
  unfold FS.read FS.create
  rw [List.getD_eq_getElem?_getD, List.getD_eq_getElem?_getD, List.getElem?_append_left h]

theorem FS.read_create_new (fs : FS) (a : Arr Int) : (fs.create a).1.read (fs.create a).2 = a := by
  unfold FS.read FS.create
  rw [List.getD_eq_getElem?_getD, List.getElem?_concat_length]
  rfl

theorem FS.length_create (fs : FS) (a : Arr Int) : (fs.create a).1.length = fs.length + 1 :=
  List.length_append

/-- the paths of a memory-mapped store exist -/
def MStore.Valid (fs : FS) (m : MStore K) : Prop := m.scores < fs.length ∧ m.rots < fs.length

instance (fs : FS) (m : MStore K) : Decidable (m.Valid fs) := by
  unfold MStore.Valid; exact inferInstance

theorem load_congr {fs fs' : FS} {n : Nat} (hsame : ∀ q < n, fs'.read q = fs.read q) {m : MStore K}
    (hv : m.scores < n ∧ m.rots < n) : m.load fs' = m.load fs := by
  unfold MStore.load
  rw [hsame _ hv.1, hsame _ hv.2]

theorem FS.create_create (fs : FS) (a b : Arr Int) :
    ((fs.create a).1.create b).1.read fs.length = a ∧ ((fs.create a).1.create b).1.read (fs.length + 1) = b ∧
    ((fs.create a).1.create b).1.length = fs.length + 2 ∧
    ∀ q < fs.length, ((fs.create a).1.create b).1.read q = fs.read q := by
  have hl : (fs.create a).1.length = fs.length + 1 := FS.length_create fs a
  refine ⟨?_, ?_, ?_, ?_⟩
  · rw [FS.read_create_old _ _ (by omega)]; exact FS.read_create_new fs a
  · have := FS.read_create_new (fs.create a).1 b
    rwa [show ((fs.create a).1.create b).2 = fs.length + 1 from hl] at this
  · rw [FS.length_create, hl]
  · intro q hq
    rw [FS.read_create_old _ _ (by omega), FS.read_create_old _ _ hq]

theorem storeToFiles_spec (fs : FS) (s : Store K) :
    (storeToFiles fs s).2.load (storeToFiles fs s).1 = s ∧
    (storeToFiles fs s).2.Valid (storeToFiles fs s).1 ∧
    (storeToFiles fs s).1.length = fs.length + 2 ∧
    ∀ q < fs.length, (storeToFiles fs s).1.read q = fs.read q := by
  obtain ⟨h1, h2, h3, h4⟩ := FS.create_create fs s.scores s.rots
  have hr : (storeToFiles fs s).2.rots = fs.length + 1 := FS.length_create fs s.scores
  refine ⟨?_, ⟨?_, ?_⟩, h3, h4⟩
  · show Store.mk ((storeToFiles fs s).1.read fs.length) s.offset
      ((storeToFiles fs s).1.read (storeToFiles fs s).2.rots) s.table = s
    rw [hr]
    exact (congrArg₂ (fun x y => Store.mk x s.offset y s.table) h1 h2 : _)
  · exact Nat.lt_of_lt_of_eq (Nat.lt_add_of_pos_right (by decide) : fs.length < fs.length + 2) h3.symm
  · exact lt_of_eq_of_lt hr (Nat.lt_of_lt_of_eq (Nat.lt_succ_self _) h3.symm)

theorem iterMem_spec (fs : FS) (s : State K) (offset : List Nat) :
    (iterMem fs s offset).2.load (iterMem fs s offset).1 = s.toStore offset ∧
    (iterMem fs s offset).2.Valid (iterMem fs s offset).1 ∧
    (iterMem fs s offset).1.length = fs.length + 2 ∧
    ∀ q < fs.length, (iterMem fs s offset).1.read q = fs.read q :=
  storeToFiles_spec fs (s.toStore offset)

theorem iterMemAll_spec (ss : List (Store K)) : ∀ (fs : FS),
    (iterMemAll fs ss).1.length = fs.length + 2 * ss.length ∧
    (∀ q < fs.length, (iterMemAll fs ss).1.read q = fs.read q) ∧
    (iterMemAll fs ss).2.map (MStore.load (iterMemAll fs ss).1) = ss ∧
    (∀ m ∈ (iterMemAll fs ss).2, m.Valid (iterMemAll fs ss).1) := by
  induction ss with
  | nil => intro fs; exact ⟨rfl, fun _ _ => rfl, rfl, fun _ hm => nomatch hm⟩
  | cons s ss ih =>
      intro fs
      obtain ⟨ld1, v1, l1, o1⟩ := storeToFiles_spec fs s
      obtain ⟨l2, o2, ld2, v2⟩ := ih (storeToFiles fs s).1
      have hge : (storeToFiles fs s).1.length ≤ (iterMemAll (storeToFiles fs s).1 ss).1.length :=
        l2 ▸ Nat.le_add_right _ _
      refine ⟨?_, ?_, ?_, ?_⟩
      · show (iterMemAll (storeToFiles fs s).1 ss).1.length = _
        rw [l2, l1, List.length_cons, Nat.mul_succ, Nat.add_assoc, Nat.add_comm 2]
      · intro q hq
        exact (o2 q (Nat.lt_of_lt_of_eq (Nat.lt_add_right 2 hq) l1.symm)).trans (o1 q hq)
      · show (storeToFiles fs s).2.load (iterMemAll (storeToFiles fs s).1 ss).1 ::
          (iterMemAll (storeToFiles fs s).1 ss).2.map (MStore.load (iterMemAll (storeToFiles fs s).1 ss).1) = s :: ss
        rw [ld2, load_congr o2 v1, ld1]
      · intro m hm
        rcases List.mem_cons.mp hm with rfl | hm'
        · exact ⟨Nat.lt_of_lt_of_le v1.1 hge, Nat.lt_of_lt_of_le v1.2 hge⟩
        · exact v2 m hm'

theorem mergeStepMem_fold {out : List Nat} {new : Table K} {fs : FS} (ms : List (MStore K)) :
    ∀ (fsj : FS), (∀ m ∈ ms, m.Valid fs) →
    fsj.length = fs.length + 2 → (∀ q < fs.length, fsj.read q = fs.read q) →
    let fs' := ms.foldl (mergeStepMem out new fs.length (fs.length + 1)) fsj
    fs'.length = fs.length + 2 ∧ (∀ q < fs.length, fs'.read q = fs.read q) ∧
    (fs'.read fs.length, fs'.read (fs.length + 1)) =
      (ms.map (MStore.load fs)).foldl (mergeStep out new) (fsj.read fs.length, fsj.read (fs.length + 1)) := by
  induction ms with
  | nil => intro fsj _ hl hs; exact ⟨hl, hs, rfl⟩
  | cons m ms ih =>
      intro fsj hv hl hs
      have hload : m.load fsj = m.load fs := load_congr hs (hv m List.mem_cons_self)
      let r := mergeStep out new (fsj.read fs.length, fsj.read (fs.length + 1)) (m.load fs)
      have hstep : mergeStepMem out new fs.length (fs.length + 1) fsj m =
          (fsj.write fs.length r.1).write (fs.length + 1) r.2 := by
        rw [mergeStepMem, hload]
      have hl' : ((fsj.write fs.length r.1).write (fs.length + 1) r.2).length = fs.length + 2 := by
        rw [FS.length_write, FS.length_write, hl]
      have hs' : ∀ q < fs.length, ((fsj.write fs.length r.1).write (fs.length + 1) r.2).read q = fs.read q := by
        intro q hq
        rw [FS.read_write_ne _ (Nat.ne_of_gt (Nat.lt_succ_of_lt hq)), FS.read_write_ne _ (Nat.ne_of_gt hq)]
        exact hs q hq
      have h1 : ((fsj.write fs.length r.1).write (fs.length + 1) r.2).read fs.length = r.1 := by
        rw [FS.read_write_ne _ (Nat.succ_ne_self _), FS.read_write_self _ (hl ▸ Nat.lt_add_of_pos_right (by decide))]
      have h2 : ((fsj.write fs.length r.1).write (fs.length + 1) r.2).read (fs.length + 1) = r.2 :=
        FS.read_write_self _ (by rw [FS.length_write, hl]; exact Nat.lt_succ_self _)
      have ih := ih _ (fun x hx => hv x (List.mem_cons_of_mem _ hx)) hl' hs'
      rw [h1, h2] at ih
      rw [List.foldl_cons, List.map_cons, List.foldl_cons, hstep]
      exact ih

theorem mergeManyMem_spec (thr : Int) (fs : FS) (ms : List (MStore K)) (hv : ∀ m ∈ ms, m.Valid fs) :
    (mergeManyMem thr fs ms).2.load (mergeManyMem thr fs ms).1 = mergeMany thr (ms.map (MStore.load fs)) ∧
    (mergeManyMem thr fs ms).1.length = fs.length + 2 ∧
    (∀ q < fs.length, (mergeManyMem thr fs ms).1.read q = fs.read q) ∧
    (mergeManyMem thr fs ms).2.Valid (mergeManyMem thr fs ms).1 := by
  let out := outShape (ms.map (MStore.load fs))
  let new := newTable (ms.map (MStore.load fs))
  obtain ⟨hA, hR, hl2, hs2⟩ := FS.create_create fs (Arr.ofFn out (fun _ => thr)) (Arr.ofFn out (fun _ => (-1 : Int)))
  obtain ⟨f1, f2, f3⟩ := mergeStepMem_fold (out := out) (new := new) ms _ hv hl2 hs2
  rw [hA, hR] at f3
  have hr : (mergeManyMem thr fs ms).2.rots = fs.length + 1 := FS.length_create fs _
  have hfs : (mergeManyMem thr fs ms).1 = ms.foldl (mergeStepMem out new fs.length (fs.length + 1))
      ((fs.create (Arr.ofFn out (fun _ => thr))).1.create (Arr.ofFn out (fun _ => (-1 : Int)))).1 := by
    show ms.foldl (mergeStepMem out new fs.length (fs.create (Arr.ofFn out (fun _ => thr))).1.length) _ = _
    rw [FS.length_create]
  refine ⟨?_, hfs ▸ f1, hfs ▸ f2, ?_, ?_⟩
  · show Store.mk ((mergeManyMem thr fs ms).1.read fs.length) (List.replicate out.length 0)
      ((mergeManyMem thr fs ms).1.read (mergeManyMem thr fs ms).2.rots) new = _
    rw [hr, hfs]
    exact (congrArg₂ (fun x y => Store.mk x (List.replicate out.length 0) y new)
      (congrArg Prod.fst f3) (congrArg Prod.snd f3) : _)
  · exact Nat.lt_of_lt_of_eq (Nat.lt_add_of_pos_right (by decide) : fs.length < fs.length + 2) (hfs ▸ f1).symm
  · exact lt_of_eq_of_lt hr (Nat.lt_of_lt_of_eq (Nat.lt_succ_self _) (hfs ▸ f1).symm)

theorem mergeOptMem_general (thr : Int) (fs : FS) {ps : List (Option (MStore K))} (h : ps.length ≠ 1) :
    mergeOptMem thr fs ps =
      if (ps.filterMap id).isEmpty then (fs, none)
      else ((mergeManyMem thr fs (ps.filterMap id)).1, some (mergeManyMem thr fs (ps.filterMap id)).2) := by
  cases ps with
  | nil => rfl
  | cons p1 rest =>
    cases rest with
    | nil => exact absurd rfl h
    | cons p2 rest =>
      simp only [mergeOptMem]
      cases List.filterMap id (p1 :: p2 :: rest) <;> rfl

theorem mergeOptMem_spec (thr : Int) (fs : FS) (ps : List (Option (MStore K)))
    (hv : ∀ m, some m ∈ ps → m.Valid fs) :
    (mergeOptMem thr fs ps).2.map (MStore.load (mergeOptMem thr fs ps).1) =
      mergeOpt thr (ps.map (Option.map (MStore.load fs))) ∧
    (∀ q < fs.length, (mergeOptMem thr fs ps).1.read q = fs.read q) := by
  by_cases h1 : ps.length = 1
  · match ps, h1 with
    | [p], _ => exact ⟨rfl, fun _ _ => rfl⟩
  · have hfm : (ps.map (Option.map (MStore.load fs))).filterMap id = (ps.filterMap id).map (MStore.load fs) := by
      rw [List.filterMap_map, List.map_filterMap]
      rfl
    have hvalid : ∀ m ∈ ps.filterMap id, m.Valid fs := fun m hm =>
      hv m (by rw [List.mem_filterMap] at hm; obtain ⟨x, hx, e⟩ := hm; exact (show x = some m from e) ▸ hx)
    rw [mergeOptMem_general thr fs h1, mergeOpt_general thr (by rw [List.length_map]; exact h1), hfm]
    cases hms : ps.filterMap id with
    | nil => exact ⟨rfl, fun _ _ => rfl⟩
    | cons m ms =>
      have sp := mergeManyMem_spec thr fs (m :: ms) (hms ▸ hvalid)
      exact ⟨congrArg some sp.1, sp.2.2.1⟩

theorem mergeOptMem_some_spec (thr : Int) (fs : FS) (ms : List (MStore K)) (hv : ∀ m ∈ ms, m.Valid fs) :
    (mergeOptMem thr fs (ms.map some)).2.map (MStore.load (mergeOptMem thr fs (ms.map some)).1) =
      merge thr (ms.map (MStore.load fs)) ∧
    ∀ q < fs.length, (mergeOptMem thr fs (ms.map some)).1.read q = fs.read q := by
  obtain ⟨sp, hold⟩ := mergeOptMem_spec thr fs (ms.map some) (fun m hm => by
    obtain ⟨m', hm', e⟩ := List.mem_map.mp hm
    cases e
    exact hv m hm')
  rw [List.map_map, show Option.map (MStore.load fs) ∘ some = some ∘ MStore.load fs from rfl, ← List.map_map,
    mergeOpt_map_some] at sp
  exact ⟨sp, hold⟩

theorem memmapHandlerRun_cons (paths : Table K) (starts : List Nat) (fs : FS) (ak : Arr Int × K)
    (t : List (Arr Int × K)) :
    memmapHandlerRun paths starts fs (ak :: t) =
      (memmapHandlerCall paths starts fs ak.1 ak.2).bind (fun fs1 => memmapHandlerRun paths starts fs1 t) := by
  simp only [memmapHandlerRun, List.foldl_cons, Option.bind_some]
  cases memmapHandlerCall paths starts fs ak.1 ak.2 with
  | some fs1 => rfl
  | none =>
    simp only [Option.bind_none]
    induction t with
    | nil => rfl
    | cons x t ih => simpa [List.foldl_cons] using ih

theorem handlerAdded_cons (paths : Table K) (starts : List Nat) (ak : Arr Int × K) (t : List (Arr Int × K))
    (p : Nat) (idx : List Nat) :
    handlerAdded paths starts (ak :: t) p idx =
      (if lookup ak.2 paths = some p then
        (match localIdx starts ak.1.shape idx with
          | some q => ak.1.getD q 0
          | none => 0)
       else 0) + handlerAdded paths starts t p idx := rfl

theorem handlerAdded_perm (paths : Table K) (starts : List Nat) (p : Nat) (idx : List Nat)
    {h h' : List (Arr Int × K)} (hp : h.Perm h') :
    handlerAdded paths starts h p idx = handlerAdded paths starts h' p idx := by
  induction hp with
  | nil => rfl
  | cons x _ ih => simp only [handlerAdded, ih]
  | swap x y l => simp only [handlerAdded]; omega
  | trans _ _ ih1 ih2 => rw [ih1, ih2]

theorem memmapHandler_spec (paths : Table K) (starts : List Nat) (h : List (Arr Int × K)) : ∀ (fs : FS),
    (∀ ak ∈ h, (lookup ak.2 paths).isSome) →
    ∃ fs', memmapHandlerRun paths starts fs h = some fs' ∧ fs'.length = fs.length ∧
      ∀ p, (fs'.read p).shape = (fs.read p).shape ∧
        ∀ idx, p < fs.length → inShape (fs.read p).shape idx = true →
          (fs'.read p).getD idx 0 = (fs.read p).getD idx 0 + handlerAdded paths starts h p idx := by
  induction h with
  | nil => intro fs _; exact ⟨fs, rfl, rfl, fun p => ⟨rfl, fun idx _ _ => (Int.add_zero _).symm⟩⟩
  | cons ak t ih =>
      intro fs hk
      obtain ⟨p0, hp0⟩ := Option.isSome_iff_exists.mp (hk ak List.mem_cons_self)
      let g : List Nat → Int := fun idx =>
        match localIdx starts ak.1.shape idx with
        | some q => (fs.read p0).getD idx 0 + ak.1.getD q 0
        | none => (fs.read p0).getD idx 0
      have hcall : memmapHandlerCall paths starts fs ak.1 ak.2 =
          some (fs.write p0 (Arr.ofFn (fs.read p0).shape g)) := by
        rw [memmapHandlerCall, hp0]
        rfl
      obtain ⟨fs', hrun, hlen, hfiles⟩ := ih
        (fs.write p0 (Arr.ofFn (fs.read p0).shape g)) (fun x hx => hk x (List.mem_cons_of_mem _ hx))
      refine ⟨fs', ?_, ?_, ?_⟩
      · rw [memmapHandlerRun_cons, hcall]; exact hrun
      · rw [hlen, FS.length_write]
      · intro p
        obtain ⟨hsh, hval⟩ := hfiles p
        have hread : (fs.write p0 (Arr.ofFn (fs.read p0).shape g)).read p =
            if p0 = p ∧ p0 < fs.length then Arr.ofFn (fs.read p0).shape g else fs.read p := FS.read_write _ _ _ _
        rw [FS.length_write] at hval
        by_cases hc : p0 = p ∧ p0 < fs.length
        · have e := hc.1
          subst e
          rw [hread, if_pos hc] at hsh hval
          refine ⟨hsh, ?_⟩
          intro idx hlt hin
          have hin' : inShape (Arr.ofFn (fs.read p0).shape g).shape idx = true := hin
          rw [hval idx hlt hin', Arr.getD_ofFn _ _ _ _ hin, handlerAdded_cons, if_pos hp0]
          show (match localIdx starts ak.1.shape idx with
            | some q => (fs.read p0).getD idx 0 + ak.1.getD q 0
            | none => (fs.read p0).getD idx 0) + _ = _
          cases localIdx starts ak.1.shape idx with
          | none => exact congrArg _ (Int.zero_add _).symm
          | some q => exact Int.add_assoc _ _ _
        · rw [hread, if_neg hc] at hsh hval
          refine ⟨hsh, ?_⟩
          intro idx hlt hin
          rw [hval idx hlt hin]
          have hne : ¬ (lookup ak.2 paths = some p) := by
            rw [hp0]; intro h'
            exact hc ⟨Option.some.inj h', by rw [Option.some.inj h']; exact hlt⟩
          rw [handlerAdded_cons, if_neg hne, Int.zero_add]

theorem lookup_dictSet (t : Table K) (k k' : K) (v : Nat) :
    lookup k' (dictSet t k v) = if k = k' then some v else lookup k' t := by
  induction t with
  | nil =>
    simp only [dictSet, lookup]
  | cons kv t ih =>
    obtain ⟨k0, v0⟩ := kv
    simp only [dictSet]
    by_cases e : k0 = k
    · subst e
      simp only [if_true, lookup]
      by_cases e' : k0 = k' <;> simp [e']
    · simp only [e, if_false, lookup]
      by_cases e' : k0 = k'
      · subst e'
        simp [Ne.symm e]
      · simp only [e', if_false, ih]

/-- the value the inverted dict holds for `k`: the identifier of the *last* entry that carries `k` -/
def lastId (m : List (Nat × K)) (k : K) : Option Nat :=
  ((m.filter (fun ik => decide (ik.2 = k))).getLast?).map Prod.fst

theorem lastId_cons (x : Nat × K) (m : List (Nat × K)) (k : K) :
    lastId (x :: m) k = match lastId m k with
      | some i => some i
      | none => if x.2 = k then some x.1 else none := by
  unfold lastId
  by_cases e : x.2 = k
  · simp only [List.filter_cons, e, decide_true, if_true, List.getLast?_cons]
    generalize (List.filter (fun ik => decide (ik.2 = k)) m).getLast? = o
    cases o <;> rfl
  · simp only [List.filter_cons, e, decide_false, if_false, Bool.false_eq_true]
    generalize (List.filter (fun ik => decide (ik.2 = k)) m).getLast? = o
    cases o <;> rfl

theorem invertMap_fold_lookup (k : K) (m : List (Nat × K)) : ∀ (acc : Table K),
    lookup k (m.foldl (fun t ik => dictSet t ik.2 ik.1) acc) =
      match lastId m k with
      | some i => some i
      | none => lookup k acc := by
  induction m with
  | nil => intro acc; rfl
  | cons x m ih =>
      intro acc
      rw [List.foldl_cons, ih, lastId_cons, lookup_dictSet]
      cases lastId m k with
      | some i => rfl
      | none =>
        by_cases e : x.2 = k <;> simp [e]

theorem invertMap_lookup (m : List (Nat × K)) (k : K) : lookup k (invertMap m) = lastId m k := by
  unfold invertMap
  rw [invertMap_fold_lookup]
  cases lastId m k <;> rfl

end Pm.C04
