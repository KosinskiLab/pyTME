import PytmeModel.Proofs.C04Run

/-! Several submitters, one analyzer, steps interleaved under the lock (C04): the invariant `LInv`, which ties every
reachable state to a serial history, is kept by every step. -/
namespace Pm.C04
set_option linter.unusedSectionVars false
variable {K : Type} [DecidableEq K]

/-- `indices = scores > max_scores` -/
def maskOf (a mx : Arr Int) : Arr Bool := Arr.ofFn mx.shape (fun idx => decide (a.getD idx 0 > mx.getD idx 0))

/-- the submissions of process `j` that the log holds, in order -/
def consumed (log : List (Nat × Arr Int × K)) (j : Nat) : List (Arr Int × K) :=
  (log.filter (fun e => e.1 = j)).map Prod.snd

/-- where the lock holder is inside its submission `(a, k)`, relative to the state `s0` it found -/
def HolderRel (s0 : State K) (a : Arr Int) (k : K) (shared : State K) : PC → Prop
  | .idle => False
  | .locked => shared = s0
  | .indexed i => shared = ⟨s0.scores, s0.rots, (setdefault s0.table k).1⟩ ∧ i = (setdefault s0.table k).2
  | .masked i m => shared = ⟨s0.scores, s0.rots, (setdefault s0.table k).1⟩ ∧ i = (setdefault s0.table k).2 ∧
      m = maskOf a s0.scores
  | .wrote i m => shared = ⟨(maxUpdate a s0.scores s0.rots i).1, s0.rots, (setdefault s0.table k).1⟩ ∧
      i = (setdefault s0.table k).2 ∧ m = maskOf a s0.scores

/-- `log` is a serial history for `sys`: `acct` each process's part of the log followed by its open work is its work
list; `free` with the lock free everybody is idle and `shared` is the analyzer after the log; `held` the holder is
inside its next submission, related to the analyzer after the log by `HolderRel`. -/
structure LInv (shape : List Nat) (thr : Int) (work : Nat → List (Arr Int × K)) (sys : Sys K)
    (log : List (Nat × Arr Int × K)) : Prop where
  acct : ∀ j, consumed log j ++ (sys.procs j).todo = work j
  free : sys.lock = none → (∀ j, (sys.procs j).pc = .idle) ∧ sys.shared = run shape thr (log.map Prod.snd)
  held : ∀ h, sys.lock = some h → (∀ j, j ≠ h → (sys.procs j).pc = .idle) ∧
    ∃ a k rest, (sys.procs h).todo = (a, k) :: rest ∧
      HolderRel (run shape thr (log.map Prod.snd)) a k sys.shared (sys.procs h).pc

theorem write_scores_eq (a : Arr Int) (s0 : State K) (i : Nat) :
    Arr.ofFn s0.scores.shape (fun idx => if (maskOf a s0.scores).getD idx false then a.getD idx 0 else s0.scores.getD idx 0)
      = (maxUpdate a s0.scores s0.rots i).1 := by
  simp only [maxUpdate]
  apply Arr.ofFn_congr
  intro idx h
  have hm := Arr.getD_ofFn s0.scores.shape idx (fun idx => decide (a.getD idx 0 > s0.scores.getD idx 0)) false h
  simp only [maskOf, hm]
  simp

theorem write_rots_eq (a : Arr Int) (s0 : State K) (i : Nat) :
    Arr.ofFn (maxUpdate a s0.scores s0.rots i).1.shape
        (fun idx => if (maskOf a s0.scores).getD idx false then (i : Int) else s0.rots.getD idx 0)
      = (maxUpdate a s0.scores s0.rots i).2 := by
  simp only [maxUpdate]
  apply Arr.ofFn_congr
  intro idx h
  have hm := Arr.getD_ofFn s0.scores.shape idx (fun idx => decide (a.getD idx 0 > s0.scores.getD idx 0)) false h
  simp only [maskOf, hm]
  simp

theorem consumed_snoc_self (log : List (Nat × Arr Int × K)) (j : Nat) (x : Arr Int × K) :
    consumed (log ++ [(j, x)]) j = consumed log j ++ [x] := by
  simp [consumed, List.filter_append]

theorem consumed_snoc_other (log : List (Nat × Arr Int × K)) {j h : Nat} (x : Arr Int × K) (hne : j ≠ h) :
    consumed (log ++ [(h, x)]) j = consumed log j := by
  have : ¬ h = j := fun e => hne e.symm
  simp [consumed, List.filter_append, this]

theorem mem_log_iff_of_consumed {log : List (Nat × Arr Int × K)} {work : List (List (Arr Int × K))}
    (hcons : ∀ j, consumed log j = work.getD j []) (x : Arr Int × K) :
    x ∈ log.map Prod.snd ↔ x ∈ work.flatten := by
  constructor
  · intro hx
    obtain ⟨e, he, rfl⟩ := List.mem_map.mp hx
    have h1 : e.2 ∈ work.getD e.1 [] :=
      hcons e.1 ▸ List.mem_map.mpr ⟨e, List.mem_filter.mpr ⟨he, decide_eq_true rfl⟩, rfl⟩
    rw [List.getD_eq_getElem?_getD] at h1
    cases hj : work[e.1]? with
    | none => rw [hj] at h1; cases h1
    | some l => rw [hj] at h1; exact List.mem_flatten.mpr ⟨l, List.mem_of_getElem? hj, h1⟩
  · intro hx
    obtain ⟨l, hl, hxl⟩ := List.mem_flatten.mp hx
    obtain ⟨j, hj⟩ := List.getElem?_of_mem hl
    have h1 : x ∈ consumed log j := by
      rw [hcons, List.getD_eq_getElem?_getD, hj]; exact hxl
    obtain ⟨e, he, rfl⟩ := List.mem_map.mp h1
    exact List.mem_map.mpr ⟨e, (List.mem_filter.mp he).1, rfl⟩

theorem step_nil (b : Bool) (sys : Sys K) (pid : Nat) (h : (sys.procs pid).todo = []) : step b sys pid = sys := by
  simp [step, h]

theorem step_idle_free (sys : Sys K) (pid : Nat) {a : Arr Int} {k : K} {rest : List (Arr Int × K)}
    (h : (sys.procs pid).todo = (a, k) :: rest) (hpc : (sys.procs pid).pc = .idle) (hl : sys.lock = none) :
    step true sys pid = { sys with lock := some pid, procs := setProc sys.procs pid ⟨(a, k) :: rest, .locked⟩ } := by
  simp [step, h, hpc, hl]

theorem step_idle_taken (sys : Sys K) (pid : Nat) {a : Arr Int} {k : K} {rest : List (Arr Int × K)} {h' : Nat}
    (h : (sys.procs pid).todo = (a, k) :: rest) (hpc : (sys.procs pid).pc = .idle) (hl : sys.lock = some h') :
    step true sys pid = sys := by
  simp [step, h, hpc, hl]

theorem step_locked (b : Bool) (sys : Sys K) (pid : Nat) {a : Arr Int} {k : K} {rest : List (Arr Int × K)}
    (h : (sys.procs pid).todo = (a, k) :: rest) (hpc : (sys.procs pid).pc = .locked) :
    step b sys pid = { sys with shared := { sys.shared with table := (setdefault sys.shared.table k).1 },
                                procs := setProc sys.procs pid ⟨(a, k) :: rest, .indexed (setdefault sys.shared.table k).2⟩ } := by
  simp [step, h, hpc]

theorem step_indexed (b : Bool) (sys : Sys K) (pid : Nat) {a : Arr Int} {k : K} {rest : List (Arr Int × K)} {i : Nat}
    (h : (sys.procs pid).todo = (a, k) :: rest) (hpc : (sys.procs pid).pc = .indexed i) :
    step b sys pid = { sys with procs := setProc sys.procs pid ⟨(a, k) :: rest, .masked i (maskOf a sys.shared.scores)⟩ } := by
  simp [step, h, hpc, maskOf]

theorem step_masked (b : Bool) (sys : Sys K) (pid : Nat) {a : Arr Int} {k : K} {rest : List (Arr Int × K)} {i : Nat} {m : Arr Bool}
    (h : (sys.procs pid).todo = (a, k) :: rest) (hpc : (sys.procs pid).pc = .masked i m) :
    step b sys pid = { sys with
      shared := { sys.shared with scores := Arr.ofFn sys.shared.scores.shape (fun idx => if m.getD idx false then a.getD idx 0 else sys.shared.scores.getD idx 0) },
      procs := setProc sys.procs pid ⟨(a, k) :: rest, .wrote i m⟩ } := by
  simp [step, h, hpc]

theorem step_wrote (sys : Sys K) (pid : Nat) {a : Arr Int} {k : K} {rest : List (Arr Int × K)} {i : Nat} {m : Arr Bool}
    (h : (sys.procs pid).todo = (a, k) :: rest) (hpc : (sys.procs pid).pc = .wrote i m) :
    step true sys pid =
      { shared := { sys.shared with rots := Arr.ofFn sys.shared.scores.shape (fun idx => if m.getD idx false then (i : Int) else sys.shared.rots.getD idx 0) },
        lock := none, procs := setProc sys.procs pid ⟨rest, .idle⟩ } := by
  simp [step, h, hpc]

theorem setProc_self (procs : Nat → Proc K) (pid : Nat) (p : Proc K) : setProc procs pid p pid = p := if_pos rfl

theorem setProc_ne (procs : Nat → Proc K) {pid j : Nat} (p : Proc K) (h : j ≠ pid) : setProc procs pid p j = procs j :=
  if_neg h

theorem LInv.lock_of_busy {shape : List Nat} {thr : Int} {work : Nat → List (Arr Int × K)} {sys : Sys K}
    {log : List (Nat × Arr Int × K)} (inv : LInv shape thr work sys log) {pid : Nat}
    (h : (sys.procs pid).pc ≠ .idle) : sys.lock = some pid := by
  cases hlock : sys.lock with
  | none => exact absurd ((inv.free hlock).1 pid) h
  | some h' =>
    by_cases e : pid = h'
    · rw [e]
    · exact absurd ((inv.held h' hlock).1 pid e) h

theorem LInv.holder_moves {shape : List Nat} {thr : Int} {work : Nat → List (Arr Int × K)} {sys : Sys K}
    {log : List (Nat × Arr Int × K)} (inv : LInv shape thr work sys log) {pid : Nat} {a : Arr Int} {k : K}
    {rest : List (Arr Int × K)} (htodo : (sys.procs pid).todo = (a, k) :: rest)
    (hothers : ∀ j, j ≠ pid → (sys.procs j).pc = .idle) {shared' : State K} {pc' : PC}
    (hrel : HolderRel (run shape thr (log.map Prod.snd)) a k shared' pc') :
    LInv shape thr work ⟨shared', some pid, setProc sys.procs pid ⟨(a, k) :: rest, pc'⟩⟩ log where
  acct := fun j => by
    by_cases hj : j = pid
    · subst hj
      show _ ++ (setProc sys.procs j _ j).todo = _
      rw [setProc_self, ← htodo]; exact inv.acct j
    · show _ ++ (setProc sys.procs pid _ j).todo = _
      rw [setProc_ne _ _ hj]; exact inv.acct j
  free := fun h => nomatch h
  held := fun h hh => by
    cases hh
    refine ⟨fun j hj => ?_, a, k, rest, ?_, ?_⟩
    · show (setProc sys.procs pid _ j).pc = _
      rw [setProc_ne _ _ hj]; exact hothers j hj
    · show (setProc sys.procs pid _ pid).todo = _
      rw [setProc_self]
    · show HolderRel _ a k shared' (setProc sys.procs pid _ pid).pc
      rw [setProc_self]; exact hrel

theorem linv_step {shape : List Nat} {thr : Int} {work : Nat → List (Arr Int × K)} {sys : Sys K}
    {log : List (Nat × Arr Int × K)} (inv : LInv shape thr work sys log) (pid : Nat) :
    ∃ log', LInv shape thr work (step true sys pid) log' := by
  cases htodo : (sys.procs pid).todo with
  | nil => exact ⟨log, by rw [step_nil _ _ _ htodo]; exact inv⟩
  | cons ak rest =>
    obtain ⟨a, k⟩ := ak
    by_cases hpc : (sys.procs pid).pc = .idle
    · cases hlock : sys.lock with
      | some h' => exact ⟨log, by rw [step_idle_taken _ _ htodo hpc hlock]; exact inv⟩
      | none =>
        obtain ⟨hidle, hshared⟩ := inv.free hlock
        rw [step_idle_free _ _ htodo hpc hlock]
        exact ⟨log, inv.holder_moves htodo (fun j _ => hidle j) hshared⟩
    · have hl := inv.lock_of_busy hpc
      obtain ⟨hothers, a', k', rest', ht', hrel⟩ := inv.held pid hl
      rw [htodo] at ht'; cases ht'
      cases hpc' : (sys.procs pid).pc with
      | idle => exact absurd hpc' hpc
      | locked =>
        rw [hpc'] at hrel
        rw [step_locked _ _ _ htodo hpc', hl]
        refine ⟨log, inv.holder_moves htodo hothers ?_⟩
        rw [show sys.shared = _ from hrel]
        exact ⟨rfl, rfl⟩
      | indexed i =>
        rw [hpc'] at hrel
        rw [step_indexed _ _ _ htodo hpc', hl]
        refine ⟨log, inv.holder_moves htodo hothers ?_⟩
        rw [hrel.1]
        exact ⟨rfl, hrel.2, rfl⟩
      | masked i m =>
        rw [hpc'] at hrel
        obtain ⟨hs, hi, hm⟩ := hrel
        rw [step_masked _ _ _ htodo hpc', hl]
        refine ⟨log, inv.holder_moves htodo hothers ⟨?_, hi, hm⟩⟩
        rw [hs, hm]
        exact congrArg (State.mk · _ _) (write_scores_eq a _ i)
      | wrote i m =>
        rw [hpc'] at hrel
        obtain ⟨hs, hi, hm⟩ := hrel
        rw [step_wrote _ _ htodo hpc']
        refine ⟨log ++ [(pid, a, k)], ⟨?_, ?_, fun h hh => nomatch hh⟩⟩
        · intro j
          by_cases hj : j = pid
          · subst hj
            show _ ++ (setProc sys.procs j _ j).todo = _
            have := inv.acct j
            rw [htodo] at this
            rw [consumed_snoc_self, setProc_self, List.append_assoc]
            exact this
          · show _ ++ (setProc sys.procs pid _ j).todo = _
            rw [consumed_snoc_other _ _ hj, setProc_ne _ _ hj]; exact inv.acct j
        · intro _
          refine ⟨fun j => ?_, ?_⟩
          · show (setProc sys.procs pid _ j).pc = _
            by_cases hj : j = pid
            · rw [hj, setProc_self]
            · rw [setProc_ne _ _ hj]; exact hothers j hj
          · rw [List.map_append, List.map_singleton, run_snoc, hs, hm]
            simp only [submit]
            rw [← hi, write_rots_eq a _ i]

theorem linv_init (shape : List Nat) (thr : Int) (work : List (List (Arr Int × K))) :
    LInv shape thr (fun j => work.getD j []) (sysInit shape thr work) [] where
  acct := fun _ => rfl
  free := fun _ => ⟨fun _ => rfl, rfl⟩
  held := fun _ hh => nomatch hh

theorem linv_sched {shape : List Nat} {thr : Int} {work : Nat → List (Arr Int × K)} (sched : List Nat) :
    ∀ (sys : Sys K) (log : List (Nat × Arr Int × K)), LInv shape thr work sys log →
    ∃ log', LInv shape thr work (runSched true sys sched) log' := by
  induction sched with
  | nil => intro sys log inv; exact ⟨log, inv⟩
  | cons pid sched ih =>
    intro sys log inv
    obtain ⟨log1, inv1⟩ := linv_step inv pid
    exact ih _ log1 inv1

end Pm.C04
