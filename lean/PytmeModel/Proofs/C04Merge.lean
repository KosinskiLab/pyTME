import PytmeModel.Proofs.C04Run

/-! Merging partial results (C04): boxes, the new table, the lookup table. -/
namespace Pm.C04
set_option linter.unusedSectionVars false

/-- same rank and `a[i] ≤ b[i]` on every axis -/
def leL : List Nat → List Nat → Prop
  | [], [] => True
  | a :: as, b :: bs => a ≤ b ∧ leL as bs
  | _, _ => False

theorem leL_cons {a b : Nat} {as bs : List Nat} : leL (a :: as) (b :: bs) ↔ a ≤ b ∧ leL as bs := Iff.rfl

theorem leL_refl : ∀ a : List Nat, leL a a
  | [] => trivial
  | _ :: as => ⟨Nat.le_refl _, leL_refl as⟩

theorem leL_trans {a b c : List Nat} (h1 : leL a b) (h2 : leL b c) : leL a c := by
  induction a generalizing b c with
  | nil =>
    cases b with
    | nil => exact h2
    | cons _ _ => exact h1.elim
  | cons x as ih =>
    cases b with
    | nil => exact h1.elim
    | cons y bs =>
      cases c with
      | nil => exact h2.elim
      | cons z cs => exact ⟨Nat.le_trans h1.1 h2.1, ih h1.2 h2.2⟩

theorem leL_length : ∀ {a b : List Nat}, leL a b → a.length = b.length := by
  intro a
  induction a with
  | nil =>
    intro b h
    cases b with
    | nil => rfl
    | cons _ _ => exact h.elim
  | cons x as ih =>
    intro b h
    cases b with
    | nil => exact h.elim
    | cons y bs => exact congrArg Nat.succ (ih h.2)

theorem leL_zipWith_max_left {a b : List Nat} (h : a.length = b.length) : leL a (List.zipWith max a b) := by
  induction a generalizing b with
  | nil => cases b with
    | nil => trivial
    | cons _ _ => cases h
  | cons x as ih => cases b with
    | nil => cases h
    | cons y bs => exact leL_cons.mpr ⟨Nat.le_max_left x y, ih (Nat.succ.inj h)⟩

theorem leL_zipWith_max_right {a b : List Nat} (h : a.length = b.length) : leL b (List.zipWith max a b) := by
  induction a generalizing b with
  | nil => cases b with
    | nil => trivial
    | cons _ _ => cases h
  | cons x as ih => cases b with
    | nil => cases h
    | cons y bs => exact leL_cons.mpr ⟨Nat.le_max_right x y, ih (Nat.succ.inj h)⟩

theorem localIdx_inShape_of_le {off sh p q out : List Nat} (h : localIdx off sh p = some q)
    (hle : leL (List.zipWith (· + ·) off sh) out) : inShape out p = true := by
  fun_induction localIdx off sh p generalizing q out with
  | case1 =>
    match out, hle with
    | [], _ => rfl
  | case2 o os s ss x xs hx ih =>
    match out, hle with
    | b :: bs, hle =>
      cases h' : localIdx os ss xs with
      | none => rw [h'] at h; cases h
      | some q' =>
        have hb : o + s ≤ b := (leL_cons.mp hle).1
        exact inShape_cons.mpr ⟨by omega, ih h' (leL_cons.mp hle).2⟩
  | case3 => cases h
  | case4 => cases h

variable {K : Type} [DecidableEq K]

def boxEnd (S : Store K) : List Nat := List.zipWith (· + ·) S.offset S.scores.shape

/-- every store has rank `d` (offset and array) -/
def SameDim (d : Nat) (ss : List (Store K)) : Prop :=
  ∀ S ∈ ss, S.offset.length = d ∧ S.scores.shape.length = d

theorem growFold_spec (d : Nat) : ∀ (ss : List (Store K)) (acc : List Nat), acc.length = d → SameDim d ss →
    let r := ss.foldl (fun acc S => growShape acc S.offset S.scores.shape) acc
    r.length = d ∧ leL acc r ∧ ∀ S ∈ ss, leL (boxEnd S) r := by
  intro ss
  induction ss with
  | nil => intro acc h _; exact ⟨h, leL_refl _, by simp⟩
  | cons S ss ih =>
    intro acc hacc hd
    have hS := hd S List.mem_cons_self
    have hb : (boxEnd S).length = d := by simp [boxEnd, hS.1, hS.2]
    have hlen : (growShape acc S.offset S.scores.shape).length = d := by
      simp [growShape, hacc, hS.1, hS.2]
    have hd' : SameDim d ss := fun T hT => hd T (List.mem_cons_of_mem _ hT)
    obtain ⟨r1, r2, r3⟩ := ih (growShape acc S.offset S.scores.shape) hlen hd'
    have e : acc.length = (boxEnd S).length := by rw [hacc, hb]
    refine ⟨r1, ?_, ?_⟩
    · exact leL_trans (leL_zipWith_max_left e) r2
    · intro T hT
      rcases List.mem_cons.mp hT with rfl | hT
      · exact leL_trans (leL_zipWith_max_right e) r2
      · exact r3 T hT

theorem boxEnd_le_outShape {d : Nat} {ss : List (Store K)} (hd : SameDim d ss) {S : Store K} (hS : S ∈ ss) :
    leL (boxEnd S) (outShape ss) := by
  cases ss with
  | nil => cases hS
  | cons T ts =>
    have hT := hd T List.mem_cons_self
    have := growFold_spec d (T :: ts) (List.replicate T.scores.shape.length 0) (by simp [hT.2]) hd
    exact this.2.2 S hS

theorem outShape_length {d : Nat} {ss : List (Store K)} (hd : SameDim d ss) (hne : ss ≠ []) :
    (outShape ss).length = d := by
  cases ss with
  | nil => exact absurd rfl hne
  | cons T ts =>
    have hT := hd T List.mem_cons_self
    exact (growFold_spec d (T :: ts) (List.replicate T.scores.shape.length 0) (by simp [hT.2]) hd).1

theorem tableFold_spec {α : Type} (f : Table K → α → Table K) (P : α → K → Prop)
    (hf : ∀ t a, TableOK t → TableOK (f t a) ∧ (∀ k i, lookup k t = some i → lookup k (f t a) = some i) ∧
      ∀ k, (lookup k (f t a)).isSome ↔ ((lookup k t).isSome ∨ P a k)) :
    ∀ (l : List α) (t : Table K), TableOK t →
      TableOK (l.foldl f t) ∧ (∀ k i, lookup k t = some i → lookup k (l.foldl f t) = some i) ∧
      ∀ k, (lookup k (l.foldl f t)).isSome ↔ ((lookup k t).isSome ∨ ∃ a ∈ l, P a k) := by
  intro l
  induction l with
  | nil =>
    intro t ok
    refine ⟨ok, fun _ _ h => h, fun k => ⟨Or.inl, ?_⟩⟩
    rintro (h | ⟨_, hm, _⟩)
    · exact h
    · cases hm
  | cons a l ih =>
    intro t ok
    obtain ⟨a1, b1, c1⟩ := hf t a ok
    obtain ⟨a2, b2, c2⟩ := ih (f t a) a1
    refine ⟨a2, fun k i h => b2 k i (b1 k i h), fun k => ?_⟩
    rw [List.foldl_cons, c2 k, c1 k, or_assoc]
    simp only [List.mem_cons, exists_eq_or_imp]

theorem addKeys_spec (src t : Table K) (ok : TableOK t) :
    TableOK (addKeys t src) ∧
    (∀ k i, lookup k t = some i → lookup k (addKeys t src) = some i) ∧
    (∀ k, (lookup k (addKeys t src)).isSome ↔ ((lookup k t).isSome ∨ k ∈ src.map Prod.fst)) := by
  obtain ⟨a, b, c⟩ := tableFold_spec (fun t (kv : K × Nat) => addKey t kv.1) (fun kv k => kv.1 = k)
    (fun t kv ok => ⟨setdefault_ok ok kv.1, (setdefault_spec t kv.1).2.1,
      fun k => ((setdefault_spec t kv.1).2.2 k).trans (or_congr_right eq_comm)⟩) src t ok
  exact ⟨a, b, fun k => (c k).trans (or_congr_right List.mem_map.symm)⟩

theorem newTableFold_spec (ss : List (Store K)) (t : Table K) (ok : TableOK t) :
    let r := ss.foldl (fun t S => addKeys t S.table) t
    TableOK r ∧ (∀ k i, lookup k t = some i → lookup k r = some i) ∧
    (∀ k, (lookup k r).isSome ↔ ((lookup k t).isSome ∨ ∃ S ∈ ss, (lookup k S.table).isSome)) :=
  tableFold_spec (fun t (S : Store K) => addKeys t S.table) (fun S k => (lookup k S.table).isSome)
    (fun t S ok => by
      obtain ⟨a, b, c⟩ := addKeys_spec S.table t ok
      exact ⟨a, b, fun k => (c k).trans (or_congr_right (lookup_isSome_iff k S.table).symm)⟩) ss t ok

theorem newTable_ok (ss : List (Store K)) : TableOK (newTable ss) :=
  (newTableFold_spec ss [] tableOK_nil).1

theorem newTable_keys (ss : List (Store K)) (k : K) :
    (lookup k (newTable ss)).isSome ↔ ∃ S ∈ ss, (lookup k S.table).isSome :=
  ((newTableFold_spec ss [] tableOK_nil).2.2 k).trans (or_iff_right Bool.false_ne_true)

theorem foldl_set_length (f : K → Int) : ∀ (t : Table K) (l : List Int),
    (t.foldl (fun l kv => l.set kv.2 (f kv.1)) l).length = l.length := by
  intro t
  induction t with
  | nil => intro l; rfl
  | cons kv t ih => intro l; simp [ih]

theorem foldl_set_notin (f : K → Int) (d : Int) (i : Nat) : ∀ (t : Table K) (l : List Int),
    i ∉ t.map Prod.snd → (t.foldl (fun l kv => l.set kv.2 (f kv.1)) l).getD i d = l.getD i d := by
  intro t
  induction t with
  | nil => intro l _; rfl
  | cons kv t ih =>
    intro l h
    simp only [List.map_cons, List.mem_cons, not_or] at h
    simp only [List.foldl_cons]
    rw [ih _ h.2]
    simp only [List.getD_eq_getElem?_getD]
    rw [List.getElem?_set_ne (fun e => h.1 e.symm)]

theorem foldl_set_mem (f : K → Int) (d : Int) : ∀ (t : Table K) (l : List Int) (k : K) (i : Nat),
    (t.map Prod.snd).Nodup → (k, i) ∈ t → i < l.length →
    (t.foldl (fun l kv => l.set kv.2 (f kv.1)) l).getD i d = f k := by
  intro t
  induction t with
  | nil => intro l k i _ h; cases h
  | cons kv t ih =>
    intro l k i hn hm hi
    simp only [List.map_cons, List.nodup_cons] at hn
    simp only [List.foldl_cons]
    rcases List.mem_cons.mp hm with e | hm
    · subst e
      rw [foldl_set_notin f d _ t _ hn.1]
      simp [List.getD_eq_getElem?_getD, hi]
    · exact ih _ k i hn.2 hm (by simpa using hi)

theorem lutGet_lookupTable {t new : Table K} (ok : TableOK t) {k : K} {i j : Nat}
    (h : lookup k t = some i) (hn : lookup k new = some j) :
    lutGet (lookupTable t new) (i : Int) = (j : Int) := by
  have hi := ok.lookup_lt h
  rw [lutGet, if_neg (Int.not_lt.mpr (Int.natCast_nonneg i)), Int.toNat_natCast, lookupTable,
    foldl_set_mem (fun k => Int.ofNat ((lookup k new).getD 0)) (-2) t _ k i ok.snd_nodup (lookup_some_mem h)
      (by rw [List.length_map, List.length_range]; exact Nat.lt_succ_of_lt hi), hn]
  rfl

end Pm.C04
