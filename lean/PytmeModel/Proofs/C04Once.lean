import PytmeModel.Proofs.C04Ext

/-! C04, towards `merge` in the given order = one analyzer fed everything: the merged table is the table of the
joint history; one pass of the merge loop keeps `CellF` (score, identifier of the first attaining submission). -/
namespace Pm.C04
set_option linter.unusedSectionVars false
variable {K : Type} [DecidableEq K]

theorem runFrom_table (h : List (Arr Int × K)) : ∀ (s : State K),
    (runFrom s h).table = tableOf s.table (h.map Prod.snd) := by
  induction h with
  | nil => intro s; rfl
  | cons x l ih =>
    intro s
    have := ih (submit s x.1 x.2)
    simpa [runFrom, tableOf, submit_table, addKey] using this

theorem run_table (shape : List Nat) (thr : Int) (h : List (Arr Int × K)) :
    (run shape thr h).table = tableOf [] (h.map Prod.snd) := runFrom_table h _

theorem tableOf_ok : ∀ (ks : List K) (t0 : Table K), TableOK t0 → TableOK (tableOf t0 ks) := by
  intro ks
  induction ks with
  | nil => intro t0 ok; exact ok
  | cons k ks ih => intro t0 ok; exact ih _ (setdefault_ok ok k)

theorem addKey_of_isSome {t : Table K} {k : K} (h : (lookup k t).isSome) : addKey t k = t := by
  obtain ⟨i, hi⟩ := Option.isSome_iff_exists.mp h
  rw [addKey, setdefault_of_some hi]

theorem addKeys_addKey (t0 : Table K) (ok : TableOK t0) (T : Table K) (k : K) :
    addKeys t0 (addKey T k) = addKey (addKeys t0 T) k := by
  cases hk : lookup k T with
  | some i =>
    have e1 : addKey T k = T := addKey_of_isSome (by simp [hk])
    have hin : (lookup k (addKeys t0 T)).isSome := by
      rw [(addKeys_spec T t0 ok).2.2 k]
      right
      rw [← lookup_isSome_iff]; simp [hk]
    rw [e1, addKey_of_isSome hin]
  | none =>
    have e1 : addKey T k = T ++ [(k, T.length)] := by rw [addKey, setdefault_of_none hk]
    rw [e1]
    simp [addKeys, List.foldl_append]

theorem addKeys_tableOf (t0 : Table K) (ok : TableOK t0) : ∀ (ks : List K) (T : Table K),
    addKeys t0 (tableOf T ks) = tableOf (addKeys t0 T) ks := by
  intro ks
  induction ks with
  | nil => intro T; rfl
  | cons k ks ih =>
    intro T
    simp only [tableOf, List.foldl_cons]
    have := ih (addKey T k)
    simp only [tableOf] at this
    rw [this, addKeys_addKey t0 ok]

theorem tableOf_append (t0 : Table K) (ks ks' : List K) : tableOf t0 (ks ++ ks') = tableOf (tableOf t0 ks) ks' := by
  simp [tableOf, List.foldl_append]

theorem tableOf_extends (t0 : Table K) (ks : List K) : ∃ l, tableOf t0 ks = t0 ++ l := by
  induction ks generalizing t0 with
  | nil => exact ⟨[], (List.append_nil t0).symm⟩
  | cons k ks ih =>
    obtain ⟨l0, hl0⟩ := setdefault_extends t0 k
    obtain ⟨l, hl⟩ := ih (addKey t0 k)
    exact ⟨l0 ++ l, by rw [← List.append_assoc, ← hl0]; exact hl⟩

theorem newTable_fold_tiles (thr : Int) : ∀ (ts : List (Tile K)) (t0 : Table K), TableOK t0 →
    (ts.map (tileStore thr)).foldl (fun t S => addKeys t S.table) t0 = tableOf t0 (allKeys ts) := by
  intro ts
  induction ts with
  | nil => intro t0 _; rfl
  | cons t ts ih =>
    intro t0 ok
    simp only [List.map_cons, List.foldl_cons, allKeys, List.flatMap_cons]
    have e : (tileStore thr t).table = tableOf [] (t.hist.map Prod.snd) := run_table _ _ _
    rw [e, addKeys_tableOf t0 ok]
    have : addKeys t0 ([] : Table K) = t0 := rfl
    rw [this, tableOf_append]
    exact ih _ (tableOf_ok _ _ ok)

theorem bigHist_keys (thr : Int) (out : List Nat) (ts : List (Tile K)) :
    (bigHist thr out ts).map Prod.snd = allKeys ts := by
  induction ts with
  | nil => rfl
  | cons t ts ih =>
    simp only [bigHist, allKeys, List.flatMap_cons, List.map_append] at ih ⊢
    rw [ih]
    simp [tileEmb, List.map_map, Function.comp_def]

/-- rotation `k` belongs to the first submission of `H` that holds `v` at `p` -/
def FirstKey (H : List (Arr Int × K)) (p : List Nat) (k : K) (v : Int) : Prop :=
  ∃ (j : Nat) (a : Arr Int), H[j]? = some (a, k) ∧ a.getD p 0 = v ∧
    ∀ (j' : Nat) (a' : Arr Int) (k' : K), j' < j → H[j']? = some (a', k') → a'.getD p 0 < v

theorem FirstKey.append {H : List (Arr Int × K)} {p : List Nat} {k : K} {v : Int} (h : FirstKey H p k v)
    (E : List (Arr Int × K)) : FirstKey (H ++ E) p k v := by
  obtain ⟨j, a, hj, hv, hb⟩ := h
  have hjl := getElem?_lt hj
  refine ⟨j, a, by rw [List.getElem?_append_left hjl]; exact hj, hv, ?_⟩
  intro j' a' k' hj' hjj
  rw [List.getElem?_append_left (Nat.lt_trans hj' hjl)] at hjj
  exact hb j' a' k' hj' hjj

theorem FirstKey.unique {H : List (Arr Int × K)} {p : List Nat} {k k' : K} {v : Int}
    (h : FirstKey H p k v) (h' : FirstKey H p k' v) : k = k' := by
  obtain ⟨j, a, hj, hv, hb⟩ := h
  obtain ⟨j', a', hj', hv', hb'⟩ := h'
  have e : j = j' := by
    rcases Nat.lt_trichotomy j j' with l | e | l
    · exact absurd (hb' j a k l hj) (by rw [hv]; exact Int.lt_irrefl _)
    · exact e
    · exact absurd (hb j' a' k' l hj') (by rw [hv']; exact Int.lt_irrefl _)
  subst e
  rw [hj] at hj'
  cases hj'
  rfl

/-- `CellOK` for one history `H` instead of tiles, with `FirstKey` in place of `Attains` -/
def CellF (thr : Int) (new : Table K) (H : List (Arr Int × K)) (p : List Nat) (v r : Int) : Prop :=
  v = specMax thr (valsAt H p) ∧
  ((r = -1 ∧ v = thr) ∨ ∃ k i, lookup k new = some i ∧ r = (i : Int) ∧ FirstKey H p k v ∧ thr < v)

theorem embed_getD (thr : Int) {out : List Nat} (off shp : List Nat) (a : Arr Int) {p : List Nat}
    (hp : inShape out p = true) :
    (embed thr out off shp a).getD p 0 = match localIdx off shp p with
      | some q => a.getD q 0
      | none => thr := by
  simp only [embed]
  rw [Arr.getD_ofFn _ _ _ _ hp]
  cases localIdx off shp p <;> rfl

theorem valsAt_tileEmb_some (thr : Int) {out : List Nat} (t : Tile K) {p q : List Nat} (hp : inShape out p = true)
    (hl : localIdx t.offset t.shape p = some q) : valsAt (tileEmb thr out t) p = valsAt t.hist q := by
  simp only [valsAt, tileEmb, List.map_map]
  apply List.map_congr_left
  intro ak _
  simp only [Function.comp]
  rw [embed_getD thr _ _ _ hp, hl]

theorem valsAt_tileEmb_none (thr : Int) {out : List Nat} (t : Tile K) {p : List Nat} (hp : inShape out p = true)
    (hl : localIdx t.offset t.shape p = none) : ∀ x ∈ valsAt (tileEmb thr out t) p, x = thr := by
  intro x hx
  simp only [valsAt, tileEmb, List.map_map, List.mem_map] at hx
  obtain ⟨ak, _, rfl⟩ := hx
  simp only [Function.comp]
  rw [embed_getD thr _ _ _ hp, hl]

theorem mergeStep_cellF {thr : Int} {out : List Nat} {new : Table K} {acc : Arr Int × Arr Int} (t : Tile K)
    {H : List (Arr Int × K)} {p : List Nat} (hp : inShape out p = true)
    (hnew : ∀ k i, lookup k (tileStore thr t).table = some i → (lookup k new).isSome)
    (c : CellF thr new H p (acc.1.getD p 0) (acc.2.getD p 0)) :
    CellF thr new (H ++ tileEmb thr out t) p ((mergeStep out new acc (tileStore thr t)).1.getD p 0)
      ((mergeStep out new acc (tileStore thr t)).2.getD p 0) := by
  obtain ⟨cv, cr⟩ := c
  have hge : thr ≤ acc.1.getD p 0 := by rw [cv]; exact le_specMax _ _
  have inv := inv_run t.shape thr t.hist
  have hbox := tileStore_localIdx thr t p
  have keep : (acc.2.getD p 0 = -1 ∧ acc.1.getD p 0 = thr) ∨ ∃ k i, lookup k new = some i ∧
      acc.2.getD p 0 = (i : Int) ∧ FirstKey (H ++ tileEmb thr out t) p k (acc.1.getD p 0) ∧ thr < acc.1.getD p 0 := by
    rcases cr with h | ⟨k, i, a, b, c, d⟩
    · exact Or.inl h
    · exact Or.inr ⟨k, i, a, b, c.append _, d⟩
  cases hl : localIdx t.offset t.shape p with
  | none =>
    obtain ⟨e1, e2⟩ := mergeStep_getD_none (new := new) (acc := acc) hp (hbox.trans hl)
    rw [e1, e2]
    refine ⟨?_, keep⟩
    rw [valsAt_append, specMax_append, ← cv]
    exact ((specMax_eq_thr_iff _ _).mpr fun x hx => (valsAt_tileEmb_none thr t hp hl x hx) ▸ hge).symm
  | some q =>
    obtain ⟨e1, e2⟩ := mergeStep_getD_some (new := new) (acc := acc) hp (hbox.trans hl)
    have hq := localIdx_inShape hl
    have sv : (tileStore thr t).scores.getD q 0 = specMax thr (valsAt t.hist q) := inv.score q hq
    rw [e1, e2]
    refine ⟨?_, ?_⟩
    · rw [valsAt_append, specMax_append, ← cv, valsAt_tileEmb_some thr t hp hl, sv, max_specMax _ hge]
    · by_cases hgt : (tileStore thr t).scores.getD q 0 > acc.1.getD p 0
      · rw [if_pos hgt, Int.max_eq_right (Int.le_of_lt hgt)]
        rcases inv.rot q hq with ⟨_, h2⟩ | ⟨j, a, k, i, hj, hk, hri, hv, _, hb⟩
        · have h2' : (tileStore thr t).scores.getD q 0 = thr := h2
          exact absurd hgt (by rw [h2']; exact Int.not_lt.mpr hge)
        · -- the tile's first attaining submission, shifted by the submissions made before, is the first overall
          obtain ⟨n, hn⟩ := Option.isSome_iff_exists.mp (hnew k i hk)
          refine Or.inr ⟨k, n, hn, (congrArg (lutGet _) hri).trans (lutGet_lookupTable inv.table_ok hk hn), ?_,
            Int.lt_of_le_of_lt hge hgt⟩
          refine ⟨H.length + j, embed thr out t.offset t.shape a, ?_, ?_, ?_⟩
          · rw [List.getElem?_append_right (Nat.le_add_right _ _), Nat.add_sub_cancel_left, tileEmb,
              List.getElem?_map, hj]
            rfl
          · rw [embed_getD thr _ _ _ hp, hl]; exact hv
          · intro j' a' k' hj' hjj
            by_cases hlt : j' < H.length
            · rw [List.getElem?_append_left hlt] at hjj
              refine Int.lt_of_le_of_lt ?_ hgt
              rw [cv]
              exact mem_le_specMax (List.mem_map.mpr ⟨(a', k'), List.mem_of_getElem? hjj, rfl⟩)
            · rw [List.getElem?_append_right (Nat.le_of_not_lt hlt), tileEmb, List.getElem?_map] at hjj
              cases hx : t.hist[j' - H.length]? with
              | none => rw [hx] at hjj; cases hjj
              | some x =>
                rw [hx] at hjj
                cases hjj
                rw [embed_getD thr _ _ _ hp, hl]
                exact hb (j' - H.length) x.1 x.2 (Nat.sub_lt_left_of_lt_add (Nat.le_of_not_lt hlt) hj') hx
      · rw [if_neg hgt, Int.max_eq_left (Int.not_lt.mp hgt)]; exact keep

theorem mergeFold_cellF {thr : Int} {out : List Nat} {new : Table K} {p : List Nat} (hp : inShape out p = true) :
    ∀ (ts : List (Tile K)) (acc : Arr Int × Arr Int) (H : List (Arr Int × K)),
    (∀ t ∈ ts, ∀ k i, lookup k (tileStore thr t).table = some i → (lookup k new).isSome) →
    CellF thr new H p (acc.1.getD p 0) (acc.2.getD p 0) →
    let F := (ts.map (tileStore thr)).foldl (mergeStep out new) acc
    CellF thr new (H ++ bigHist thr out ts) p (F.1.getD p 0) (F.2.getD p 0) := by
  intro ts
  induction ts with
  | nil => intro acc H _ c; rw [bigHist, List.flatMap_nil, List.append_nil]; exact c
  | cons t ts ih =>
    intro acc H hnew c
    have c' := mergeStep_cellF (out := out) (acc := acc) t hp (hnew t List.mem_cons_self) c
    have := ih (mergeStep out new acc (tileStore thr t)) (H ++ tileEmb thr out t)
      (fun x hx => hnew x (List.mem_cons_of_mem _ hx)) c'
    rwa [List.append_assoc] at this

theorem mergeMany_tiles_cellF (thr : Int) (ts : List (Tile K)) {p : List Nat}
    (hp : inShape (outShape (ts.map (tileStore thr))) p = true) :
    CellF thr (newTable (ts.map (tileStore thr))) (bigHist thr (outShape (ts.map (tileStore thr))) ts) p
      ((mergeMany thr (ts.map (tileStore thr))).scores.getD p 0)
      ((mergeMany thr (ts.map (tileStore thr))).rots.getD p 0) := by
  have hnew : ∀ t ∈ ts, ∀ k i, lookup k (tileStore thr t).table = some i →
      (lookup k (newTable (ts.map (tileStore thr)))).isSome := by
    intro t ht k i hk
    rw [newTable_keys]
    exact ⟨tileStore thr t, List.mem_map.mpr ⟨t, ht, rfl⟩, by rw [hk]; rfl⟩
  have cM := mergeFold_cellF hp ts (Arr.ofFn _ (fun _ => thr), Arr.ofFn _ (fun _ => (-1 : Int))) [] hnew (by
    rw [Arr.getD_ofFn _ _ _ _ hp, Arr.getD_ofFn _ _ _ _ hp]
    exact ⟨rfl, Or.inl ⟨rfl, rfl⟩⟩)
  rwa [List.nil_append] at cM

end Pm.C04
