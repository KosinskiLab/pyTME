import PytmeModel.Proofs.C04Merge

/-! `Represents`: a store holds the aggregate of a collection of partial problems (C04).  One pass of the merge loop at a
voxel, the fold over stores, `merge` as it is called. -/
namespace Pm.C04
set_option linter.unusedSectionVars false
variable {K : Type} [DecidableEq K]

/-- rotation `k` was submitted, to some tile covering `p`, with an array holding `v` at `p` -/
def Attains (ts : List (Tile K)) (p : List Nat) (k : K) (v : Int) : Prop :=
  ∃ t ∈ ts, ∃ q a, localIdx t.offset t.shape p = some q ∧ (a, k) ∈ t.hist ∧ a.getD q 0 = v

theorem Attains.mono {ts ts' : List (Tile K)} {p : List Nat} {k : K} {v : Int}
    (h : Attains ts p k v) (hsub : ∀ t ∈ ts, t ∈ ts') : Attains ts' p k v := by
  obtain ⟨t, ht, r⟩ := h
  exact ⟨t, hsub t ht, r⟩

/-- value / identifier pair at the absolute voxel `p` is what the property demands for the tiles `ts`,
identifiers read through the table `tab` -/
def CellOK (thr : Int) (tab : Table K) (ts : List (Tile K)) (p : List Nat) (v r : Int) : Prop :=
  v = specMax thr (allVals ts p) ∧
  ((r = -1 ∧ v = thr) ∨ ∃ k i, lookup k tab = some i ∧ r = (i : Int) ∧ Attains ts p k v ∧ thr < v)

/-- The store `S` (scores, offset, identifiers, table) is a correct aggregate, with threshold `thr`, of
everything submitted through the tiles `ts` — on its box; and nothing was submitted outside its box. -/
structure Represents (thr : Int) (S : Store K) (ts : List (Tile K)) : Prop where
  table_ok : TableOK S.table
  keys : ∀ k, (lookup k S.table).isSome ↔ ∃ t ∈ ts, ∃ a, (a, k) ∈ t.hist
  outside : ∀ p, localIdx S.offset S.scores.shape p = none → allVals ts p = []
  cell : ∀ p q, localIdx S.offset S.scores.shape p = some q →
    CellOK thr S.table ts p (S.scores.getD q 0) (S.rots.getD q 0)

theorem allVals_append (a b : List (Tile K)) (p : List Nat) : allVals (a ++ b) p = allVals a p ++ allVals b p := by
  simp [allVals, List.flatMap_append]

theorem allVals_single (t : Tile K) (p : List Nat) : allVals [t] p = tileVals t p := by
  simp [allVals]

theorem tileVals_of_some {t : Tile K} {p q : List Nat} (h : localIdx t.offset t.shape p = some q) :
    tileVals t p = valsAt t.hist q := by
  rw [tileVals, h]

theorem tileVals_of_none {t : Tile K} {p : List Nat} (h : localIdx t.offset t.shape p = none) :
    tileVals t p = [] := by
  rw [tileVals, h]

theorem tileStore_localIdx (thr : Int) (t : Tile K) (p : List Nat) :
    localIdx (tileStore thr t).offset (tileStore thr t).scores.shape p = localIdx t.offset t.shape p :=
  congrArg (localIdx t.offset · p) (inv_run t.shape thr t.hist).shape_sc

theorem tile_represents (thr : Int) (t : Tile K) : Represents thr (tileStore thr t) [t] := by
  have inv := inv_run t.shape thr t.hist
  have hbox := tileStore_localIdx thr t
  refine ⟨inv.table_ok, ?_, ?_, ?_⟩
  · intro k
    refine (inv.keys k).trans ⟨?_, ?_⟩
    · rintro ⟨a, ha⟩; exact ⟨t, List.mem_singleton.mpr rfl, a, ha⟩
    · rintro ⟨t', ht', a, ha⟩; exact ⟨a, List.mem_singleton.mp ht' ▸ ha⟩
  · intro p h
    rw [allVals_single, tileVals_of_none ((hbox p).symm.trans h)]
  · intro p q h
    rw [hbox] at h
    have hq := localIdx_inShape h
    refine ⟨?_, ?_⟩
    · rw [allVals_single, tileVals_of_some h]; exact inv.score q hq
    · rcases inv.rot q hq with hl | ⟨_, a, k, i, hj, hl, hr, hv, ht, _⟩
      · exact Or.inl hl
      · exact Or.inr ⟨k, i, hl, hr, ⟨t, List.mem_singleton.mpr rfl, q, a, h, List.mem_of_getElem? hj, hv⟩, ht⟩

theorem mergeStep_shape (out : List Nat) (new : Table K) (acc : Arr Int × Arr Int) (S : Store K) :
    (mergeStep out new acc S).1.shape = out ∧ (mergeStep out new acc S).2.shape = out := ⟨rfl, rfl⟩

theorem mergeStep_getD_none {out : List Nat} {new : Table K} {acc : Arr Int × Arr Int} {S : Store K} {p : List Nat}
    (hp : inShape out p = true) (hl : localIdx S.offset S.scores.shape p = none) :
    (mergeStep out new acc S).1.getD p 0 = acc.1.getD p 0 ∧ (mergeStep out new acc S).2.getD p 0 = acc.2.getD p 0 := by
  constructor
  · refine (Arr.getD_ofFn out p _ 0 hp).trans ?_
    rw [hl]
  · refine (Arr.getD_ofFn out p _ 0 hp).trans ?_
    rw [hl]

theorem mergeStep_getD_some {out : List Nat} {new : Table K} {acc : Arr Int × Arr Int} {S : Store K} {p q : List Nat}
    (hp : inShape out p = true) (hl : localIdx S.offset S.scores.shape p = some q) :
    (mergeStep out new acc S).1.getD p 0 = max (acc.1.getD p 0) (S.scores.getD q 0) ∧
    (mergeStep out new acc S).2.getD p 0 =
      if S.scores.getD q 0 > acc.1.getD p 0 then lutGet (lookupTable S.table new) (S.rots.getD q 0)
      else acc.2.getD p 0 := by
  constructor
  · refine (Arr.getD_ofFn out p _ 0 hp).trans ?_
    rw [hl]
    exact ite_gt_eq_max _ _
  · refine (Arr.getD_ofFn out p _ 0 hp).trans ?_
    rw [hl]

theorem mergeStep_cell {thr thr' : Int} {out : List Nat} {new : Table K} {acc : Arr Int × Arr Int} {S : Store K}
    {done ts : List (Tile K)} {p : List Nat} (hle : thr ≤ thr')
    (hp : inShape out p = true) (rep : Represents thr S ts)
    (hnew : ∀ k i, lookup k S.table = some i → (lookup k new).isSome)
    (c : CellOK thr' new done p (acc.1.getD p 0) (acc.2.getD p 0)) :
    CellOK thr' new (done ++ ts) p ((mergeStep out new acc S).1.getD p 0) ((mergeStep out new acc S).2.getD p 0) := by
  obtain ⟨cv, cr⟩ := c
  have hge' : thr' ≤ acc.1.getD p 0 := by rw [cv]; exact le_specMax _ _
  have hge : thr ≤ acc.1.getD p 0 := Int.le_trans hle hge'
  have keep : (acc.2.getD p 0 = -1 ∧ acc.1.getD p 0 = thr') ∨ ∃ k i, lookup k new = some i ∧
      acc.2.getD p 0 = (i : Int) ∧ Attains (done ++ ts) p k (acc.1.getD p 0) ∧ thr' < acc.1.getD p 0 := by
    rcases cr with h | ⟨k, i, a, b, c, d⟩
    · exact Or.inl h
    · exact Or.inr ⟨k, i, a, b, c.mono fun t h => List.mem_append_left _ h, d⟩
  cases hl : localIdx S.offset S.scores.shape p with
  | none =>
    obtain ⟨e1, e2⟩ := mergeStep_getD_none (new := new) (acc := acc) hp hl
    rw [e1, e2]
    refine ⟨?_, keep⟩
    rw [allVals_append, rep.outside p hl, List.append_nil]; exact cv
  | some q =>
    obtain ⟨e1, e2⟩ := mergeStep_getD_some (new := new) (acc := acc) hp hl
    obtain ⟨sv, sr⟩ := rep.cell p q hl
    rw [e1, e2]
    refine ⟨?_, ?_⟩
    · rw [allVals_append, specMax_append, ← cv, sv, max_specMax _ hge]
    · by_cases hgt : S.scores.getD q 0 > acc.1.getD p 0
      · rw [if_pos hgt, Int.max_eq_right (Int.le_of_lt hgt)]
        rcases sr with ⟨_, h2⟩ | ⟨k, i, hk, hr, hat, _⟩
        · exact absurd hgt (by rw [h2]; exact Int.not_lt.mpr hge)
        · obtain ⟨j, hj⟩ := Option.isSome_iff_exists.mp (hnew k i hk)
          exact Or.inr ⟨k, j, hj, by rw [hr]; exact lutGet_lookupTable rep.table_ok hk hj,
            hat.mono fun t h => List.mem_append_right _ h, Int.lt_of_le_of_lt hge' hgt⟩
      · rw [if_neg hgt, Int.max_eq_left (Int.not_lt.mp hgt)]; exact keep

theorem mergeFold_cell {thr' : Int} {out : List Nat} {new : Table K} {p : List Nat} (hp : inShape out p = true) :
    ∀ (pairs : List (Store K × List (Tile K))) (acc : Arr Int × Arr Int) (done : List (Tile K)),
    (∀ pr ∈ pairs, ∃ thr, thr ≤ thr' ∧ Represents thr pr.1 pr.2) →
    (∀ pr ∈ pairs, ∀ k i, lookup k pr.1.table = some i → (lookup k new).isSome) →
    CellOK thr' new done p (acc.1.getD p 0) (acc.2.getD p 0) →
    let F := (pairs.map Prod.fst).foldl (mergeStep out new) acc
    CellOK thr' new (done ++ (pairs.map Prod.snd).flatten) p (F.1.getD p 0) (F.2.getD p 0) := by
  intro pairs
  induction pairs with
  | nil =>
    intro acc done _ _ c
    show CellOK thr' new (done ++ []) p _ _
    rw [List.append_nil]; exact c
  | cons pr pairs ih =>
    intro acc done hrep hnew c
    obtain ⟨thr, hle, rep⟩ := hrep pr List.mem_cons_self
    have c' := mergeStep_cell (out := out) (acc := acc) hle hp rep (hnew pr List.mem_cons_self) c
    have := ih (mergeStep out new acc pr.1) (done ++ pr.2)
      (fun x hx => hrep x (List.mem_cons_of_mem _ hx)) (fun x hx => hnew x (List.mem_cons_of_mem _ hx)) c'
    rwa [List.append_assoc] at this

theorem mergeFold_shape (out : List Nat) (new : Table K) : ∀ (ss : List (Store K)) (acc : Arr Int × Arr Int),
    acc.1.shape = out → acc.2.shape = out →
    (ss.foldl (mergeStep out new) acc).1.shape = out ∧ (ss.foldl (mergeStep out new) acc).2.shape = out := by
  intro ss
  induction ss with
  | nil => intro acc h1 h2; exact ⟨h1, h2⟩
  | cons S ss ih => intro acc _ _; exact ih _ rfl rfl

theorem allVals_flatten_nil (tss : List (List (Tile K))) (p : List Nat)
    (h : ∀ ts ∈ tss, allVals ts p = []) : allVals tss.flatten p = [] := by
  induction tss with
  | nil => rfl
  | cons ts tss ih =>
    rw [List.flatten_cons, allVals_append, h ts List.mem_cons_self, ih (fun x hx => h x (List.mem_cons_of_mem _ hx))]
    rfl

theorem mergeMany_shape (thr : Int) (ss : List (Store K)) : (mergeMany thr ss).scores.shape = outShape ss :=
  (mergeFold_shape (outShape ss) (newTable ss) ss
    (Arr.ofFn (outShape ss) (fun _ => thr), Arr.ofFn (outShape ss) (fun _ => -1)) rfl rfl).1

theorem mergeMany_localIdx (thr : Int) (ss : List (Store K)) (p : List Nat) :
    localIdx (mergeMany thr ss).offset (mergeMany thr ss).scores.shape p =
      if inShape (outShape ss) p = true then some p else none := by
  rw [mergeMany_shape]
  exact localIdx_zero (outShape ss) p

/-- the general path of `merge` called with a threshold `thr'` (any number of stores of equal rank): stores that
are correct aggregates for thresholds not above `thr'` (each its own) merge into a correct aggregate for `thr'` of
everything its inputs represent -/
theorem mergeMany_represents_raise {thr' : Int} {d : Nat} (pairs : List (Store K × List (Tile K)))
    (hrep : ∀ pr ∈ pairs, ∃ thr, thr ≤ thr' ∧ Represents thr pr.1 pr.2) (hd : SameDim d (pairs.map Prod.fst)) :
    Represents thr' (mergeMany thr' (pairs.map Prod.fst)) (pairs.map Prod.snd).flatten := by
  have hmem : ∀ pr ∈ pairs, pr.1 ∈ pairs.map Prod.fst := fun pr hpr => List.mem_map.mpr ⟨pr, hpr, rfl⟩
  have hnew : ∀ pr ∈ pairs, ∀ k i, lookup k pr.1.table = some i → (lookup k (newTable (pairs.map Prod.fst))).isSome := by
    intro pr hpr k i hk
    rw [newTable_keys]
    exact ⟨pr.1, hmem pr hpr, by rw [hk]; rfl⟩
  refine ⟨newTable_ok _, ?_, ?_, ?_⟩
  · intro k
    refine (newTable_keys _ k).trans ⟨?_, ?_⟩
    · rintro ⟨S, hS, hk⟩
      obtain ⟨pr, hpr, rfl⟩ := List.mem_map.mp hS
      obtain ⟨_, _, rep⟩ := hrep pr hpr
      obtain ⟨t, ht, a, ha⟩ := (rep.keys k).mp hk
      exact ⟨t, List.mem_flatten.mpr ⟨pr.2, List.mem_map.mpr ⟨pr, hpr, rfl⟩, ht⟩, a, ha⟩
    · rintro ⟨t, ht, a, ha⟩
      obtain ⟨ts, hts, htm⟩ := List.mem_flatten.mp ht
      obtain ⟨pr, hpr, rfl⟩ := List.mem_map.mp hts
      obtain ⟨_, _, rep⟩ := hrep pr hpr
      exact ⟨pr.1, hmem pr hpr, (rep.keys k).mpr ⟨t, htm, a, ha⟩⟩
  · intro p hp
    rw [mergeMany_localIdx] at hp
    apply allVals_flatten_nil
    intro ts hts
    obtain ⟨pr, hpr, rfl⟩ := List.mem_map.mp hts
    obtain ⟨_, _, rep⟩ := hrep pr hpr
    apply rep.outside
    cases hl : localIdx pr.1.offset pr.1.scores.shape p with
    | none => rfl
    | some q =>
      rw [if_pos (localIdx_inShape_of_le hl (boxEnd_le_outShape hd (hmem pr hpr)))] at hp
      cases hp
  · intro p q hl
    rw [mergeMany_localIdx] at hl
    by_cases hp : inShape (outShape (pairs.map Prod.fst)) p = true
    · rw [if_pos hp] at hl
      cases hl
      refine mergeFold_cell hp pairs (Arr.ofFn _ (fun _ => thr'), Arr.ofFn _ (fun _ => (-1 : Int))) [] hrep hnew ?_
      show CellOK thr' _ [] p ((Arr.ofFn _ (fun _ => thr')).getD p 0) ((Arr.ofFn _ (fun _ => (-1 : Int))).getD p 0)
      rw [Arr.getD_ofFn _ _ _ _ hp, Arr.getD_ofFn _ _ _ _ hp]
      exact ⟨rfl, Or.inl ⟨rfl, rfl⟩⟩
    · rw [if_neg hp] at hl
      cases hl

theorem mergeMany_represents {thr : Int} {d : Nat} (pairs : List (Store K × List (Tile K)))
    (hrep : ∀ pr ∈ pairs, Represents thr pr.1 pr.2) (hd : SameDim d (pairs.map Prod.fst)) :
    Represents thr (mergeMany thr (pairs.map Prod.fst)) (pairs.map Prod.snd).flatten :=
  mergeMany_represents_raise pairs (fun pr hpr => ⟨thr, Int.le_refl _, hrep pr hpr⟩) hd

theorem merge_two_represents {thr : Int} {d : Nat} {A B : Store K} {as bs : List (Tile K)}
    (RA : Represents thr A as) (RB : Represents thr B bs)
    (hA : A.offset.length = d ∧ A.scores.shape.length = d) (hB : B.offset.length = d ∧ B.scores.shape.length = d)
    {M : Store K} (hM : merge thr [A, B] = some M) : Represents thr M (as ++ bs) := by
  cases hM
  have R : Represents thr (mergeMany thr [A, B]) (as ++ (bs ++ [])) :=
    mergeMany_represents (d := d) [(A, as), (B, bs)]
      (List.forall_mem_cons.mpr ⟨RA, List.forall_mem_cons.mpr ⟨RB, fun _ h => nomatch h⟩⟩)
      (List.forall_mem_cons.mpr ⟨hA, List.forall_mem_cons.mpr ⟨hB, fun _ h => nomatch h⟩⟩)
  rwa [List.append_nil] at R

theorem mergeOpt_general (thr : Int) {ps : List (Option (Store K))} (h : ps.length ≠ 1) :
    mergeOpt thr ps =
      if (ps.filterMap id).isEmpty then none else some (mergeMany thr (ps.filterMap id)) := by
  cases ps with
  | nil => rfl
  | cons p1 rest =>
    cases rest with
    | nil => exact absurd rfl h
    | cons p2 rest =>
      simp only [mergeOpt]
      cases List.filterMap id (p1 :: p2 :: rest) <;> rfl

theorem mergeOpt_eq_some {thr : Int} {ps : List (Option (Store K))} {ss : List (Store K)} {M : Store K}
    (h : ps.length ≠ 1) (hps : ps.filterMap id = ss) (hM : mergeOpt thr ps = some M) : mergeMany thr ss = M := by
  rw [mergeOpt_general thr h, hps] at hM
  split at hM
  · cases hM
  · exact Option.some.inj hM

theorem mergeOpt_map_some (thr : Int) (ss : List (Store K)) : mergeOpt thr (ss.map some) = merge thr ss := by
  match ss with
  | [] => rfl
  | [_] => rfl
  | s1 :: s2 :: rest =>
    have h : (rest.map some).filterMap id = rest := by rw [List.filterMap_map]; exact List.filterMap_some
    exact congrArg (fun l => some (mergeMany thr (s1 :: s2 :: l))) h

end Pm.C04
