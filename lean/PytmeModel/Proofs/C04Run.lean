import PytmeModel.Proofs.C04

/-! Invariant of one analyzer over its submission history (C04). -/
namespace Pm.C04
set_option linter.unusedSectionVars false
variable {K : Type} [DecidableEq K]

theorem getElem?_lt {α : Type} {l : List α} {j : Nat} {x : α} (h : l[j]? = some x) : j < l.length :=
  (List.getElem?_eq_some_iff.mp h).1

/-- An analyzer of shape `shape` and threshold `thr` after exactly the history `h`.  `rot`: an improved voxel holds
the identifier of the *first* submission that attains the stored value there (strict `>` in the update: ties keep
the first). -/
structure Inv (shape : List Nat) (thr : Int) (h : List (Arr Int × K)) (s : State K) : Prop where
  shape_sc : s.scores.shape = shape
  table_ok : TableOK s.table
  keys : ∀ k, (lookup k s.table).isSome ↔ ∃ a, (a, k) ∈ h
  score : ∀ idx, inShape shape idx = true → s.scores.getD idx 0 = specMax thr (valsAt h idx)
  rot : ∀ idx, inShape shape idx = true →
    (s.rots.getD idx 0 = -1 ∧ s.scores.getD idx 0 = thr) ∨
    (∃ j a k i, h[j]? = some (a, k) ∧ lookup k s.table = some i ∧ s.rots.getD idx 0 = (i : Int) ∧
      a.getD idx 0 = s.scores.getD idx 0 ∧ thr < s.scores.getD idx 0 ∧
      ∀ (j' : Nat) (a' : Arr Int) (k' : K), j' < j → h[j']? = some (a', k') → a'.getD idx 0 < s.scores.getD idx 0)

theorem inv_init (shape : List Nat) (thr : Int) : Inv (K := K) shape thr [] (init shape thr) where
  shape_sc := rfl
  table_ok := tableOK_nil
  keys := fun _ => ⟨fun h => absurd h Bool.false_ne_true, fun ⟨_, h⟩ => nomatch h⟩
  score := fun idx h => Arr.getD_ofFn shape idx (fun _ => thr) 0 h
  rot := fun idx h => Or.inl ⟨Arr.getD_ofFn shape idx (fun _ => -1) 0 h, Arr.getD_ofFn shape idx (fun _ => thr) 0 h⟩

theorem inv_submit {shape : List Nat} {thr : Int} {h : List (Arr Int × K)} {s : State K}
    (inv : Inv shape thr h s) (a : Arr Int) (k : K) : Inv shape thr (h ++ [(a, k)]) (submit s a k) := by
  obtain ⟨hlk, hold, hkeys⟩ := setdefault_spec s.table k
  have hsh : ∀ {idx}, inShape shape idx = true → inShape s.scores.shape idx = true :=
    fun hin => inv.shape_sc ▸ hin
  refine ⟨inv.shape_sc, setdefault_ok inv.table_ok k, ?_, ?_, ?_⟩
  · intro k'
    rw [submit_table, hkeys k', inv.keys k']
    constructor
    · rintro (⟨a', ha'⟩ | rfl)
      · exact ⟨a', List.mem_append_left _ ha'⟩
      · exact ⟨a, List.mem_append_right _ List.mem_cons_self⟩
    · rintro ⟨a', ha'⟩
      rcases List.mem_append.mp ha' with h1 | h1
      · exact Or.inl ⟨a', h1⟩
      · exact Or.inr (Prod.mk.inj (List.mem_singleton.mp h1)).2
  · intro idx hin
    rw [submit_scores_getD s a k idx (hsh hin), inv.score idx hin, valsAt_snoc, specMax_append]
    rfl
  · intro idx hin
    rw [submit_scores_getD s a k idx (hsh hin), submit_rots_getD s a k idx (hsh hin), submit_table]
    have hsc := inv.score idx hin
    have hge : thr ≤ s.scores.getD idx 0 := hsc ▸ le_specMax _ _
    by_cases hgt : a.getD idx 0 > s.scores.getD idx 0
    · -- strictly above everything submitted before: this submission is the first to attain the new value
      rw [if_pos hgt, Int.max_eq_right (Int.le_of_lt hgt)]
      refine Or.inr ⟨h.length, a, k, _, List.getElem?_concat_length, hlk, rfl, rfl, Int.lt_of_le_of_lt hge hgt, ?_⟩
      intro j' a' k' hj' hj
      rw [List.getElem?_append_left hj'] at hj
      refine Int.lt_of_le_of_lt ?_ hgt
      rw [hsc]
      exact mem_le_specMax (List.mem_map.mpr ⟨(a', k'), List.mem_of_getElem? hj, rfl⟩)
    · rw [if_neg hgt, Int.max_eq_left (Int.not_lt.mp hgt)]
      rcases inv.rot idx hin with hm | ⟨j, a0, k0, i, hj, hl, hri, hv, ht, hb⟩
      · exact Or.inl hm
      · have hjl := getElem?_lt hj
        refine Or.inr ⟨j, a0, k0, i, (List.getElem?_append_left hjl).trans hj, hold k0 i hl, hri, hv, ht, ?_⟩
        intro j' a' k' hj' hjj
        rw [List.getElem?_append_left (Nat.lt_trans hj' hjl)] at hjj
        exact hb j' a' k' hj' hjj

theorem foldl_snoc_invariant {σ α : Type} {I : List α → σ → Prop} {step : σ → α → σ}
    (hstep : ∀ h s a, I h s → I (h ++ [a]) (step s a)) (l : List α) :
    ∀ (h0 : List α) (s : σ), I h0 s → I (h0 ++ l) (l.foldl step s) := by
  induction l with
  | nil => intro h0 s inv; rw [List.append_nil]; exact inv
  | cons x l ih =>
    intro h0 s inv
    have := ih (h0 ++ [x]) (step s x) (hstep h0 s x inv)
    rwa [List.append_assoc] at this

theorem inv_run (shape : List Nat) (thr : Int) (h : List (Arr Int × K)) : Inv shape thr h (run shape thr h) := by
  have := foldl_snoc_invariant (I := Inv shape thr) (fun _ _ x inv => inv_submit inv x.1 x.2) h []
    (init shape thr) (inv_init shape thr)
  rwa [List.nil_append] at this

end Pm.C04
