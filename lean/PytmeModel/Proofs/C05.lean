import PytmeModel.Model.C05Batch
import PytmeModel.Proofs.Common

/-! Helper lemmas for C05: distance filter (with and without batch axes), top-k, `_update`. -/
namespace Pm.C05

/-- `mul_self_nonneg` for `Int`, so that its uses need no search through the ordered-ring instances -/
theorem mul_self_nonneg_int (a : Int) : 0 ≤ a * a := Int.natAbs_mul_self (a := a) ▸ Int.natCast_nonneg _

theorem d2_comm (p q : List Int) : d2 p q = d2 q p := by
  induction p generalizing q with
  | nil => cases q <;> rfl
  | cons a as ih =>
    cases q with
    | nil => rfl
    | cons b bs => rw [d2, d2, ih bs, ← Int.neg_sub a b, Int.neg_mul_neg]

theorem d2_nonneg (p q : List Int) : 0 ≤ d2 p q := by
  fun_induction d2 p q with
  | case1 a as b bs ih => exact Int.add_nonneg (mul_self_nonneg_int _) ih
  | case2 => exact Int.le_refl 0

theorem d2_self (p : List Int) : d2 p p = 0 := by
  induction p with
  | nil => rfl
  | cons a p ih => rw [d2, ih, Int.sub_self, Int.zero_mul, Int.add_zero]

theorem d2_ge_coord {a b : Int} (p q : List Int) (j : Nat) (hp : p[j]? = some a) (hq : q[j]? = some b) :
    (a - b) * (a - b) ≤ d2 p q := by
  fun_induction d2 p q generalizing j with
  | case1 x xs y ys ih =>
    cases j with
    | zero => cases hp; cases hq; exact Int.le_add_of_nonneg_right (d2_nonneg xs ys)
    | succ j => exact Int.le_trans (ih j hp hq) (Int.le_add_of_nonneg_left (mul_self_nonneg_int _))
  | case2 p q h =>
    cases p with
    | nil => cases hp
    | cons x xs => cases q with
      | nil => cases hq
      | cons y ys => exact (h x xs y ys rfl rfl).elim

theorem far_comm (md : Nat) (p q : List Int) : far md p q = far md q p := by
  unfold far; rw [d2_comm]

theorem farB_comm (md : Nat) (bd : Option (List Nat)) (p q : List Int) : farB md bd p q = farB md bd q p := by
  cases bd <;> exact far_comm md _ _

/-- what the C++ test means: kept pairs are strictly farther apart than `min_distance`
(Euclidean; in fact at least `min_distance + 1`). -/
theorem far_sep {md : Nat} {p q : List Int} (h : far md p q = true) :
    (md : Int) * (md : Int) < d2 p q := by
  have h' := of_decide_eq_true h
  rw [Int.add_mul, Int.mul_add, Int.mul_one, Int.one_mul] at h'
  omega

theorem far_irrefl (md : Nat) (p : List Int) : far md p p = false := by
  unfold far
  rw [d2_self, decide_eq_false_iff_not, Int.add_mul, Int.mul_add, Int.mul_one, Int.one_mul]
  have := mul_self_nonneg_int md
  omega

/-- the relation the reported list satisfies pairwise -/
def FarP (md : Nat) (a b : Peak) : Prop := far md a.pos b.pos = true

/-- the same with batch axes; `FarPB md none` is `FarP md` -/
def FarPB (md : Nat) (bd : Option (List Nat)) (a b : Peak) : Prop := farB md bd a.pos b.pos = true

/-! `greedyAux md` is `greedyAuxB md none` and `filterPoints md` is `filterPointsB md none`, so the pass is
analysed once, with batch axes. -/

theorem greedyAuxB_none (md : Nat) (rest kept : List Peak) :
    greedyAuxB md none kept rest = greedyAux md kept rest := by
  fun_induction greedyAux md kept rest with
  | case1 kept => rfl
  | case2 kept x xs h ih => rw [greedyAuxB, ← ih]; exact if_pos h
  | case3 kept x xs h ih => rw [greedyAuxB, ← ih]; exact if_neg h

theorem filterPointsB_none (md : Nat) (xs : List Peak) : filterPointsB md none xs = filterPoints md xs := by
  rw [filterPointsB, filterPoints, greedyAuxB_none]

theorem greedyAuxB_eq_append (md : Nat) (bd : Option (List Nat)) (rest kept : List Peak) :
    ∃ l, l.Sublist rest ∧ greedyAuxB md bd kept rest = kept ++ l := by
  fun_induction greedyAuxB md bd kept rest with
  | case1 kept => exact ⟨[], List.Sublist.refl _, (List.append_nil kept).symm⟩
  | case2 kept x xs _ ih =>
    obtain ⟨l, hl, he⟩ := ih
    exact ⟨x :: l, hl.cons_cons x, by rw [he, List.append_assoc]; rfl⟩
  | case3 kept x xs _ ih =>
    obtain ⟨l, hl, he⟩ := ih
    exact ⟨l, hl.cons x, he⟩

theorem greedyAuxB_kept (md : Nat) (bd : Option (List Nat)) (rest : List Peak) {kept : List Peak} {p : Peak}
    (h : p ∈ kept) : p ∈ greedyAuxB md bd kept rest := by
  obtain ⟨l, _, he⟩ := greedyAuxB_eq_append md bd rest kept
  rw [he]; exact List.mem_append_left l h

theorem greedyAuxB_pairwise (md : Nat) (bd : Option (List Nat)) (rest kept : List Peak)
    (h : kept.Pairwise (FarPB md bd)) : (greedyAuxB md bd kept rest).Pairwise (FarPB md bd) := by
  fun_induction greedyAuxB md bd kept rest with
  | case1 kept => exact h
  | case2 kept x xs hall ih =>
    refine ih (List.pairwise_append.mpr ⟨h, List.pairwise_singleton _ _, fun a ha b hb => ?_⟩)
    rw [List.mem_singleton.mp hb]
    exact (farB_comm md bd a.pos x.pos).trans (List.all_eq_true.mp hall a ha)
  | case3 kept x xs _ ih => exact ih h

theorem greedyAuxB_dropped (md : Nat) (bd : Option (List Nat)) (rest kept : List Peak) (x : Peak)
    (h : x ∈ rest) (hn : x ∉ greedyAuxB md bd kept rest) :
    ∃ k ∈ greedyAuxB md bd kept rest, farB md bd x.pos k.pos = false := by
  fun_induction greedyAuxB md bd kept rest with
  | case1 kept => cases h
  | case2 kept y ys hall ih =>
    rcases List.mem_cons.mp h with rfl | h'
    · exact absurd (greedyAuxB_kept md bd ys (List.mem_append_right kept (List.mem_singleton_self x))) hn
    · exact ih h' hn
  | case3 kept y ys hall ih =>
    rcases List.mem_cons.mp h with rfl | h'
    · obtain ⟨k, hk, hf⟩ := List.all_eq_false.mp (Bool.not_eq_true _ ▸ hall)
      exact ⟨k, greedyAuxB_kept md bd ys hk, Bool.not_eq_true _ ▸ hf⟩
    · exact ih h' hn

theorem greedyAuxB_of_far (md : Nat) (bd : Option (List Nat)) (l kept : List Peak)
    (h : (kept ++ l).Pairwise (FarPB md bd)) : greedyAuxB md bd kept l = kept ++ l := by
  induction l generalizing kept with
  | nil => exact (List.append_nil kept).symm
  | cons x xs ih =>
    have hall : kept.all (fun k => farB md bd x.pos k.pos) = true :=
      List.all_eq_true.mpr fun k hk =>
        (farB_comm md bd x.pos k.pos).trans ((List.pairwise_append.mp h).2.2 k hk x List.mem_cons_self)
    rw [greedyAuxB, if_pos hall, ih _ (by rwa [List.append_assoc]), List.append_assoc]
    rfl

theorem greedyAuxB_append (md : Nat) (bd : Option (List Nat)) (a kept b : List Peak) :
    greedyAuxB md bd kept (a ++ b) = greedyAuxB md bd (greedyAuxB md bd kept a) b := by
  fun_induction greedyAuxB md bd kept a with
  | case1 kept => rfl
  | case2 kept x xs h ih => rw [List.cons_append, greedyAuxB, if_pos h]; exact ih
  | case3 kept x xs h ih => rw [List.cons_append, greedyAuxB, if_neg h]; exact ih

theorem filterPointsB_of_pos {md : Nat} (hmd : 0 < md) (bd : Option (List Nat)) (xs : List Peak) :
    filterPointsB md bd xs = greedyAuxB md bd [] xs := if_neg (Nat.ne_of_gt hmd)

theorem filterPointsB_sublist (md : Nat) (bd : Option (List Nat)) (xs : List Peak) :
    (filterPointsB md bd xs).Sublist xs := by
  unfold filterPointsB
  split
  · exact List.Sublist.refl _
  · obtain ⟨l, hl, he⟩ := greedyAuxB_eq_append md bd xs []
    rw [he]; exact hl

theorem filterPointsB_mem {md : Nat} {bd : Option (List Nat)} {xs : List Peak} {p : Peak}
    (h : p ∈ filterPointsB md bd xs) : p ∈ xs := (filterPointsB_sublist md bd xs).subset h

theorem filterPointsB_pairwise {md : Nat} (hmd : 0 < md) (bd : Option (List Nat)) (xs : List Peak) :
    (filterPointsB md bd xs).Pairwise (FarPB md bd) := by
  rw [filterPointsB_of_pos hmd]
  exact greedyAuxB_pairwise md bd xs [] List.Pairwise.nil

theorem filterPointsB_head (md : Nat) (bd : Option (List Nat)) (x : Peak) (xs : List Peak) :
    (filterPointsB md bd (x :: xs)).head? = some x := by
  unfold filterPointsB
  split
  · rfl
  · obtain ⟨l, _, he⟩ := greedyAuxB_eq_append md bd xs [x]
    rw [greedyAuxB, List.all_nil, if_pos rfl, List.nil_append, he]; rfl

theorem filterPointsB_maximal (md : Nat) (bd : Option (List Nat)) (xs : List Peak) (x : Peak) (hx : x ∈ xs) :
    x ∈ filterPointsB md bd xs ∨ ∃ k ∈ filterPointsB md bd xs, farB md bd x.pos k.pos = false := by
  unfold filterPointsB
  split
  · exact Or.inl hx
  · exact or_iff_not_imp_left.mpr (greedyAuxB_dropped md bd xs [] x hx)

theorem filterPointsB_prefix_mono (md : Nat) (bd : Option (List Nat)) (a b : List Peak) (h : a <+: b) :
    filterPointsB md bd a <+: filterPointsB md bd b := by
  obtain ⟨t, rfl⟩ := h
  unfold filterPointsB
  split
  · exact List.prefix_append _ _
  · obtain ⟨l, _, he⟩ := greedyAuxB_eq_append md bd t (greedyAuxB md bd [] a)
    rw [greedyAuxB_append, he]; exact List.prefix_append _ _

theorem filterPointsB_idempotent (md : Nat) (bd : Option (List Nat)) (xs : List Peak) :
    filterPointsB md bd (filterPointsB md bd xs) = filterPointsB md bd xs := by
  rcases Nat.eq_zero_or_pos md with h | h
  · rw [filterPointsB, if_pos h]
  · have hp := filterPointsB_pairwise h bd xs
    rw [filterPointsB_of_pos h bd (filterPointsB md bd xs)]
    exact greedyAuxB_of_far md bd _ [] hp

theorem filterPoints_pairwise {md : Nat} (hmd : 0 < md) (xs : List Peak) :
    (filterPoints md xs).Pairwise (FarP md) :=
  filterPointsB_none md xs ▸ filterPointsB_pairwise hmd none xs

/-- What the theorems need from a `topk_indices(scores, k)` answer: at most `k` valid indices and,
when something is requested of a non-empty array, a global maximiser first.  Implied by the full
contract `isTopK` that the harness checks on every recorded answer (`TopkOk_of_isTopK`), and met
by the deterministic `topkSort` (`topkSort_ok`). -/
def TopkOk (scores : List Int) (k : Nat) (order : List Nat) : Prop :=
  order.length ≤ k ∧ (∀ i ∈ order, i < scores.length) ∧
  (0 < k → 0 < scores.length → ∃ i0 rest, order = i0 :: rest ∧
      ∀ j, j < scores.length → scores.getD j 0 ≤ scores.getD i0 0)

theorem insDesc_perm (s : Nat → Int) (i : Nat) (l : List Nat) : (insDesc s i l).Perm (i :: l) := by
  fun_induction insDesc s i l with
  | case1 => exact .refl _
  | case2 j js _ => exact .refl _
  | case3 j js _ ih => exact (ih.cons j).trans (.swap i j js)

theorem sortDescL_perm (s : Nat → Int) (l : List Nat) : (sortDescL s l).Perm l := by
  induction l with
  | nil => exact .refl _
  | cons i is ih => exact (insDesc_perm s i _).trans (ih.cons i)

theorem mem_sortDesc (scores : List Int) (i : Nat) : i ∈ sortDesc scores ↔ i < scores.length :=
  (sortDescL_perm _ _).mem_iff.trans List.mem_range

/-- descending: every later index scores at most as much as every earlier one -/
def Desc (s : Nat → Int) (l : List Nat) : Prop := l.Pairwise (fun a b => s b ≤ s a)

theorem insDesc_desc (s : Nat → Int) (i : Nat) (l : List Nat) (h : Desc s l) : Desc s (insDesc s i l) := by
  fun_induction insDesc s i l with
  | case1 => exact List.pairwise_singleton _ _
  | case2 j js hlt =>
    refine List.pairwise_cons.mpr ⟨fun b hb => ?_, h⟩
    rcases List.mem_cons.mp hb with rfl | hb'
    · exact Int.le_of_lt hlt
    · exact Int.le_trans ((List.pairwise_cons.mp h).1 b hb') (Int.le_of_lt hlt)
  | case3 j js hge ih =>
    have hj := List.pairwise_cons.mp h
    refine List.pairwise_cons.mpr ⟨fun b hb => ?_, ih hj.2⟩
    rcases List.mem_cons.mp ((insDesc_perm s i js).mem_iff.mp hb) with rfl | hb'
    · exact Int.not_lt.mp hge
    · exact hj.1 b hb'

theorem sortDescL_desc (s : Nat → Int) (l : List Nat) : Desc s (sortDescL s l) := by
  induction l with
  | nil => exact List.Pairwise.nil
  | cons i is ih => exact insDesc_desc s i _ ih

theorem topkSort_ok (scores : List Int) (k : Nat) : TopkOk scores k (topkSort scores k) := by
  refine ⟨List.length_take_le _ _, fun i hi => (mem_sortDesc scores i).mp (List.mem_of_mem_take hi), fun hk hn => ?_⟩
  have hdesc : Desc _ (sortDesc scores) := sortDescL_desc _ _
  have hmem := mem_sortDesc scores
  unfold topkSort
  cases hl : sortDesc scores with
  | nil => rw [hl] at hmem; exact absurd ((hmem 0).mpr hn) List.not_mem_nil
  | cons i0 rest =>
    rw [hl] at hdesc hmem
    obtain ⟨k', rfl⟩ := Nat.exists_eq_succ_of_ne_zero (Nat.ne_of_gt hk)
    refine ⟨i0, rest.take k', rfl, fun j hj => ?_⟩
    rcases List.mem_cons.mp ((hmem j).mpr hj) with rfl | hj'
    · exact Int.le_refl _
    · exact (List.pairwise_cons.mp hdesc).1 j hj'

theorem descB_head (s : Nat → Int) (a : Nat) (r : List Nat) (h : descB s (a :: r) = true) :
    ∀ x ∈ r, s x ≤ s a := by
  induction r generalizing a with
  | nil => exact fun x hx => absurd hx List.not_mem_nil
  | cons b r ih =>
    rw [descB, Bool.and_eq_true, decide_eq_true_eq] at h
    intro x hx
    rcases List.mem_cons.mp hx with rfl | hx'
    · exact h.1
    · exact Int.le_trans (ih b h.2 x hx') h.1

/-- the contract checked by the harness on every recorded library answer implies what the theorems use -/
theorem TopkOk_of_isTopK {scores : List Int} {k : Nat} {order : List Nat}
    (h : isTopK scores k order = true) : TopkOk scores k order := by
  unfold isTopK at h
  simp only [Bool.and_eq_true, decide_eq_true_eq, List.all_eq_true] at h
  obtain ⟨⟨⟨⟨hlen, hval⟩, _⟩, hdesc⟩, hout⟩ := h
  refine ⟨Nat.le_of_eq hlen, hval, fun hk _ => ?_⟩
  cases order with
  | nil => exact absurd hlen (Nat.ne_of_lt hk)
  | cons i0 rest =>
    refine ⟨i0, rest, rfl, fun j hj => ?_⟩
    rcases Bool.or_eq_true _ _ ▸ hout j (List.mem_range.mpr hj) with hmem | hall
    · rcases List.mem_cons.mp (List.contains_iff_mem.mp hmem) with rfl | hr
      · exact Int.le_refl _
      · exact descB_head _ i0 rest hdesc j hr
    · exact of_decide_eq_true (List.all_eq_true.mp hall i0 List.mem_cons_self)

theorem update_eq (cfg : Cfg) (st cands : List Peak) (o : Option (List Nat)) :
    update cfg st cands o = filterPointsB cfg.minDist none
      ((selectTopk ((st ++ cands).map (·.score)) (min (st ++ cands).length cfg.nPeaks) o).filterMap
        (fun i => (st ++ cands)[i]?)) := (filterPointsB_none _ _).symm

theorem update_mem {cfg : Cfg} {st cands : List Peak} {o : Option (List Nat)} {p : Peak}
    (h : p ∈ update cfg st cands o) : p ∈ st ∨ p ∈ cands := by
  rw [update_eq] at h
  obtain ⟨i, _, hi⟩ := List.mem_filterMap.mp (filterPointsB_mem h)
  exact List.mem_append.mp (List.mem_of_getElem? hi)

theorem update_pairwise {cfg : Cfg} (hmd : 0 < cfg.minDist) (st cands : List Peak) (o : Option (List Nat)) :
    (update cfg st cands o).Pairwise (FarP cfg.minDist) :=
  filterPoints_pairwise hmd _

theorem update_length_le {cfg : Cfg} {st cands : List Peak} {o : Option (List Nat)}
    (hok : TopkOk ((st ++ cands).map (·.score)) (min (st ++ cands).length cfg.nPeaks)
      (selectTopk ((st ++ cands).map (·.score)) (min (st ++ cands).length cfg.nPeaks) o)) :
    (update cfg st cands o).length ≤ cfg.nPeaks := by
  rw [update_eq]
  exact Nat.le_trans (filterPointsB_sublist _ _ _).length_le <| Nat.le_trans (List.length_filterMap_le _ _) <|
    Nat.le_trans hok.1 (Nat.min_le_right _ _)

theorem update_max {cfg : Cfg} {st cands : List Peak} {o : Option (List Nat)}
    (hn : 0 < cfg.nPeaks) (hne : st ++ cands ≠ [])
    (hok : TopkOk ((st ++ cands).map (·.score)) (min (st ++ cands).length cfg.nPeaks)
      (selectTopk ((st ++ cands).map (·.score)) (min (st ++ cands).length cfg.nPeaks) o)) :
    ∃ p ∈ update cfg st cands o, ∀ q ∈ st ++ cands, q.score ≤ p.score := by
  have hlen : 0 < (st ++ cands).length := List.length_pos_iff.mpr hne
  obtain ⟨_, hval, hmax⟩ := hok
  obtain ⟨i0, rest, horder, hbest⟩ := hmax (Nat.lt_min.mpr ⟨hlen, hn⟩) (by rwa [List.length_map])
  have hi0 : i0 < (st ++ cands).length := by
    rw [← List.length_map (·.score)]; exact hval i0 (horder ▸ List.mem_cons_self)
  refine ⟨(st ++ cands)[i0], ?_, fun q hq => ?_⟩
  · rw [update_eq, horder, List.filterMap_cons, List.getElem?_eq_getElem hi0]
    exact List.mem_of_mem_head? (filterPointsB_head _ _ _ _)
  · obtain ⟨j, hj, rfl⟩ := List.getElem_of_mem hq
    have := hbest j (by rwa [List.length_map])
    rwa [getD_map_of_lt _ _ j _ hj, getD_map_of_lt _ _ i0 _ hi0] at this

end Pm.C05
