import PytmeModel.Proofs.C05

/-! Helper lemmas for C05: arrays, `argmax`, the `call_peaks` strategies, `__call__`. -/
namespace Pm.C05

/-- well-formed non-empty score array -/
structure WF (a : Arr Int) : Prop where
  size : a.data.size = prodL a.shape
  pos : 0 < prodL a.shape

theorem getD_unflat {a : Arr Int} {k : Nat} (hk : k < prodL a.shape) :
    a.getD (unflat a.shape k) 0 = a.data.toList.getD k 0 := by
  unfold Arr.getD
  rw [if_pos (inShape_unflat _ _ hk), flatIdx_unflat _ _ hk, List.getD_eq_getElem?_getD, Array.getElem?_toList]
  exact Array.getD_eq_getD_getElem?

theorem getD_eq_data {a : Arr Int} {idx : List Nat} (h : inShape a.shape idx = true) :
    a.getD idx 0 = a.data.toList.getD (flatIdx a.shape idx) 0 := by
  have := getD_unflat (a := a) (flatIdx_lt h)
  rwa [unflat_flatIdx h] at this

theorem inShape_getElem (shape c : List Nat) (h : inShape shape c = true) (i : Nat)
    (h1 : i < shape.length) (h2 : i < c.length) : c[i] < shape[i] := by
  fun_induction inShape shape c generalizing i with
  | case1 => exact absurd h1 (Nat.not_lt_zero i)
  | case2 s ss p ps ih =>
    obtain ⟨h0, hr⟩ := inShape_cons.mp h
    cases i with
    | zero => exact h0
    | succ i => exact ih hr i (Nat.lt_of_succ_lt_succ h1) (Nat.lt_of_succ_lt_succ h2)
  | case3 => cases h

theorem argmaxOf_eq_none (f : List Nat → Int) (l : List (List Nat)) (h : argmaxOf f l = none) : l = [] := by
  cases l with
  | nil => rfl
  | cons x xs =>
    rw [argmaxOf] at h
    split at h
    · cases h
    · split at h <;> cases h

theorem argmaxOf_isSome (f : List Nat → Int) (l : List (List Nat)) (hne : l ≠ []) : ∃ y, argmaxOf f l = some y :=
  Option.ne_none_iff_exists'.mp fun h => hne (argmaxOf_eq_none f l h)

theorem argmaxOf_spec (f : List Nat → Int) (l : List (List Nat)) (y : List Nat) (h : argmaxOf f l = some y) :
    y ∈ l ∧ ∀ x ∈ l, f x ≤ f y := by
  induction l generalizing y with
  | nil => cases h
  | cons x xs ih =>
    rw [argmaxOf] at h
    split at h
    · rename_i hnone
      cases h
      rw [argmaxOf_eq_none f xs hnone]
      exact ⟨List.mem_singleton_self x, fun z hz => List.mem_singleton.mp hz ▸ Int.le_refl _⟩
    · rename_i y' hsome
      have ih' := ih y' hsome
      split at h <;> cases h
      · rename_i hlt
        exact ⟨List.mem_cons_of_mem _ ih'.1, fun z hz =>
          (List.mem_cons.mp hz).elim (fun e => e ▸ Int.le_of_lt hlt) (ih'.2 z)⟩
      · rename_i hge
        exact ⟨List.mem_cons_self, fun z hz =>
          (List.mem_cons.mp hz).elim (fun e => e ▸ Int.le_refl _)
            fun hz' => Int.le_trans (ih'.2 z hz') (Int.not_lt.mp hge)⟩

/-- `c` attains the maximum of the array -/
def IsMaxAt (a : Arr Int) (c : List Nat) : Prop :=
  inShape a.shape c = true ∧ ∀ idx, inShape a.shape idx = true → a.getD idx 0 ≤ a.getD c 0

theorem argmaxOf_allIdx {a : Arr Int} (hwf : WF a) :
    ∃ c, argmaxOf (fun i => a.getD i 0) (allIdx a.shape) = some c ∧ IsMaxAt a c := by
  obtain ⟨y, hy⟩ := argmaxOf_isSome (fun i => a.getD i 0) (allIdx a.shape)
    (List.ne_nil_of_mem (mem_allIdx.mpr (inShape_unflat a.shape 0 hwf.pos)))
  have := argmaxOf_spec _ _ _ hy
  exact ⟨y, hy, mem_allIdx.mp this.1, fun idx h => this.2 idx (mem_allIdx.mpr h)⟩

theorem exists_max {a : Arr Int} (hwf : WF a) : ∃ c, IsMaxAt a c :=
  (argmaxOf_allIdx hwf).imp fun _ h => h.2

theorem callSort_inShape {cfg : Cfg} {a : Arr Int} {o : Option (List Nat)} (hs : a.data.size = prodL a.shape)
    (hok : TopkOk a.data.toList (min cfg.nPeaks a.data.toList.length) (selectTopk a.data.toList (min cfg.nPeaks a.data.toList.length) o))
    {c : List Nat} (hc : c ∈ callSort cfg a o) : inShape a.shape c = true := by
  obtain ⟨i, hi, rfl⟩ := List.mem_map.mp hc
  exact inShape_unflat _ _ (hs ▸ Array.length_toList ▸ hok.2.1 i hi)

theorem callSort_hasMax {cfg : Cfg} {a : Arr Int} {o : Option (List Nat)} (hwf : WF a) (hn : 0 < cfg.nPeaks)
    (hok : TopkOk a.data.toList (min cfg.nPeaks a.data.toList.length) (selectTopk a.data.toList (min cfg.nPeaks a.data.toList.length) o)) :
    ∃ c ∈ callSort cfg a o, IsMaxAt a c := by
  have hs := hwf.size
  have hlen : a.data.toList.length = prodL a.shape := Array.length_toList.trans hs
  have hp : 0 < a.data.toList.length := hlen ▸ hwf.pos
  obtain ⟨i0, rest, horder, hbest⟩ := hok.2.2 (Nat.lt_min.mpr ⟨hn, hp⟩) hp
  have hi0 : i0 < prodL a.shape := hlen ▸ hok.2.1 i0 (horder ▸ List.mem_cons_self)
  refine ⟨unflat a.shape i0, List.mem_map.mpr ⟨i0, horder ▸ List.mem_cons_self, rfl⟩, inShape_unflat _ _ hi0,
    fun idx hidx => ?_⟩
  rw [getD_unflat hi0, getD_eq_data hidx]
  exact hbest _ (hlen ▸ flatIdx_lt hidx)

theorem clampIdx_lt {n : Nat} (hn : 0 < n) (x : Int) : clampIdx n x < n := by
  unfold clampIdx
  split
  · exact hn
  · exact Nat.lt_of_le_of_lt (Nat.min_le_right _ _) (Nat.sub_lt hn Nat.one_pos)

theorem winAll_of_forall (d : Nat) (shape idx : List Nat) (P : List Nat → Bool)
    (h : inShape shape idx = true) (hP : ∀ j, inShape shape j = true → P j = true) :
    winAll d shape idx P = true := by
  fun_induction inShape shape idx generalizing P with
  | case1 => exact hP [] rfl
  | case2 s ss i is ih =>
    obtain ⟨hi, hr⟩ := inShape_cons.mp h
    rw [winAll, List.all_eq_true]
    exact fun o _ => ih _ hr fun rest hrest =>
      hP _ (inShape_cons.mpr ⟨clampIdx_lt (Nat.zero_lt_of_lt hi) _, hrest⟩)
  | case3 => cases h

theorem callMaxFilter_inShape {d : Nat} {a : Arr Int} {c : List Nat} (hc : c ∈ callMaxFilter d a) :
    inShape a.shape c = true :=
  mem_allIdx.mp (List.mem_filter.mp hc).1

theorem callMaxFilter_hasMax (d : Nat) {a : Arr Int} (hwf : WF a) : ∃ c ∈ callMaxFilter d a, IsMaxAt a c := by
  obtain ⟨c, hc, hmax⟩ := exists_max hwf
  exact ⟨c, List.mem_filter.mpr ⟨mem_allIdx.mpr hc,
    winAll_of_forall d _ _ _ hc fun j hj => decide_eq_true (hmax j hj)⟩, hc, hmax⟩

theorem recLoop_inShape (md : Nat) (minimum : Int) (fuel : Nat) (a : Arr Int) (c : List Nat)
    (h : c ∈ recLoop md minimum fuel a) : inShape a.shape c = true := by
  induction fuel generalizing a with
  | zero => cases h
  | succ f ih =>
    rw [recLoop] at h
    split at h
    · cases h
    · rename_i pk hpk
      split at h
      · cases h
      · rcases List.mem_cons.mp h with rfl | h'
        · exact mem_allIdx.mp (argmaxOf_spec _ _ _ hpk).1
        · exact ih (maskBox md a pk) h'

theorem callRecursive_inShape {cfg : Cfg} {a : Arr Int} {c : List Nat} (hc : c ∈ callRecursive cfg a) :
    inShape a.shape c = true := by
  unfold callRecursive at hc
  split at hc <;> exact recLoop_inShape _ _ _ _ _ hc

theorem listMin_le (l : List Int) (x : Int) (h : x ∈ l) : listMin l ≤ x := by
  fun_induction listMin l with
  | case1 => cases h
  | case2 y => exact Int.le_of_eq (List.mem_singleton.mp h).symm
  | case3 y ys _ ih =>
    rcases List.mem_cons.mp h with rfl | h'
    · exact Int.min_le_left _ _
    · exact Int.le_trans (Int.min_le_right _ _) (ih h')

/-- without a score window the first iteration reports the array's maximiser -/
theorem callRecursive_hasMax {cfg : Cfg} {a : Arr Int} (hwf : WF a) (hn : 0 < cfg.nPeaks)
    (hlo : cfg.minScore = none) : ∃ c ∈ callRecursive cfg a, IsMaxAt a c := by
  obtain ⟨pk, hpk, hmax⟩ := argmaxOf_allIdx hwf
  refine ⟨pk, ?_, hmax⟩
  obtain ⟨n', hn'⟩ := Nat.exists_eq_succ_of_ne_zero (Nat.ne_of_gt hn)
  -- the threshold `min - 1` lies below every value of the array
  have hmem : a.getD pk 0 ∈ a.data.toList := by
    have hlt : flatIdx a.shape pk < a.data.toList.length :=
      Array.length_toList ▸ hwf.size ▸ flatIdx_lt hmax.1
    rw [getD_eq_data hmax.1, List.getD_eq_getElem?_getD, List.getElem?_eq_getElem hlt]
    exact List.getElem_mem hlt
  have hmin := listMin_le _ _ hmem
  unfold callRecursive
  rw [hlo, hn', recLoop, hpk]
  dsimp only
  rw [if_neg (Int.not_lt.mpr (Int.le_trans (Int.sub_le_self _ (by decide)) hmin))]
  exact List.mem_cons_self

/-- the pipeline shared by `callStage` and the batched `batchCands`: an optional filter, a map, a filter -/
theorem mem_filter_map_condFilter {α β : Type} {b : Prop} [Decidable b] {P : α → Bool} {f : α → β}
    {W : β → Bool} {cands : List α} {p : β}
    (h : p ∈ ((if b then cands.filter P else cands).map f).filter W) :
    ∃ c ∈ cands, p = f c ∧ W p = true ∧ (b → P c = true) := by
  obtain ⟨hp, hw⟩ := List.mem_filter.mp h
  obtain ⟨c, hc, rfl⟩ := List.mem_map.mp hp
  by_cases hb : b
  · rw [if_pos hb] at hc
    exact ⟨c, (List.mem_filter.mp hc).1, rfl, hw, fun _ => (List.mem_filter.mp hc).2⟩
  · rw [if_neg hb] at hc
    exact ⟨c, hc, rfl, hw, fun h => absurd h hb⟩

theorem callStage_mem {cfg : Cfg} {scores : Arr Int} {rot : Nat} {cands : List (List Nat)} {p : Peak}
    (h : p ∈ callStage cfg scores rot cands) :
    ∃ c ∈ cands, p = mkPeak scores rot c ∧ inWindow cfg p.score = true ∧
      (0 < cfg.minBoundary → inMargin cfg.minBoundary scores.shape c = true) :=
  mem_filter_map_condFilter h

theorem callStage_plain {cfg : Cfg} (hmb : cfg.minBoundary = 0) (hlo : cfg.minScore = none)
    (hhi : cfg.maxScore = none) (scores : Arr Int) (rot : Nat) (cands : List (List Nat)) :
    callStage cfg scores rot cands = cands.map (mkPeak scores rot) := by
  unfold callStage inWindow
  rw [hmb, hlo, hhi, if_neg (Nat.lt_irrefl 0)]
  exact List.filter_eq_self.mpr fun _ _ => rfl

/-- `k` is the number of the first axis of `shape` -/
theorem inMarginB_spec (mb : Nat) (bd : List Nat) (k : Nat) (shape c : List Nat)
    (h : inMarginB mb bd k shape c = true) (i : Nat) (h1 : i < shape.length) (h2 : i < c.length)
    (hb : bd.contains (k + i) = false) : mb ≤ c[i] ∧ c[i] + mb < shape[i] := by
  induction shape generalizing c k i with
  | nil => exact absurd h1 (Nat.not_lt_zero i)
  | cons s ss ih =>
    cases c with
    | nil => exact absurd h2 (Nat.not_lt_zero i)
    | cons p ps =>
      rw [inMarginB] at h
      obtain ⟨h0, hr⟩ := (Bool.and_eq_true _ _).mp h
      cases i with
      | zero =>
        rcases (Bool.or_eq_true _ _).mp h0 with h0 | h0
        · exact absurd (hb.symm.trans h0) Bool.false_ne_true
        · obtain ⟨ha, hb'⟩ := (Bool.and_eq_true _ _).mp h0
          have ha := of_decide_eq_true ha
          have hb' := of_decide_eq_true hb'
          exact ⟨ha, Int.ofNat_lt.mp (by rw [Int.natCast_add]; exact Int.add_lt_of_lt_sub_right hb')⟩
      | succ i =>
        exact ih (k + 1) ps hr i (Nat.lt_of_succ_lt_succ h1) (Nat.lt_of_succ_lt_succ h2)
          (by rw [Nat.add_right_comm]; exact hb)

theorem inMarginB_nil (mb k : Nat) (shape c : List Nat) : inMarginB mb [] k shape c = inMargin mb shape c := by
  induction shape generalizing c k with
  | nil => rfl
  | cons s ss ih =>
    cases c with
    | nil => rfl
    | cons p ps => rw [inMarginB, inMargin, ih]; rfl

end Pm.C05
