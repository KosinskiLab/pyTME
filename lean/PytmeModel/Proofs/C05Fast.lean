import PytmeModel.Proofs.C05Call

/-! Helper lemmas for C05: the block-wise strategy (`PeakCallerFast`) on the tiles of
`split_shape(equal_shape=True)`. -/
namespace Pm.C05

theorem nTiles_pos (n md : Nat) : 0 < nTiles n md := Nat.lt_of_lt_of_le Nat.one_pos (Nat.le_max_right _ _)

theorem tileLen_le {n md : Nat} (hn : 0 < n) : tileLen n md ≤ n :=
  cdiv_le n _ (nTiles_pos n md) hn

theorem tileLen_pos {n md : Nat} (hn : 0 < n) : 0 < tileLen n md :=
  cdiv_pos n _ (nTiles_pos n md) hn

/-- an axis of extent 0 has tiles of length 0, which hold no index -/
theorem tileLen_zero (md : Nat) : tileLen 0 md = 0 := by
  unfold tileLen cdiv
  rw [Nat.zero_add]
  exact Nat.div_eq_of_lt (Nat.sub_one_lt (Nat.ne_of_gt (nTiles_pos 0 md)))

theorem tileStarts_inBounds {n md s : Nat} (hs : s ∈ tileStarts n md) (hn : 0 < n) :
    s + tileLen n md ≤ n := by
  obtain ⟨j, _, rfl⟩ := List.mem_map.mp hs
  exact Nat.le_trans (Nat.add_le_add_right (Nat.min_le_right _ _) _)
    (Nat.le_of_eq (Nat.sub_add_cancel (tileLen_le hn)))

/-- `x` lies in tile number `x / L`, which starts at `min (x / L * L) (n - L)` -/
theorem tileStarts_cover {n md x : Nat} (hx : x < n) :
    ∃ s ∈ tileStarts n md, s ≤ x ∧ x < s + tileLen n md := by
  have hn : 0 < n := Nat.zero_lt_of_lt hx
  have hL := tileLen_pos (md := md) hn
  have hLN := tileLen_le (md := md) hn
  have h1 : x / tileLen n md * tileLen n md ≤ x := Nat.div_mul_le_self x _
  have h2 := Nat.lt_mul_div_succ x hL
  rw [Nat.mul_succ, Nat.mul_comm] at h2
  have hj : x / tileLen n md < nTiles n md :=
    Nat.div_lt_of_lt_mul (Nat.lt_of_lt_of_le hx (Nat.mul_comm _ _ ▸ le_mul_cdiv n _ (nTiles_pos n md)))
  exact ⟨_, List.mem_map.mpr ⟨x / tileLen n md, List.mem_range.mpr hj, rfl⟩,
    Nat.le_trans (Nat.min_le_left _ _) h1, by omega⟩

theorem mem_prodLists_cons {l : List Nat} {ls : List (List Nat)} {v : List Nat} :
    v ∈ prodLists (l :: ls) ↔ ∃ x r, x ∈ l ∧ r ∈ prodLists ls ∧ v = x :: r := by
  simp only [prodLists, List.mem_flatMap, List.mem_map]
  constructor
  · rintro ⟨x, hx, r, hr, rfl⟩; exact ⟨x, r, hx, hr, rfl⟩
  · rintro ⟨x, r, hx, hr, rfl⟩; exact ⟨x, hx, r, hr, rfl⟩

theorem tile_inShape (md : Nat) (shape st r : List Nat)
    (hst : st ∈ prodLists (shape.map (fun n => tileStarts n md)))
    (hr : inShape (shape.map (fun n => tileLen n md)) r = true) :
    inShape shape (List.zipWith (· + ·) st r) = true := by
  induction shape generalizing st r with
  | nil =>
    cases List.mem_singleton.mp hst
    cases r with
    | nil => rfl
    | cons _ _ => cases hr
  | cons n ns ih =>
    obtain ⟨x, st', hx, hst', rfl⟩ := mem_prodLists_cons.mp hst
    cases r with
    | nil => cases hr
    | cons r0 r' =>
      obtain ⟨h0, hr'⟩ := inShape_cons.mp hr
      refine inShape_cons.mpr ⟨?_, ih st' r' hst' hr'⟩
      have h0 : r0 < tileLen n md := h0
      have hn : 0 < n := Nat.pos_of_ne_zero fun hn => by rw [hn, tileLen_zero] at h0; cases h0
      exact Nat.lt_of_lt_of_le (Nat.add_lt_add_left h0 x) (tileStarts_inBounds hx hn)

theorem tile_cover_nd (md : Nat) (shape c : List Nat) (h : inShape shape c = true) :
    ∃ st ∈ prodLists (shape.map (fun n => tileStarts n md)), ∃ r,
      inShape (shape.map (fun n => tileLen n md)) r = true ∧ c = List.zipWith (· + ·) st r := by
  fun_induction inShape shape c with
  | case1 => exact ⟨[], List.mem_singleton_self _, [], rfl, rfl⟩
  | case2 n ns x xs ih =>
    obtain ⟨hx, hr⟩ := inShape_cons.mp h
    obtain ⟨s, hs, hs1, hs2⟩ := tileStarts_cover (md := md) hx
    obtain ⟨st', hst', r', hr', hc'⟩ := ih hr
    refine ⟨s :: st', mem_prodLists_cons.mpr ⟨s, st', hs, hst', rfl⟩, (x - s) :: r',
      inShape_cons.mpr ⟨Nat.sub_lt_left_of_lt_add hs1 hs2, hr'⟩, ?_⟩
    rw [List.zipWith_cons_cons, ← hc', Nat.add_sub_cancel' hs1]
  | case3 => cases h

theorem mem_boxIdx {starts lens c : List Nat} :
    c ∈ boxIdx starts lens ↔ ∃ r, inShape lens r = true ∧ c = List.zipWith (· + ·) starts r := by
  unfold boxIdx
  simp only [List.mem_map, mem_allIdx]
  constructor
  · rintro ⟨r, hr, rfl⟩; exact ⟨r, hr, rfl⟩
  · rintro ⟨r, hr, rfl⟩; exact ⟨r, hr, rfl⟩

theorem fastTileMax_inShape {md : Nat} {a : Arr Int} {c : List Nat} (hc : c ∈ fastTileMax md a) :
    inShape a.shape c = true := by
  unfold fastTileMax at hc
  simp only [List.mem_filterMap] at hc
  obtain ⟨st, hst, hmax⟩ := hc
  have := (argmaxOf_spec _ _ _ hmax).1
  obtain ⟨r, hr, rfl⟩ := mem_boxIdx.mp this
  exact tile_inShape md _ _ _ hst hr

theorem callFast_inShape {md : Nat} {a : Arr Int} {o : Option (List Nat)} {c : List Nat}
    (hc : c ∈ callFast md a o) : inShape a.shape c = true := by
  unfold callFast at hc
  simp only [List.mem_filter, List.mem_filterMap] at hc
  obtain ⟨⟨i, _, hi⟩, _⟩ := hc
  exact fastTileMax_inShape (List.mem_of_getElem? hi)

theorem fastTileMax_hasMax (md : Nat) {a : Arr Int} (hwf : WF a) : ∃ c ∈ fastTileMax md a, IsMaxAt a c := by
  obtain ⟨cs, hcs, hmax⟩ := exists_max hwf
  obtain ⟨st, hst, r, hr, hceq⟩ := tile_cover_nd md a.shape cs hcs
  have hmem : cs ∈ boxIdx st (a.shape.map (fun n => tileLen n md)) := mem_boxIdx.mpr ⟨r, hr, hceq⟩
  obtain ⟨c, hc⟩ := argmaxOf_isSome (fun i => a.getD i 0) _ (List.ne_nil_of_mem hmem)
  have hspec := argmaxOf_spec _ _ _ hc
  have hcin : inShape a.shape c = true := by
    obtain ⟨r', hr', rfl⟩ := mem_boxIdx.mp hspec.1
    exact tile_inShape md _ _ _ hst hr'
  refine ⟨c, ?_, hcin, ?_⟩
  · unfold fastTileMax
    simp only [List.mem_filterMap]
    exact ⟨st, hst, hc⟩
  · exact fun idx hidx => Int.le_trans (hmax idx hidx) (hspec.2 cs hmem)

theorem boxAll_of_forall (md : Nat) (shape c : List Nat) (P : List Nat → Bool)
    (h : inShape shape c = true) (hP : ∀ j, inShape shape j = true → P j = true) :
    boxAll (recheckBox md shape c) P = true := by
  fun_induction inShape shape c generalizing P with
  | case1 => exact hP [] rfl
  | case2 s ss c cs ih =>
    rw [recheckBox, boxAll, List.all_eq_true]
    intro o ho
    exact ih _ (inShape_cons.mp h).2 fun rest hrest => hP _ (inShape_cons.mpr
      ⟨Nat.lt_of_lt_of_le (Nat.add_lt_of_lt_sub' (List.mem_range.mp ho)) (Nat.min_le_right _ _), hrest⟩)
  | case3 => cases h

/-- what the theorems need from the `argsort` answer: it mentions every candidate -/
def PermOk (n : Nat) (perm : List Nat) : Prop := ∀ i, i < n → i ∈ perm

/-- the permutation `callFast` uses -/
def fastPerm (md : Nat) (a : Arr Int) (o : Option (List Nat)) : List Nat :=
  match o with
  | some l => l
  | none => sortDesc ((fastTileMax md a).map (fun c => a.getD c 0))

theorem fastPerm_none_ok (md : Nat) (a : Arr Int) : PermOk (fastTileMax md a).length (fastPerm md a none) := by
  intro i hi
  exact (mem_sortDesc _ i).mpr (by rwa [List.length_map])

theorem callFast_hasMax (md : Nat) {a : Arr Int} {o : Option (List Nat)} (hwf : WF a)
    (hperm : PermOk (fastTileMax md a).length (fastPerm md a o)) : ∃ c ∈ callFast md a o, IsMaxAt a c := by
  obtain ⟨c, hc, hmaxc⟩ := fastTileMax_hasMax md hwf
  refine ⟨c, ?_, hmaxc⟩
  obtain ⟨i, hi, hci⟩ := List.getElem_of_mem hc
  have hip := hperm i hi
  unfold callFast
  simp only [List.mem_filter, List.mem_filterMap]
  refine ⟨⟨i, ?_, ?_⟩, ?_⟩
  · cases o <;> exact hip
  · rw [List.getElem?_eq_getElem hi, hci]
  · apply boxAll_of_forall md _ _ _ hmaxc.1
    exact fun j hj => decide_eq_true (hmaxc.2 j hj)

end Pm.C05
