import PytmeModel.Proofs.C05Fast

/-! Helper lemmas for C05: invariants of `__call__` histories and of `merge`. -/
namespace Pm.C05

/-- the recorded library answers used while `s` is submitted in state `st` meet their contracts
(`none` — the deterministic model — does for every strategy but Scipy, see `orcOk_none`) -/
def OrcOk (cfg : Cfg) (strat : Strategy) (st : List Peak) (s : Sub) : Prop :=
  (strat = .sort → TopkOk s.scores.data.toList (min cfg.nPeaks s.scores.data.toList.length)
      (selectTopk s.scores.data.toList (min cfg.nPeaks s.scores.data.toList.length) s.orc.callTopk)) ∧
  (strat = .scipy → ∀ c ∈ callScipy s.scores s.orc.plm, inShape s.scores.shape c = true) ∧
  TopkOk ((st ++ callStage cfg s.scores s.rot (callPeaks cfg strat s.scores s.orc)).map (·.score))
    (min (st ++ callStage cfg s.scores s.rot (callPeaks cfg strat s.scores s.orc)).length cfg.nPeaks)
    (selectTopk ((st ++ callStage cfg s.scores s.rot (callPeaks cfg strat s.scores s.orc)).map (·.score))
      (min (st ++ callStage cfg s.scores s.rot (callPeaks cfg strat s.scores s.orc)).length cfg.nPeaks) s.orc.updTopk)

def HistOk (cfg : Cfg) (strat : Strategy) : List Peak → List Sub → Prop
  | _, [] => True
  | st, s :: ss => OrcOk cfg strat st s ∧ HistOk cfg strat (submit cfg strat st s) ss

/-- extra contracts needed only for the global-maximum clause -/
def MaxOrcOk (cfg : Cfg) (strat : Strategy) (s : Sub) : Prop :=
  (strat = .fast → PermOk (fastTileMax cfg.minDist s.scores).length (fastPerm cfg.minDist s.scores s.orc.argsort)) ∧
  (strat = .scipy → ∃ c ∈ callScipy s.scores s.orc.plm, IsMaxAt s.scores c)

theorem orcOk_none {cfg : Cfg} {strat : Strategy} (hs : strat ≠ .scipy) (st : List Peak) (s : Sub)
    (h1 : s.orc.callTopk = none) (h2 : s.orc.updTopk = none) : OrcOk cfg strat st s := by
  refine ⟨fun _ => ?_, fun h => absurd h hs, ?_⟩
  · rw [h1]; exact topkSort_ok _ _
  · rw [h2]; exact topkSort_ok _ _

theorem histOk_none {cfg : Cfg} {strat : Strategy} (hs : strat ≠ .scipy) (subs : List Sub) (st : List Peak)
    (h : ∀ s ∈ subs, s.orc.callTopk = none ∧ s.orc.updTopk = none) : HistOk cfg strat st subs := by
  induction subs generalizing st with
  | nil => trivial
  | cons s ss ih =>
    have hs' := h s List.mem_cons_self
    exact ⟨orcOk_none hs st s hs'.1 hs'.2, ih _ fun s' h' => h s' (List.mem_cons_of_mem _ h')⟩

theorem maxOrcOk_none {cfg : Cfg} {strat : Strategy} (hs : strat ≠ .scipy) (s : Sub)
    (h : s.orc.argsort = none) : MaxOrcOk cfg strat s := by
  refine ⟨fun _ => ?_, fun h' => absurd h' hs⟩
  rw [h]; exact fastPerm_none_ok _ _

theorem callPeaks_inShape {cfg : Cfg} {strat : Strategy} {a : Arr Int} {o : Orc} (hsize : a.data.size = prodL a.shape)
    (hsort : strat = .sort → TopkOk a.data.toList (min cfg.nPeaks a.data.toList.length)
      (selectTopk a.data.toList (min cfg.nPeaks a.data.toList.length) o.callTopk))
    (hsci : strat = .scipy → ∀ c ∈ callScipy a o.plm, inShape a.shape c = true)
    {c : List Nat} (hc : c ∈ callPeaks cfg strat a o) : inShape a.shape c = true := by
  cases strat with
  | sort => exact callSort_inShape hsize (hsort rfl) hc
  | maxFilter => exact callMaxFilter_inShape hc
  | fast => exact callFast_inShape hc
  | recursive => exact callRecursive_inShape hc
  | scipy => exact hsci rfl c hc

theorem callPeaks_hasMax {cfg : Cfg} {strat : Strategy} {a : Arr Int} {o : Orc} (hwf : WF a)
    (hn : 0 < cfg.nPeaks) (hlo : cfg.minScore = none)
    (hsort : strat = .sort → TopkOk a.data.toList (min cfg.nPeaks a.data.toList.length)
      (selectTopk a.data.toList (min cfg.nPeaks a.data.toList.length) o.callTopk))
    (hfast : strat = .fast → PermOk (fastTileMax cfg.minDist a).length (fastPerm cfg.minDist a o.argsort))
    (hsci : strat = .scipy → ∃ c ∈ callScipy a o.plm, IsMaxAt a c) :
    ∃ c ∈ callPeaks cfg strat a o, IsMaxAt a c := by
  cases strat with
  | sort => exact callSort_hasMax hwf hn (hsort rfl)
  | maxFilter => exact callMaxFilter_hasMax _ hwf
  | fast => exact callFast_hasMax _ hwf (hfast rfl)
  | recursive => exact callRecursive_hasMax hwf hn hlo
  | scipy => exact hsci rfl

/-- `p` is a peak that submission `s` justifies: an in-bounds translation of `s`'s array carrying
that array's value and `s`'s rotation, inside the score window and the margin. -/
def Submitted (cfg : Cfg) (s : Sub) (p : Peak) : Prop :=
  ∃ c : List Nat, inShape s.scores.shape c = true ∧ p.pos = c.map Int.ofNat ∧ p.rot = s.rot ∧
    p.score = s.scores.getD c 0 ∧ inWindow cfg p.score = true ∧
    (0 < cfg.minBoundary → inMargin cfg.minBoundary s.scores.shape c = true)

theorem submit_eq (cfg : Cfg) (strat : Strategy) (st : List Peak) (s : Sub) :
    submit cfg strat st s =
      if (callStage cfg s.scores s.rot (callPeaks cfg strat s.scores s.orc)).isEmpty then st
      else update cfg st (callStage cfg s.scores s.rot (callPeaks cfg strat s.scores s.orc)) s.orc.updTopk := rfl

theorem submit_mem {cfg : Cfg} {strat : Strategy} {st : List Peak} {s : Sub} (hwf : WF s.scores)
    (hok : OrcOk cfg strat st s) {p : Peak} (hp : p ∈ submit cfg strat st s) :
    p ∈ st ∨ Submitted cfg s p := by
  rw [submit_eq] at hp
  split at hp
  · exact Or.inl hp
  · refine (update_mem hp).imp_right fun h => ?_
    obtain ⟨c, hc, rfl, hw, hm⟩ := callStage_mem h
    exact ⟨c, callPeaks_inShape hwf.size hok.1 hok.2.1 hc, rfl, rfl, rfl, hw, hm⟩

theorem submit_pairwise {cfg : Cfg} (strat : Strategy) (hmd : 0 < cfg.minDist) {st : List Peak} (s : Sub)
    (h : st.Pairwise (FarP cfg.minDist)) : (submit cfg strat st s).Pairwise (FarP cfg.minDist) := by
  rw [submit_eq]
  split
  · exact h
  · exact update_pairwise hmd _ _ _

theorem submit_length {cfg : Cfg} {strat : Strategy} {st : List Peak} {s : Sub}
    (hok : OrcOk cfg strat st s) (h : st.length ≤ cfg.nPeaks) : (submit cfg strat st s).length ≤ cfg.nPeaks := by
  rw [submit_eq]
  split
  · exact h
  · exact update_length_le hok.2.2

/-- `m` bounds every value of the array -/
def ArrLe (a : Arr Int) (m : Int) : Prop := ∀ idx, inShape a.shape idx = true → a.getD idx 0 ≤ m

theorem arrLe_mono {a : Arr Int} {m m' : Int} (h : ArrLe a m) (hm : m ≤ m') : ArrLe a m' :=
  fun idx hidx => Int.le_trans (h idx hidx) hm

theorem submit_max {cfg : Cfg} {strat : Strategy} {st : List Peak} {s : Sub} (hwf : WF s.scores)
    (hn : 0 < cfg.nPeaks) (hmb : cfg.minBoundary = 0) (hlo : cfg.minScore = none) (hhi : cfg.maxScore = none)
    (hok : OrcOk cfg strat st s) (hmax : MaxOrcOk cfg strat s) :
    ∃ p ∈ submit cfg strat st s, ArrLe s.scores p.score ∧ ∀ q ∈ st, q.score ≤ p.score := by
  obtain ⟨c, hc, hcmax⟩ := callPeaks_hasMax (o := s.orc) hwf hn hlo hok.1 hmax.1 hmax.2
  have hmem : mkPeak s.scores s.rot c ∈ callStage cfg s.scores s.rot (callPeaks cfg strat s.scores s.orc) := by
    rw [callStage_plain hmb hlo hhi]; exact List.mem_map_of_mem hc
  obtain ⟨p, hp, hbest⟩ := update_max (o := s.orc.updTopk) hn
    (List.ne_nil_of_mem (List.mem_append_right st hmem)) hok.2.2
  refine ⟨p, ?_, arrLe_mono (m := (mkPeak s.scores s.rot c).score) hcmax.2
    (hbest _ (List.mem_append_right _ hmem)), fun q hq => hbest q (List.mem_append_left _ hq)⟩
  rw [submit_eq, if_neg]
  · exact hp
  · exact fun hemp => List.ne_nil_of_mem hmem (List.isEmpty_iff.mp hemp)

theorem run_aux_submitted {cfg : Cfg} {strat : Strategy} (subs : List Sub) (st : List Peak)
    (hwf : ∀ s ∈ subs, WF s.scores) (hok : HistOk cfg strat st subs) :
    ∀ p ∈ subs.foldl (submit cfg strat) st, p ∈ st ∨ ∃ s ∈ subs, Submitted cfg s p := by
  induction subs generalizing st with
  | nil => exact fun p hp => Or.inl hp
  | cons s ss ih =>
    intro p hp
    rcases ih _ (fun s' h' => hwf s' (List.mem_cons_of_mem _ h')) hok.2 p hp with h | ⟨s', hs', h⟩
    · exact (submit_mem (hwf s List.mem_cons_self) hok.1 h).imp_right fun h' => ⟨s, List.mem_cons_self, h'⟩
    · exact Or.inr ⟨s', List.mem_cons_of_mem _ hs', h⟩

theorem run_aux_pairwise {cfg : Cfg} (strat : Strategy) (hmd : 0 < cfg.minDist) (subs : List Sub) (st : List Peak)
    (h : st.Pairwise (FarP cfg.minDist)) : (subs.foldl (submit cfg strat) st).Pairwise (FarP cfg.minDist) :=
  List.foldlRecOn subs _ h fun _ hb s _ => submit_pairwise strat hmd s hb

theorem run_aux_length {cfg : Cfg} {strat : Strategy} (subs : List Sub) (st : List Peak)
    (hok : HistOk cfg strat st subs) (h : st.length ≤ cfg.nPeaks) :
    (subs.foldl (submit cfg strat) st).length ≤ cfg.nPeaks := by
  induction subs generalizing st with
  | nil => exact h
  | cons s ss ih => exact ih _ hok.2 (submit_length hok.1 h)

theorem run_aux_max {cfg : Cfg} {strat : Strategy} (hn : 0 < cfg.nPeaks) (hmb : cfg.minBoundary = 0)
    (hlo : cfg.minScore = none) (hhi : cfg.maxScore = none) (subs : List Sub) (st : List Peak)
    (hwf : ∀ s ∈ subs, WF s.scores) (hok : HistOk cfg strat st subs) (hmx : ∀ s ∈ subs, MaxOrcOk cfg strat s)
    (hne : subs ≠ []) :
    ∃ p ∈ subs.foldl (submit cfg strat) st, (∀ s ∈ subs, ArrLe s.scores p.score) ∧ ∀ q ∈ st, q.score ≤ p.score := by
  induction subs generalizing st with
  | nil => exact absurd rfl hne
  | cons s ss ih =>
    obtain ⟨p0, hp0, hs0, hst0⟩ :=
      submit_max (hwf s List.mem_cons_self) hn hmb hlo hhi hok.1 (hmx s List.mem_cons_self)
    by_cases hss : ss = []
    · subst hss
      exact ⟨p0, hp0, fun s' hs' => List.mem_singleton.mp hs' ▸ hs0, hst0⟩
    · obtain ⟨p, hp, hps, hpst⟩ := ih _ (fun s' h' => hwf s' (List.mem_cons_of_mem _ h')) hok.2
        (fun s' h' => hmx s' (List.mem_cons_of_mem _ h')) hss
      have h0 := hpst p0 hp0
      refine ⟨p, hp, fun s' hs' => ?_, fun q hq => Int.le_trans (hst0 q hq) h0⟩
      rcases List.mem_cons.mp hs' with rfl | hs'
      · exact arrLe_mono hs0 h0
      · exact hps s' hs'

theorem shiftPeak_score (off : Option (List Int)) (p : Peak) : (shiftPeak off p).score = p.score := by
  unfold shiftPeak; cases off <;> rfl

theorem shiftPeak_rot (off : Option (List Int)) (p : Peak) : (shiftPeak off p).rot = p.rot := by
  unfold shiftPeak; cases off <;> rfl

/-- the recorded top-k answers used by the successive `_update`s of a merge meet their contract -/
def MergeOk (cfg : Cfg) (off : Option (List Int)) : List Peak → List (Option (List Peak) × Option (List Nat)) → Prop
  | _, [] => True
  | base, (none, _) :: rest => MergeOk cfg off base rest
  | base, (some c, o) :: rest =>
      TopkOk ((base ++ c.map (shiftPeak off)).map (·.score)) (min (base ++ c.map (shiftPeak off)).length cfg.nPeaks)
        (selectTopk ((base ++ c.map (shiftPeak off)).map (·.score)) (min (base ++ c.map (shiftPeak off)).length cfg.nPeaks) o) ∧
      MergeOk cfg off (update cfg base (c.map (shiftPeak off)) o) rest

theorem mergeOk_none {cfg : Cfg} {off : Option (List Int)} (parts : List (Option (List Peak) × Option (List Nat)))
    (base : List Peak) (h : ∀ pt ∈ parts, pt.2 = none) : MergeOk cfg off base parts := by
  fun_induction merge cfg off base parts with
  | case1 => trivial
  | case2 base o rest ih => exact ih fun pt hpt => h pt (List.mem_cons_of_mem _ hpt)
  | case3 base c o rest ih =>
    cases (h (some c, o) List.mem_cons_self : o = none)
    exact ⟨topkSort_ok _ _, ih fun pt hpt => h pt (List.mem_cons_of_mem _ hpt)⟩

theorem merge_mem {cfg : Cfg} {off : Option (List Int)} (parts : List (Option (List Peak) × Option (List Nat)))
    (base : List Peak) (p : Peak) (h : p ∈ merge cfg off base parts) :
    p ∈ base ∨ ∃ pt ∈ parts, ∃ c, pt.1 = some c ∧ ∃ q ∈ c, p = shiftPeak off q := by
  fun_induction merge cfg off base parts with
  | case1 => exact Or.inl h
  | case2 base o rest ih => exact (ih h).imp_right fun ⟨pt, hpt, hx⟩ => ⟨pt, List.mem_cons_of_mem _ hpt, hx⟩
  | case3 base c o rest ih =>
    rcases ih h with h1 | ⟨pt, hpt, hx⟩
    · rcases update_mem h1 with h2 | h2
      · exact Or.inl h2
      · obtain ⟨q, hq, rfl⟩ := List.mem_map.mp h2
        exact Or.inr ⟨(some c, o), List.mem_cons_self, c, rfl, q, hq, rfl⟩
    · exact Or.inr ⟨pt, List.mem_cons_of_mem _ hpt, hx⟩

theorem merge_pairwise {cfg : Cfg} {off : Option (List Int)} (hmd : 0 < cfg.minDist)
    (parts : List (Option (List Peak) × Option (List Nat))) (base : List Peak)
    (h : base.Pairwise (FarP cfg.minDist)) : (merge cfg off base parts).Pairwise (FarP cfg.minDist) := by
  fun_induction merge cfg off base parts with
  | case1 => exact h
  | case2 base o rest ih => exact ih h
  | case3 base c o rest ih => exact ih (update_pairwise hmd _ _ _)

theorem merge_length {cfg : Cfg} {off : Option (List Int)}
    (parts : List (Option (List Peak) × Option (List Nat))) (base : List Peak)
    (hok : MergeOk cfg off base parts) (h : base.length ≤ cfg.nPeaks) :
    (merge cfg off base parts).length ≤ cfg.nPeaks := by
  fun_induction merge cfg off base parts with
  | case1 => exact h
  | case2 base o rest ih => exact ih hok h
  | case3 base c o rest ih => exact ih hok.2 (update_length_le hok.1)

theorem merge_max {cfg : Cfg} {off : Option (List Int)} (hn : 0 < cfg.nPeaks)
    (parts : List (Option (List Peak) × Option (List Nat))) (base : List Peak)
    (hok : MergeOk cfg off base parts) (m : Int)
    (h : (∃ q ∈ base, m ≤ q.score) ∨ ∃ pt ∈ parts, ∃ c, pt.1 = some c ∧ ∃ q ∈ c, m ≤ q.score) :
    ∃ p ∈ merge cfg off base parts, m ≤ p.score := by
  fun_induction merge cfg off base parts with
  | case1 =>
    rcases h with h | ⟨pt, hpt, _⟩
    · exact h
    · cases hpt
  | case2 base o rest ih =>
    refine ih hok (h.imp_right fun ⟨pt, hpt, c, hc, hq⟩ => ?_)
    rcases List.mem_cons.mp hpt with rfl | hpt'
    · cases hc
    · exact ⟨pt, hpt', c, hc, hq⟩
  | case3 base c o rest ih =>
    have hupd : ∀ q ∈ base ++ c.map (shiftPeak off), m ≤ q.score →
        ∃ p ∈ update cfg base (c.map (shiftPeak off)) o, m ≤ p.score := fun q hq hm =>
      have ⟨p, hp, hbest⟩ := update_max (o := o) hn (List.ne_nil_of_mem hq) hok.1
      ⟨p, hp, Int.le_trans hm (hbest q hq)⟩
    refine ih hok.2 ?_
    rcases h with ⟨q, hq, hm⟩ | ⟨pt, hpt, c', hc', q, hq, hm⟩
    · exact Or.inl (hupd q (List.mem_append_left _ hq) hm)
    · rcases List.mem_cons.mp hpt with rfl | hpt'
      · cases hc'
        exact Or.inl (hupd _ (List.mem_append_right _ (List.mem_map_of_mem hq)) (shiftPeak_score off q ▸ hm))
      · exact Or.inr ⟨pt, hpt', c', hc', q, hq, hm⟩

end Pm.C05
