import PytmeModel.Proofs.C05

/-! Helper lemmas for C05: `_postprocess` puts peaks into the frame of the score map. -/
namespace Pm.C05

/-- the shapes `_postprocess` is called with: a non-empty FFT grid that contains the
convolution box, which contains the output window -/
structure AxOk (ax : Axis) : Prop where
  fast_pos : 0 < ax.fast
  out_nonneg : 0 ≤ ax.out
  out_le : ax.out ≤ ax.conv
  conv_le : ax.conv ≤ ax.fast

theorem cropStart_bounds {ax : Axis} (h : AxOk ax) :
    0 ≤ cropStart ax ∧ cropStart ax + ax.out ≤ ax.conv := by
  have h1 : (0 : Int) ≤ (ax.conv : Int) - ax.out := Int.sub_nonneg_of_le h.out_le
  have h2 := h.out_nonneg
  unfold cropStart
  rw [Int.tdiv_eq_ediv_of_nonneg h1]
  omega

/-- `roll` reads the wrapped position `(p + s) mod N` from `p` -/
theorem rollSrc_wrap {N : Nat} (s : Int) {p : Int} (hp0 : 0 ≤ p) (hp1 : p < N) :
    ((rollSrc N s ((p + s) % (N : Int)).toNat : Nat) : Int) = p := by
  have hN : (N : Int) ≠ 0 := Int.ne_of_gt (Int.lt_of_le_of_lt hp0 hp1)
  unfold rollSrc
  rw [Int.toNat_of_nonneg (Int.emod_nonneg (p + s) hN), Int.sub_emod, Int.emod_emod, ← Int.sub_emod,
    Int.add_sub_cancel, Int.emod_eq_of_lt hp0 hp1]
  exact Int.toNat_of_nonneg hp0

theorem wrap_rollSrc {N : Nat} (s : Int) {x : Nat} (hx : x < N) :
    ((rollSrc N s x : Nat) + s) % (N : Int) = x := by
  have hN : (N : Int) ≠ 0 := Int.ne_of_gt (Int.natCast_pos.mpr (Nat.zero_lt_of_lt hx))
  unfold rollSrc
  rw [Int.toNat_of_nonneg (Int.emod_nonneg _ hN), Int.add_emod, Int.emod_emod, ← Int.add_emod, Int.sub_add_cancel,
    Int.emod_eq_of_lt (Int.natCast_nonneg x) (Int.ofNat_lt.mpr hx)]

/-- **soundness, one axis**: a kept peak lands inside the output window, exactly where the score map
(`roll` by `shift`, cut to `conv`, crop at `cropStart`) shows the raw voxel it came from. -/
theorem ppAxis_sound {ax : Axis} {p t : Int} (hp0 : 0 ≤ p) (hp1 : p < ax.fast)
    (ht : ppAxis true ax p = some t) :
    0 ≤ t ∧ t < ax.out ∧ ((mapSrc ax t.toNat : Nat) : Int) = p := by
  unfold ppAxis at ht
  simp only [↓reduceIte] at ht
  split at ht
  · rename_i hw
    cases ht
    refine ⟨Int.sub_nonneg_of_le hw.1, Int.sub_left_lt_of_lt_add hw.2, ?_⟩
    unfold mapSrc
    rw [Int.toNat_of_nonneg (Int.sub_nonneg_of_le hw.1), Int.sub_add_cancel]
    exact rollSrc_wrap _ hp0 hp1
  · cases ht

/-- **completeness, one axis**: every index `t` of the output window — the first and the last
included — is produced by the raw voxel the score map shows at `t`. -/
theorem ppAxis_complete {ax : Axis} (h : AxOk ax) {t : Nat} (ht : (t : Int) < ax.out) :
    ppAxis true ax (mapSrc ax t : Nat) = some (t : Int) := by
  obtain ⟨hs0, hs1⟩ := cropStart_bounds h
  have hcl := h.conv_le
  have hx0 : ((((t : Int) + cropStart ax).toNat : Nat) : Int) = t + cropStart ax :=
    Int.toNat_of_nonneg (Int.add_nonneg (Int.natCast_nonneg t) hs0)
  have hx : ((t : Int) + cropStart ax).toNat < ax.fast :=
    Int.ofNat_lt.mp (hx0.symm ▸ Int.lt_of_lt_of_le (Int.add_lt_add_right ht _)
      (Int.le_trans (Int.add_comm (cropStart ax) ax.out ▸ hs1) (Int.ofNat_le.mpr hcl)))
  unfold ppAxis mapSrc
  simp only [↓reduceIte]
  rw [wrap_rollSrc _ hx, hx0, if_pos ⟨Int.le_add_of_nonneg_left (Int.natCast_nonneg t),
    Int.add_comm ax.out (cropStart ax) ▸ Int.add_lt_add_right ht (cropStart ax)⟩, Int.add_sub_cancel]

/-- raw positions and reported positions correspond axis by axis -/
def FrameOk : List Axis → List Int → List Int → Prop
  | ax :: axs, p :: ps, t :: ts =>
      (0 ≤ t ∧ t < ax.out ∧ ((mapSrc ax t.toNat : Nat) : Int) = p) ∧ FrameOk axs ps ts
  | [], [], [] => True
  | _, _, _ => False

/-- raw position inside the FFT grid -/
def RawOk : List Axis → List Int → Prop
  | ax :: axs, p :: ps => (0 ≤ p ∧ p < ax.fast) ∧ RawOk axs ps
  | [], [] => True
  | _, _ => False

theorem ppPos_sound (axs : List Axis) (p t : List Int) (hr : RawOk axs p)
    (h : ppPos true axs p = some t) : FrameOk axs p t := by
  fun_induction RawOk axs p generalizing t with
  | case1 ax axs p ps ih =>
    rw [ppPos] at h
    split at h
    · rename_i q qs hq hqs
      cases h
      exact ⟨ppAxis_sound hr.1.1 hr.1.2 hq, ih qs hr.2 hqs⟩
    · cases h
  | case2 => cases h; trivial
  | case3 => cases hr

/-- output indices inside the window -/
def OutOk : List Axis → List Nat → Prop
  | ax :: axs, t :: ts => (t : Int) < ax.out ∧ OutOk axs ts
  | [], [] => True
  | _, _ => False

/-- the raw multi-index the score map shows at output index `t` -/
def mapSrcN : List Axis → List Nat → List Int
  | ax :: axs, t :: ts => ((mapSrc ax t : Nat) : Int) :: mapSrcN axs ts
  | _, _ => []

theorem ppPos_complete (axs : List Axis) (t : List Nat) (hax : ∀ ax ∈ axs, AxOk ax) (h : OutOk axs t) :
    ppPos true axs (mapSrcN axs t) = some (t.map Int.ofNat) := by
  fun_induction OutOk axs t with
  | case1 ax axs t ts ih =>
    rw [mapSrcN, ppPos, ppAxis_complete (hax ax List.mem_cons_self) h.1,
      ih (fun a ha => hax a (List.mem_cons_of_mem _ ha)) h.2]
    rfl
  | case2 => rfl
  | case3 => cases h

theorem rawOk_of_inShape (axes : List Axis) (c : List Nat) (h : inShape (axes.map (·.fast)) c = true) :
    RawOk axes (c.map Int.ofNat) := by
  induction axes generalizing c with
  | nil =>
    cases c with
    | nil => trivial
    | cons _ _ => cases h
  | cons ax axs ih =>
    cases c with
    | nil => cases h
    | cons c cs =>
      obtain ⟨h1, h2⟩ := inShape_cons.mp h
      exact ⟨⟨Int.natCast_nonneg c, Int.ofNat_lt.mpr h1⟩, ih cs h2⟩

theorem postprocess_mem {wrap : Bool} {axes : List Axis} {peaks : List Peak} {q : Peak}
    (h : q ∈ postprocess wrap axes peaks) :
    ∃ p ∈ peaks, ppPos wrap axes p.pos = some q.pos ∧ q.rot = p.rot ∧ q.score = p.score := by
  obtain ⟨p, hp, hq⟩ := List.mem_filterMap.mp h
  obtain ⟨t, hpp, rfl⟩ := Option.map_eq_some_iff.mp hq
  exact ⟨p, hp, hpp, rfl, rfl⟩

end Pm.C05
