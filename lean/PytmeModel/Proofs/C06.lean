import PytmeModel.Model.C06
import PytmeModel.Proofs.Common
import Mathlib.Algebra.BigOperators.Fin
import Mathlib.Tactic.Ring
import Mathlib.Algebra.BigOperators.Field
import Mathlib.Algebra.Order.AbsoluteValue.Basic

/-! Helper lemmas for C06: `sumFin` is the `Finset` sum, homogeneous matrices compose like affine maps (`aff`), the mean
commutes with rotation about a centre, doubled coordinates under signed permutations (`IsSignedPerm`, `pull2_*`,
`resample_*`), running maximum and minimum of a shifted set, `absV`/`absMax` of the noise clean-up. -/
namespace Pm.C06
open Finset

theorem sumFin_eq_sum {α : Type} [AddCommMonoid α] : ∀ (d : Nat) (f : Fin d → α), sumFin d f = ∑ i, f i
  | 0, f => (Fin.sum_univ_zero f).symm
  | d+1, f => by rw [sumFin, sumFin_eq_sum d, Fin.sum_univ_castSucc]

theorem allFin_iff : ∀ (d : Nat) (p : Fin d → Bool), allFin d p = true ↔ ∀ i, p i = true
  | 0, p => ⟨fun _ i => i.elim0, fun _ => rfl⟩
  | d+1, p => by
      rw [allFin, Bool.and_eq_true, allFin_iff d]
      constructor
      · rintro ⟨h1, h2⟩ i
        refine Fin.lastCases h2 (fun j => h1 j) i
      · intro h
        exact ⟨fun j => h _, h _⟩

section
variable {α : Type} [CommRing α]

/-- homogeneous matrix `[[A, b], [0, 1]]` -/
def aff {d : Nat} (A : Mat d α) (b : Vec d α) : Mat (d+1) α := fun i j =>
  if hi : i.val < d then
    if hj : j.val < d then A ⟨i.val, hi⟩ ⟨j.val, hj⟩ else b ⟨i.val, hi⟩
  else if j.val < d then 0 else 1

theorem matVec_eq {n : Nat} (A : Mat n α) (v : Vec n α) (i : Fin n) :
    matVec A v i = ∑ j, A i j * v j :=
  sumFin_eq_sum n _

theorem matMul_eq {n : Nat} (A B : Mat n α) (i k : Fin n) :
    matMul A B i k = ∑ j, A i j * B j k :=
  sumFin_eq_sum n _

theorem aff_corner {d : Nat} (A : Mat d α) (b : Vec d α) : aff A b (Fin.last d) (Fin.last d) = 1 := by
  simp [aff]

theorem aff_bottom {d : Nat} (A : Mat d α) (b : Vec d α) (j : Fin d) : aff A b (Fin.last d) j.castSucc = 0 := by
  simp [aff]

theorem aff_block {d : Nat} (A : Mat d α) (b : Vec d α) (i j : Fin d) : aff A b i.castSucc j.castSucc = A i j := by
  simp [aff]

theorem aff_column {d : Nat} (A : Mat d α) (b : Vec d α) (i : Fin d) : aff A b i.castSucc (Fin.last d) = b i := by
  simp [aff]

theorem eq_aff {d : Nat} {M : Mat (d+1) α} {A : Mat d α} {b : Vec d α}
    (h11 : ∀ i j : Fin d, M i.castSucc j.castSucc = A i j) (h12 : ∀ i : Fin d, M i.castSucc (Fin.last d) = b i)
    (h21 : ∀ j : Fin d, M (Fin.last d) j.castSucc = 0) (h22 : M (Fin.last d) (Fin.last d) = 1) : M = aff A b := by
  funext i j
  refine Fin.lastCases ?_ (fun i => ?_) i <;> refine Fin.lastCases ?_ (fun j => ?_) j
  · rw [h22, aff_corner]
  · rw [h21, aff_bottom]
  · rw [h12, aff_column]
  · rw [h11, aff_block]

theorem ident_eq_aff (d : Nat) : (ident (d+1) : Mat (d+1) α) = aff (ident d) (fun _ => 0) :=
  eq_aff (fun i j => by simp only [ident, Fin.castSucc_inj]) (fun i => if_neg (Fin.castSucc_lt_last i).ne)
    (fun j => if_neg (Fin.castSucc_lt_last j).ne') (if_pos rfl)

theorem transMat_eq_aff {d : Nat} (b : Vec d α) : transMat b = aff (ident d) b :=
  eq_aff (fun i j => (dif_neg (fun h => j.isLt.ne h.2)).trans (by rw [ident_eq_aff, aff_block]))
    (fun i => dif_pos ⟨i.isLt, rfl⟩)
    (fun j => (dif_neg (fun h => lt_irrefl d h.1)).trans (by rw [ident_eq_aff, aff_bottom]))
    ((dif_neg (fun h => lt_irrefl d h.1)).trans (if_pos rfl))

theorem embedRot_eq_aff {d : Nat} (A : Mat d α) : embedRot A = aff A (fun _ => 0) :=
  eq_aff (fun i j => dif_pos ⟨i.isLt, j.isLt⟩)
    (fun i => (dif_neg (fun h => lt_irrefl d h.2)).trans (by rw [ident_eq_aff, aff_column]))
    (fun j => (dif_neg (fun h => lt_irrefl d h.1)).trans (by rw [ident_eq_aff, aff_bottom]))
    ((dif_neg (fun h => lt_irrefl d h.1)).trans (if_pos rfl))

theorem matMul_aff {d : Nat} (A A' : Mat d α) (b b' : Vec d α) :
    matMul (aff A b) (aff A' b') = aff (matMul A A') (fun i => matVec A b' i + b i) := by
  refine eq_aff (fun i k => ?_) (fun i => ?_) (fun k => ?_) ?_ <;>
    simp only [matMul_eq, matVec_eq, Fin.sum_univ_castSucc, aff_block, aff_column, aff_bottom, aff_corner, mul_zero,
      zero_mul, mul_one, add_zero, zero_add, Finset.sum_const_zero]

theorem affineSrc_aff {d : Nat} (A : Mat d α) (b : Vec d α) (o : Vec d α) (i : Fin d) :
    affineSrc (aff A b) o i = matVec A o i + b i := by
  simp only [affineSrc, sumFin_eq_sum, aff_block, aff_column, matVec_eq]

theorem matMul_ident_left {n : Nat} (A : Mat n α) : matMul (ident n) A = A := by
  funext i k
  simp only [matMul_eq, ident, ite_mul, one_mul, zero_mul, Finset.sum_ite_eq, Finset.mem_univ, if_true]

theorem matMul_ident_right {n : Nat} (A : Mat n α) : matMul A (ident n) = A := by
  funext i k
  simp only [matMul_eq, ident, mul_ite, mul_one, mul_zero, Finset.sum_ite_eq', Finset.mem_univ, if_true]

theorem matVec_ident {n : Nat} (v : Vec n α) : matVec (ident n) v = v := by
  funext i
  simp only [matVec_eq, ident, ite_mul, one_mul, zero_mul, Finset.sum_ite_eq, Finset.mem_univ, if_true]

theorem matVec_add {n : Nat} (A : Mat n α) (u v : Vec n α) (i : Fin n) :
    matVec A (fun j => u j + v j) i = matVec A u i + matVec A v i := by
  simp only [matVec_eq, mul_add, Finset.sum_add_distrib]

theorem matVec_sub {n : Nat} (A : Mat n α) (u v : Vec n α) (i : Fin n) :
    matVec A (fun j => u j - v j) i = matVec A u i - matVec A v i := by
  simp only [matVec_eq, mul_sub, Finset.sum_sub_distrib]

theorem matVec_neg {n : Nat} (A : Mat n α) (u : Vec n α) (i : Fin n) :
    matVec A (fun j => - u j) i = - matVec A u i := by
  simp only [matVec_eq, mul_neg, Finset.sum_neg_distrib]

theorem matVec_zero {n : Nat} (A : Mat n α) (i : Fin n) : matVec A (fun _ => (0:α)) i = 0 := by
  simp only [matVec_eq, mul_zero, Finset.sum_const_zero]

theorem matVec_smul {n : Nat} (A : Mat n α) (k : α) (u : Vec n α) (i : Fin n) :
    matVec A (fun j => k * u j) i = k * matVec A u i := by
  simp only [matVec_eq, Finset.mul_sum]
  exact Finset.sum_congr rfl (fun j _ => by ring)

theorem matVec_matVec {n : Nat} (A B : Mat n α) (v : Vec n α) (i : Fin n) :
    matVec A (matVec B v) i = matVec (matMul A B) v i := by
  simp only [matVec_eq, matMul_eq, Finset.mul_sum, Finset.sum_mul]
  rw [Finset.sum_comm]
  exact Finset.sum_congr rfl (fun j _ => Finset.sum_congr rfl (fun k _ => by ring))

theorem matVec_dot {d : Nat} (R : Mat d α) (v w : Vec d α) :
    ∑ i, matVec R v i * w i = ∑ j, v j * matVec (transpose R) w j := by
  simp only [matVec_eq, transpose, Finset.sum_mul, Finset.mul_sum]
  rw [Finset.sum_comm]
  exact Finset.sum_congr rfl fun j _ => Finset.sum_congr rfl fun i _ => by rw [mul_comm (R i j), mul_assoc]

theorem matVec_norm_sq {d : Nat} (R : Mat d α) (hR : matMul (transpose R) R = ident d) (v : Vec d α) :
    ∑ i, matVec R v i * matVec R v i = ∑ i, v i * v i := by
  rw [matVec_dot]
  simp only [matVec_matVec, hR, matVec_ident]

/-- the product `T(−t)·C(c)·R⁻¹·C(−c)` built by `_rigid_transform_matrix`, in block form -/
theorem rigidMatrixRaw_eq_aff {d : Nat} (rinv : Mat d α) (t c : Vec d α) :
    rigidMatrixRaw rinv (some t) (some c) = aff rinv (fun i => c i - t i - matVec rinv c i) := by
  simp only [rigidMatrixRaw, ident_eq_aff, transMat_eq_aff, embedRot_eq_aff, matMul_aff,
    matMul_ident_left, matMul_ident_right]
  congr 1
  funext i
  simp only [matVec_ident, matVec_zero, matVec_neg]
  ring

theorem matVec_cancel {n : Nat} {A B : Mat n α} (h : matMul A B = ident n) (v : Vec n α) :
    matVec A (matVec B v) = v :=
  funext fun i => by rw [matVec_matVec, h, matVec_ident]

theorem cast_matVec {d : Nat} (R : Mat d Int) (v : Vec d Int) (i : Fin d) :
    ((matVec R v i : Int) : α) = matVec (fun a b => ((R a b : Int) : α)) (fun j => (v j : α)) i := by
  simp only [matVec_eq, Int.cast_sum, Int.cast_mul]

theorem moved_sub_moved {d : Nat} (R : Mat d α) (p q c : Vec d α) (s : α) (i : Fin d) :
    (matVec R (fun j => p j - c j) i + s) - (matVec R (fun j => q j - c j) i + s) =
      matVec R (fun j => p j - q j) i := by
  rw [add_sub_add_right_eq_sub, ← matVec_sub]
  simp only [sub_sub_sub_cancel_right]

theorem dist_sq_of_diff {d : Nat} (R : Mat d α) (hR : matMul (transpose R) R = ident d)
    {u v p q : Vec d α} (h : ∀ i, u i - v i = matVec R (fun j => p j - q j) i) :
    ∑ i, (u i - v i) * (u i - v i) = ∑ i, (p i - q i) * (p i - q i) := by
  simp only [h]
  exact matVec_norm_sq R hR _

end

section
variable {K : Type} [Field K]

/-- the corner entry is `1` and the bottom row `0`, so the final `matrix /= matrix[d, d]` changes nothing -/
theorem rigidMatrix_normalisation_noop {d : Nat} (rinv : Mat d K) (t c : Vec d K) :
    rigidMatrix rinv (some t) (some c) = rigidMatrixRaw rinv (some t) (some c) := by
  funext i j
  simp only [rigidMatrix, rigidMatrixRaw_eq_aff, aff_corner, div_one]

theorem mean_eq {N d : Nat} (x : Fin N → Vec d K) (i : Fin d) : mean x i = (∑ k, x k i) / (N : K) := by
  rw [mean, sumFin_eq_sum]

theorem mean_add_const {N d : Nat} (hN : (N : K) ≠ 0) (x : Fin N → Vec d K) (b : Vec d K) (i : Fin d) :
    mean (fun k j => x k j + b j) i = mean x i + b i := by
  rw [mean_eq, mean_eq, Finset.sum_add_distrib, Finset.sum_const, Finset.card_univ, Fintype.card_fin, nsmul_eq_mul,
    add_div, mul_div_cancel_left₀ _ hN]

theorem mean_matVec {N d : Nat} (R : Mat d K) (x : Fin N → Vec d K) (i : Fin d) :
    mean (fun k => matVec R (x k)) i = matVec R (mean x) i := by
  simp only [mean_eq, matVec_eq]
  rw [Finset.sum_comm, Finset.sum_div]
  exact Finset.sum_congr rfl fun j _ => by rw [← Finset.mul_sum, mul_div_assoc]

theorem mean_rot {N d : Nat} (hN : (N : K) ≠ 0) (R : Mat d K) (x : Fin N → Vec d K) (c : Vec d K) (i : Fin d) :
    mean (fun k => matVec R (fun j => x k j - c j)) i = matVec R (fun j => mean x j - c j) i := by
  rw [mean_matVec]
  exact congrArg (fun v => matVec R v i) (funext fun j => by
    simpa only [sub_eq_add_neg] using mean_add_const hN x (fun j => -c j) j)

theorem coordsCore_point {N d : Nat} (hN : (N : K) ≠ 0) (x : Fin N → Vec d K) (R : Mat d K) (t c p : Vec d K)
    (i : Fin d) :
    matVec R (fun j => p j - c j) i + (t i + (c i - mean (fun k => matVec R (fun j => x k j - c j)) i)) =
      matVec R (fun j => p j - mean x j) i + c i + t i := by
  rw [mean_rot hN]
  simp only [matVec_sub]
  ring

theorem coordsCore_fst {N M d : Nat} (hN : (N : K) ≠ 0) (x : Fin N → Vec d K)
    (R : Mat d K) (t c : Vec d K) (mask : Fin M → Vec d K) (k : Fin N) (i : Fin d) :
    (coordsCore x R t c mask).1 k i = matVec R (fun j => x k j - mean x j) i + c i + t i :=
  coordsCore_point hN x R t c (x k) i

theorem coordsCore_snd {N M d : Nat} (hN : (N : K) ≠ 0) (x : Fin N → Vec d K)
    (R : Mat d K) (t c : Vec d K) (mask : Fin M → Vec d K) (k : Fin M) (i : Fin d) :
    (coordsCore x R t c mask).2 k i = matVec R (fun j => mask k j - mean x j) i + c i + t i :=
  coordsCore_point hN x R t c (mask k) i

end

/-- `R` is a signed permutation matrix: row `i` has the single non-zero entry `s i = ±1` in column `q i`. -/
def IsSignedPerm {d : Nat} (R : Mat d Int) (q : Fin d → Fin d) (s : Fin d → Int) : Prop :=
  (∀ i, s i = 1 ∨ s i = -1) ∧ ∀ i j, R i j = if j = q i then s i else 0

theorem matVec_signedPerm {d : Nat} {R : Mat d Int} {q : Fin d → Fin d} {s : Fin d → Int}
    (h : IsSignedPerm R q s) (v : Vec d Int) (i : Fin d) : matVec R v i = s i * v (q i) := by
  simp only [matVec_eq, h.2, ite_mul, zero_mul, Finset.sum_ite_eq', Finset.mem_univ, if_true]

theorem inBox_iff {d : Nat} (n : Fin d → Nat) (x : Vec d Int) :
    inBox n x = true ↔ ∀ i, 0 ≤ x i ∧ x i < (n i : Int) := by
  rw [inBox, allFin_iff]
  simp only [Bool.and_eq_true, decide_eq_true_eq]

theorem isEven_iff {d : Nat} (s2 : Vec d Int) : isEven s2 = true ↔ ∀ i, s2 i % 2 = 0 := by
  rw [isEven, allFin_iff]
  simp only [beq_iff_eq]

theorem resample_double {α : Type} [Zero α] {d : Nat} (n : Fin d → Nat) (f : Vec d Int → α) (x : Vec d Int) :
    resample n f (fun i => 2 * x i) = some (if inBox n x then f x else 0) := by
  have h2 : (fun i => (2 * x i) / 2) = x := funext fun i => Int.mul_ediv_cancel_left (x i) (by decide)
  rw [resample, if_pos ((isEven_iff _).2 fun i => Int.mul_emod_right 2 (x i))]
  simp only [h2]

theorem even_or_odd {d : Nat} (s2 : Vec d Int) : (∃ src : Vec d Int, s2 = fun i => 2 * src i) ∨ isEven s2 = false := by
  cases hev : isEven s2
  · exact Or.inr rfl
  · exact Or.inl ⟨fun i => s2 i / 2, funext fun i =>
      (Int.mul_ediv_cancel' (Int.dvd_of_emod_eq_zero ((isEven_iff s2).1 hev i))).symm⟩

theorem resample_of_odd {α : Type} [Zero α] {d : Nat} (n : Fin d → Nat) (f : Vec d Int → α) {s2 : Vec d Int}
    (h : isEven s2 = false) : resample n f s2 = none := by
  rw [resample, h]; rfl

theorem resample_isSome {α : Type} [Zero α] {d : Nat} (n : Fin d → Nat) (f : Vec d Int → α) (s2 : Vec d Int) :
    (resample n f s2).isSome = isEven s2 := by
  rw [resample]; split <;> simp only [*, Option.isSome]

theorem pull2_eq_push2 {d : Nat} (n : Fin d → Nat) (M : Mat d Int) (o : Vec d Int) :
    pull2 n M (fun _ => 0) o = push2 n M (fun _ => 0) o := by
  funext i; simp [pull2, push2]

theorem pull2_comp {d : Nat} (n : Fin d → Nat) (A B : Mat d Int) (o m : Vec d Int)
    (hm : ∀ i, pull2 n B (fun _ => 0) o i = 2 * m i) :
    pull2 n A (fun _ => 0) m = pull2 n (matMul A B) (fun _ => 0) o := by
  funext i
  have h1 : (fun j => 2 * m j - ((n j : Int) - 1)) = matVec B (fun j => 2 * o j - ((n j : Int) - 1)) :=
    funext fun j => by rw [← hm j, pull2, mul_zero, sub_zero, add_sub_cancel_right]
  rw [pull2, pull2, h1, matVec_matVec]

theorem pull2_signedPerm {d : Nat} {R : Mat d Int} {q : Fin d → Fin d} {s : Fin d → Int}
    (h : IsSignedPerm R q s) (n : Fin d → Nat) (hn : ∀ i, n (q i) = n i) (t o : Vec d Int) (i : Fin d) :
    pull2 n R t o i = 2 * ((if s i = 1 then o (q i) else (n i : Int) - 1 - o (q i)) - t i) := by
  rw [pull2, matVec_signedPerm h, hn i]
  rcases h.1 i with h1 | h1
  · rw [h1, if_pos rfl]; ring
  · rw [h1, if_neg (by decide)]; ring

theorem push2_signedPerm_box {d : Nat} {R : Mat d Int} {q : Fin d → Fin d} {s : Fin d → Int}
    (h : IsSignedPerm R q s) (n : Fin d → Nat) (hn : ∀ i, n (q i) = n i) (x : Vec d Int)
    (hx : inBox n x = true) :
    ∃ y : Vec d Int, inBox n y = true ∧ ∀ i, push2 n R (fun _ => 0) x i = 2 * y i := by
  rw [inBox_iff] at hx
  refine ⟨fun i => (if s i = 1 then x (q i) else (n i : Int) - 1 - x (q i)) - 0, ?_, fun i => ?_⟩
  · rw [inBox_iff]
    intro i
    have := hx (q i)
    have hq := hn i
    split <;> omega
  · rw [← pull2_eq_push2, pull2_signedPerm h n hn]

/-- `out.max(axis=1)` of a set shifted by a common vector -/
theorem maxFin_add_const {K : Type} [LinearOrder K] [Add K] [AddRightMono K] :
    ∀ (N : Nat) (f : Fin (N+1) → K) (b : K), maxFin N (fun k => f k + b) = maxFin N f + b
  | 0, _, _ => rfl
  | N+1, f, b => by rw [maxFin, maxFin, maxFin_add_const N _ b, max_add_add_right]

/-- `out.min(axis=1)` of a set shifted by a common vector -/
theorem minFin_add_const {K : Type} [LinearOrder K] [Add K] [AddRightMono K] :
    ∀ (N : Nat) (f : Fin (N+1) → K) (b : K), minFin N (fun k => f k + b) = minFin N f + b
  | 0, _, _ => rfl
  | N+1, f, b => by rw [minFin, minFin, minFin_add_const N _ b, min_add_add_right]

section cleanNoise
set_option linter.unusedSectionVars false
variable {K : Type} [Field K] [LinearOrder K] [IsStrictOrderedRing K]

theorem absV_eq_abs (v : K) : absV v = |v| :=
  abs_eq_max_neg.symm

theorem absMax_nonneg (l : List K) : 0 ≤ absMax l := by
  induction l with
  | nil => exact le_refl _
  | cons v l ih => exact le_max_of_le_right ih

theorem absV_le_absMax {l : List K} {v : K} (h : v ∈ l) : absV v ≤ absMax l := by
  induction l with
  | nil => cases h
  | cons w l ih =>
      rcases List.mem_cons.mp h with rfl | h'
      · exact le_max_left _ _
      · exact le_max_of_le_right (ih h')

theorem absV_scale {s : K} (hs : 0 ≤ s) (v : K) : absV (s * v) = s * absV v := by
  rw [absV_eq_abs, absV_eq_abs, abs_mul, abs_of_nonneg hs]

theorem absMax_scale (s : K) (hs : 0 ≤ s) (l : List K) : absMax (l.map (s * ·)) = s * absMax l := by
  induction l with
  | nil => exact (mul_zero s).symm
  | cons v l ih =>
      simp only [absMax, List.map_cons, List.foldr_cons] at ih ⊢
      rw [ih, absV_scale hs, mul_max_of_nonneg _ _ hs]

end cleanNoise

end Pm.C06
