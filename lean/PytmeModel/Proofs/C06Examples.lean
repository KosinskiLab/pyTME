import PytmeModel.Model.C06
import PytmeModel.Proofs.C06
import PytmeModel.Proofs.C06Linear
import PytmeModel.Proofs.C06LinearMoment

/-! Concrete instances used by the non-vacuity examples of `Props/C06.lean`. -/
namespace Pm.C06

/-! `exR3`: the 3-D grid rotation `(x, y, z) ↦ (z, y, −x)` with its inverse, both as signed permutations (`exQ3`, `exS3`,
`exS3inv`); `exN3`: the shape `(5, 6, 5)` it leaves invariant; `exF3`, `exX3`: data and a voxel. -/
def exR3 : Mat 3 Int := matOfRows 3 [[0, 0, 1], [0, 1, 0], [-1, 0, 0]]
def exR3inv : Mat 3 Int := matOfRows 3 [[0, 0, -1], [0, 1, 0], [1, 0, 0]]
def exQ3 : Fin 3 → Fin 3 := fun i => ⟨2 - i.val, by omega⟩
def exS3 : Fin 3 → Int := fun i => if i.val = 0 then 1 else if i.val = 1 then 1 else -1
def exS3inv : Fin 3 → Int := fun i => if i.val = 0 then -1 else 1
def exN3 : Fin 3 → Nat := fun i => if i.val = 1 then 6 else 5
def exF3 : Vec 3 Int → Int := fun x => 100 * x 0 + 10 * x 1 + x 2 + 1
def exX3 : Vec 3 Int := vecOfList 3 [1, 5, 4]

theorem exR3_signed : IsSignedPerm exR3 exQ3 exS3 := by
  unfold IsSignedPerm; decide +kernel
theorem exR3inv_signed : IsSignedPerm exR3inv exQ3 exS3inv := by
  unfold IsSignedPerm; decide +kernel
theorem exR3_inv : matMul exR3inv exR3 = ident 3 := by funext i j; revert i j; decide +kernel
theorem exR3_inv' : matMul exR3 exR3inv = ident 3 := by funext i j; revert i j; decide +kernel
theorem exN3_inv : ∀ i, exN3 (exQ3 i) = exN3 i := by decide +kernel

/-! `exRq`: a rational rotation (3-4-5) with its inverse; `exT`, `exC`, `exPts`: a translation, a centre and three points
for the matrix / coordinate theorems. -/
def exRq : Mat 2 Rat := matOfRows 2 [[3/5, -4/5], [4/5, 3/5]]
def exRqinv : Mat 2 Rat := matOfRows 2 [[3/5, 4/5], [-4/5, 3/5]]
def exT : Vec 2 Rat := vecOfList 2 [1/2, -3]
def exC : Vec 2 Rat := vecOfList 2 [5/2, 3]
def exPts : Fin 3 → Vec 2 Rat := fun k => vecOfList 2 ([[0, 0], [4, 0], [2, 9]].getD k.val [])
theorem exRq_orth : matMul (transpose exRq) exRq = ident 2 := by funext i j; revert i j; decide +kernel
theorem exRq_inv : matMul exRqinv exRq = ident 2 := by funext i j; revert i j; decide +kernel
theorem exRq_inv' : matMul exRq exRqinv = ident 2 := by funext i j; revert i j; decide +kernel

/-! `exA2`: a 4 × 5 array with a one-voxel zero border; `exT2`: the sub-voxel translation `(1/2, −3/4)`; `exC2`: some centre. -/
def exA2 : Arr Rat := ⟨[4, 5], #[0,0,0,0,0, 0,3,5,0,0, 0,2,7,0,0, 0,0,0,0,0]⟩
def exT2 : Vec 2 Rat := vecOfList 2 [1/2, -3/4]
def exC2 : Vec 2 Rat := vecOfList 2 [3/2, 2]

instance (n : Nat) (t : Rat) (x : Int) : Decidable (SuppOK n t x) := by unfold SuppOK; infer_instance

/-- every non-zero voxel of `exA2`, shifted by `exT2`, stays inside -/
theorem exA2_supp : ∀ idx, inShape exA2.shape idx = true → exA2.getD idx 0 ≠ 0 →
    ∀ i : Fin 2, SuppOK (exA2.shape.getD i.val 0) (exT2 i) ((idx.getD i.val 0 : Nat) : Int) :=
  fun idx h => (by decide +kernel : ∀ idx ∈ allIdx exA2.shape, exA2.getD idx 0 ≠ 0 →
    ∀ i : Fin 2, SuppOK (exA2.shape.getD i.val 0) (exT2 i) ((idx.getD i.val 0 : Nat) : Int)) idx (mem_allIdx.2 h)

/-- the values of `exA2` lie in `[0, 7]` -/
theorem exA2_range : ∀ idx, inShape exA2.shape idx = true → (0 : Rat) ≤ exA2.getD idx 0 ∧ exA2.getD idx 0 ≤ 7 :=
  fun idx h => (by decide +kernel : ∀ idx ∈ allIdx exA2.shape, (0 : Rat) ≤ exA2.getD idx 0 ∧ exA2.getD idx 0 ≤ 7)
    idx (mem_allIdx.2 h)

/-! `exRamp`: the affine ramp `2 + 3x − y/2` on 3 × 4 voxels; `exConst`: a constant array of the same shape. -/
def exRamp : Arr Rat := Arr.ofFn [3, 4] (fun idx => 2 + 3 * ((idx.getD 0 0 : Nat) : Rat) + (-1/2) * ((idx.getD 1 0 : Nat) : Rat))
def exConst : Arr Rat := Arr.ofFn [3, 4] (fun _ => 5)

theorem exRamp_affine : ∀ idx, inShape exRamp.shape idx = true →
    exRamp.getD idx 0 = 2 + dotL [3, -1/2] (ratIdx idx) := by
  intro idx h
  have h0 : inShape [3, 4] idx = true := h
  obtain ⟨i, j, rfl⟩ := List.length_eq_two.1 (inShape_length h0)
  rw [exRamp, Arr.getD_ofFn _ _ _ _ h0]
  show 2 + 3 * (i : Rat) + (-1/2) * (j : Rat) = 2 + (3 * ((i : Int) : Rat) + ((-1/2) * ((j : Int) : Rat) + 0))
  rw [add_zero, add_assoc, Int.cast_natCast, Int.cast_natCast]

theorem exConst_const : ∀ idx, inShape exConst.shape idx = true → exConst.getD idx 0 = 5 := by
  intro idx h
  have h0 : inShape [3, 4] idx = true := h
  rw [exConst, Arr.getD_ofFn _ _ _ _ h0]

/-- a position inside the 3 × 4 arrays, off the grid on both axes -/
theorem exInside : InsideL [(1/2 : Rat), 9/4] [3, 4] :=
  (insideL_iff _ _).2 ⟨rfl, by decide +kernel⟩

end Pm.C06
