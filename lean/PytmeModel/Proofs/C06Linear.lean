import PytmeModel.Model.C06
import PytmeModel.Proofs.Common
import Mathlib.Algebra.Order.Floor.Ring
import Mathlib.Data.Rat.Floor
import Mathlib.Algebra.BigOperators.Ring.List
import Mathlib.Tactic.Ring

/-! Order-1 (multilinear) interpolation — the mathematics behind `linInterp` (`Model/C06.lean`).

`interpRec` is the interpolant as an iterated one-dimensional interpolation, over any ordered field with a floor
function; `linCorners_sum` shows that the `2^d`-corner sum the executable model evaluates is `interpRec` at `K = ℚ`.
All properties (partition of unity, bounds, affine exactness, grid points) are proved for `interpRec` and transferred. -/
set_option linter.unusedSectionVars false
namespace Pm.C06

section generic
variable {K : Type} [Field K] [LinearOrder K] [IsStrictOrderedRing K] [FloorRing K]

/-- order-1 interpolation of `g : ℤ^d → K` at `xs`, axis by axis: on each axis the two nodes `⌊x⌋`, `⌊x⌋ + 1` with the
weights `1 − frac x`, `frac x` -/
def interpRec : List K → (List Int → K) → K
  | [], g => g []
  | x :: xs, g => (1 - Int.fract x) * interpRec xs (fun is => g (⌊x⌋ :: is))
      + Int.fract x * interpRec xs (fun is => g ((⌊x⌋ + 1) :: is))

/-- the corner `is` of the cell of `xs` carries a non-zero weight: on every axis it is `⌊x⌋`, or `⌊x⌋ + 1` for a
position that is not on the grid plane of that axis -/
def Relevant (xs : List K) (is : List Int) : Prop :=
  List.Forall₂ (fun x i => i = ⌊x⌋ ∨ (i = ⌊x⌋ + 1 ∧ Int.fract x ≠ 0)) xs is

/-- `Σ β_i x_i` -/
def dotL (β x : List K) : K := (List.zipWith (· * ·) β x).sum

section
omit [LinearOrder K] [IsStrictOrderedRing K] [FloorRing K]

@[simp] theorem dotL_nil_left (x : List K) : dotL ([] : List K) x = 0 := rfl
@[simp] theorem dotL_nil_right (β : List K) : dotL β ([] : List K) = 0 := by cases β <;> rfl
@[simp] theorem dotL_cons (b : K) (bs : List K) (x : K) (xs : List K) :
    dotL (b :: bs) (x :: xs) = b * x + dotL bs xs := rfl

end

/-- the interpolant is monotone in the data on the corners that carry weight: every weight is non-negative, and the
weight of the upper node of an axis vanishes when the position lies on the grid plane of that axis -/
theorem interpRec_mono : ∀ (xs : List K) (g g' : List Int → K),
    (∀ is, Relevant xs is → g is ≤ g' is) → interpRec xs g ≤ interpRec xs g'
  | [], g, g', h => h [] List.Forall₂.nil
  | x :: xs, g, g', h => by
      have a := interpRec_mono xs (fun is => g (⌊x⌋ :: is)) (fun is => g' (⌊x⌋ :: is))
        (fun is his => h _ (List.Forall₂.cons (Or.inl rfl) his))
      simp only [interpRec]
      refine add_le_add (mul_le_mul_of_nonneg_left a (sub_nonneg.2 (Int.fract_lt_one x).le)) ?_
      by_cases hf : Int.fract x = 0
      · rw [hf, zero_mul, zero_mul]
      · exact mul_le_mul_of_nonneg_left (interpRec_mono xs (fun is => g ((⌊x⌋ + 1) :: is))
          (fun is => g' ((⌊x⌋ + 1) :: is)) (fun is his => h _ (List.Forall₂.cons (Or.inr ⟨rfl, hf⟩) his)))
          (Int.fract_nonneg x)

theorem interpRec_congr (xs : List K) (g g' : List Int → K) (h : ∀ is, Relevant xs is → g is = g' is) :
    interpRec xs g = interpRec xs g' :=
  le_antisymm (interpRec_mono xs g g' fun is his => (h is his).le) (interpRec_mono xs g' g fun is his => (h is his).ge)

theorem interpRec_const (c : K) : ∀ xs : List K, interpRec xs (fun _ => c) = c
  | [] => rfl
  | x :: xs => by rw [interpRec, interpRec_const c xs, ← add_mul, sub_add_cancel, one_mul]

theorem interpRec_bounds (lo hi : K) (xs : List K) (g : List Int → K)
    (h : ∀ is, Relevant xs is → lo ≤ g is ∧ g is ≤ hi) : lo ≤ interpRec xs g ∧ interpRec xs g ≤ hi :=
  ⟨(interpRec_const lo xs).ge.trans (interpRec_mono xs _ g fun is his => (h is his).1),
   (interpRec_mono xs g _ fun is his => (h is his).2).trans (interpRec_const hi xs).le⟩

theorem interpRec_affineFn : ∀ (xs : List K) (α : K) (β : List K),
    interpRec xs (fun is => α + dotL β (is.map (fun (z : Int) => (z : K)))) = α + dotL β xs
  | [], α, β => by rw [interpRec, List.map_nil, dotL_nil_right]
  | x :: xs, α, [] => interpRec_const (α + 0) (x :: xs)
  | x :: xs, α, b :: bs => by
      simp only [interpRec, List.map_cons, dotL_cons, ← add_assoc, interpRec_affineFn xs _ bs, Int.cast_add,
        Int.cast_one]
      rw [← Int.self_sub_floor]; ring

theorem interpRec_affine (xs : List K) (g : List Int → K) (α : K) (β : List K)
    (h : ∀ is, Relevant xs is → g is = α + dotL β (is.map (fun (z : Int) => (z : K)))) :
    interpRec xs g = α + dotL β xs :=
  (interpRec_congr xs g _ h).trans (interpRec_affineFn xs α β)

theorem interpRec_int : ∀ (ks : List Int) (g : List Int → K),
    interpRec (ks.map (fun (z : Int) => (z : K))) g = g ks
  | [], g => rfl
  | k :: ks, g => by
      simp only [List.map_cons, interpRec, Int.fract_intCast, Int.floor_intCast, sub_zero, one_mul, zero_mul,
        add_zero]
      exact interpRec_int ks _

/-- the interpolant is linear in the data -/
theorem interpRec_add : ∀ (xs : List K) (g h : List Int → K),
    interpRec xs (fun is => g is + h is) = interpRec xs g + interpRec xs h
  | [], g, h => rfl
  | x :: xs, g, h => by
      rw [interpRec, interpRec_add xs, interpRec_add xs, mul_add, mul_add, add_add_add_comm]; rfl

theorem interpRec_smul (c : K) : ∀ (xs : List K) (g : List Int → K),
    interpRec xs (fun is => c * g is) = c * interpRec xs g
  | [], g => rfl
  | x :: xs, g => by
      rw [interpRec, interpRec_smul c xs, interpRec_smul c xs, mul_left_comm, mul_left_comm (Int.fract x), ← mul_add]
      rfl

/-- the position lies inside the array: `0 ≤ x_i ≤ n_i − 1` on every axis, ranks agreeing -/
def InsideL (src : List K) (shape : List Nat) : Prop :=
  List.Forall₂ (fun (x : K) (n : Nat) => 0 ≤ x ∧ x ≤ (((n : Int) - 1 : Int) : K)) src shape

/-- the signed multi-index addresses a voxel of the shape -/
def InBoxL (shape : List Nat) (is : List Int) : Prop :=
  List.Forall₂ (fun (n : Nat) (i : Int) => 0 ≤ i ∧ i < (n : Int)) shape is

end generic

section rat

theorem linNodes_eq (x : Rat) : linNodes x = [(⌊x⌋, 1 - Int.fract x), (⌊x⌋ + 1, Int.fract x)] := rfl

theorem foldl_add_eq_sum {β : Type} (F : β → Rat) : ∀ (l : List β) (z : Rat),
    l.foldl (fun acc b => acc + F b) z = z + (l.map F).sum
  | [], z => (add_zero z).symm
  | b :: l, z => by rw [List.foldl_cons, foldl_add_eq_sum F l, List.map_cons, List.sum_cons, add_assoc]

theorem linCorners_cons (x : Rat) (xs : List Rat) : linCorners (x :: xs) =
    (linCorners xs).map (fun (iw : List Int × Rat) => (⌊x⌋ :: iw.1, (1 - Int.fract x) * iw.2)) ++
    (linCorners xs).map (fun (iw : List Int × Rat) => ((⌊x⌋ + 1) :: iw.1, Int.fract x * iw.2)) := by
  simp only [linCorners, linNodes_eq, List.flatMap_cons, List.flatMap_nil, List.append_nil]

theorem forall_linCorners_cons {x : Rat} {xs : List Rat} {P : List Int × Rat → Prop} :
    (∀ iw ∈ linCorners (x :: xs), P iw) ↔ ∀ jw ∈ linCorners xs,
      P (⌊x⌋ :: jw.1, (1 - Int.fract x) * jw.2) ∧ P ((⌊x⌋ + 1) :: jw.1, Int.fract x * jw.2) := by
  simp only [linCorners_cons, List.forall_mem_append, List.forall_mem_map, forall_and]

theorem linCorners_sum : ∀ (xs : List Rat) (g : List Int → Rat),
    ((linCorners xs).map (fun (iw : List Int × Rat) => iw.2 * g iw.1)).sum = interpRec xs g
  | [], g => (add_zero _).trans (one_mul _)
  | x :: xs, g => by
      have h := fun (k : Int) (w : Rat) =>
        calc (((linCorners xs).map (fun (iw : List Int × Rat) => (k :: iw.1, w * iw.2))).map
                (fun (iw : List Int × Rat) => iw.2 * g iw.1)).sum
            = ((linCorners xs).map (fun (iw : List Int × Rat) => w * (iw.2 * g (k :: iw.1)))).sum := by
              rw [List.map_map]; congr 1; apply List.map_congr_left; intro iw _; exact mul_assoc _ _ _
          _ = w * interpRec xs (fun is => g (k :: is)) := by
              rw [List.sum_map_mul_left, linCorners_sum xs (fun is => g (k :: is))]
      simp only [linCorners_cons, List.map_append, List.sum_append, h, interpRec]

theorem insideL_iff (src : List Rat) (shape : List Nat) :
    InsideL src shape ↔ (src.length = shape.length ∧
      (List.zip src shape).all (fun (xn : Rat × Nat) => decide (0 ≤ xn.1) && decide (xn.1 ≤ ((xn.2 : Int) - 1 : Int))) = true) := by
  rw [InsideL, List.forall₂_iff_zip, List.all_eq_true]
  simp only [Prod.forall, Bool.and_eq_true, decide_eq_true_eq]

theorem linInterp_inside (a : Arr Rat) (src : List Rat) (h : InsideL src a.shape) :
    linInterp a src = interpRec src (fun is => a.getI is 0) := by
  obtain ⟨h1, h2⟩ := (insideL_iff _ _).1 h
  unfold linInterp
  rw [if_neg (not_not.2 h1), if_pos h2, foldl_add_eq_sum (fun (iw : List Int × Rat) => iw.2 * a.getI iw.1 0),
    zero_add]
  exact linCorners_sum src (fun is => a.getI is 0)

theorem linInterp_outside (a : Arr Rat) (src : List Rat) (h : ¬ InsideL src a.shape) : linInterp a src = 0 := by
  rw [insideL_iff] at h
  unfold linInterp
  by_cases h1 : src.length = a.shape.length
  · rw [if_neg (not_not.2 h1), if_neg (fun h2 => h ⟨h1, h2⟩)]
  · rw [if_pos h1]

theorem node_inBox {x : Rat} {n : Nat} {i : Int} (x0 : 0 ≤ x) (x1 : x ≤ (((n : Int) - 1 : Int) : Rat))
    (hi : i = ⌊x⌋ ∨ (i = ⌊x⌋ + 1 ∧ Int.fract x ≠ 0)) : 0 ≤ i ∧ i < (n : Int) := by
  have h0 : 0 ≤ ⌊x⌋ := Int.floor_nonneg.2 x0
  have hle : ⌊x⌋ ≤ (n : Int) - 1 := Int.cast_le.1 ((Int.floor_le x).trans x1)
  rcases hi with rfl | ⟨rfl, hf⟩
  · exact ⟨h0, by omega⟩
  · have hne : ⌊x⌋ ≠ (n : Int) - 1 := fun he => hf (by
      rw [le_antisymm x1 (he ▸ Int.floor_le x), Int.fract_intCast])
    exact ⟨by omega, by omega⟩

/-- inside the array every corner that carries weight is a voxel of the array (a corner index `n` only occurs with
weight `0`) -/
theorem relevant_inBox {src : List Rat} {shape : List Nat} {is : List Int} (h : InsideL src shape)
    (hr : Relevant src is) : InBoxL shape is := by
  induction h generalizing is with
  | nil => cases hr; exact List.Forall₂.nil
  | cons hx _ ih => cases hr with | cons hi hr' => exact List.Forall₂.cons (node_inBox hx.1 hx.2 hi) (ih hr')

theorem inBoxL_iff : ∀ (shape : List Nat) (is : List Int),
    InBoxL shape is ↔ (is.all (fun i => decide (0 ≤ i)) = true ∧ inShape shape (is.map Int.toNat) = true)
  | [], [] => ⟨fun _ => ⟨rfl, rfl⟩, fun _ => List.Forall₂.nil⟩
  | [], _ :: _ => ⟨fun h => (by cases h), fun h => absurd h.2 Bool.false_ne_true⟩
  | _ :: _, [] => ⟨fun h => (by cases h), fun h => absurd h.2 Bool.false_ne_true⟩
  | n :: ns, i :: is => by
      have ih := inBoxL_iff ns is
      simp only [InBoxL] at ih ⊢
      rw [List.forall₂_cons, ih]
      simp only [List.all_cons, Bool.and_eq_true, decide_eq_true_eq, List.map_cons, inShape_cons]
      constructor
      · rintro ⟨⟨h0, h1⟩, h2, h3⟩; exact ⟨⟨h0, h2⟩, by omega, h3⟩
      · rintro ⟨⟨h0, h2⟩, h1, h3⟩; exact ⟨⟨h0, by omega⟩, h2, h3⟩

theorem getI_of_inBox (a : Arr Rat) (is : List Int) (h : InBoxL a.shape is) :
    a.getI is 0 = a.getD (is.map Int.toNat) 0 ∧ inShape a.shape (is.map Int.toNat) = true := by
  obtain ⟨h1, h2⟩ := (inBoxL_iff _ _).1 h
  exact ⟨by unfold Arr.getI; rw [if_pos h1], h2⟩

theorem getI_of_not_inBox (a : Arr Rat) (is : List Int) (h : ¬ InBoxL a.shape is) : a.getI is 0 = 0 := by
  rw [inBoxL_iff] at h
  unfold Arr.getI
  by_cases h1 : is.all (fun i => decide (0 ≤ i)) = true
  · rw [if_pos h1]
    unfold Arr.getD
    rw [if_neg (fun h2 => h ⟨h1, h2⟩)]
  · rw [if_neg h1]

theorem map_toNat_cast {ns : List Nat} {o : List Int} (h : InBoxL ns o) :
    (o.map Int.toNat).map (fun (z : Nat) => (z : Int)) = o := by
  induction h with
  | nil => rfl
  | cons h _ ih => rw [List.map_cons, List.map_cons, ih, Int.toNat_of_nonneg h.1]

theorem inBoxL_natCast : ∀ (ns idx : List Nat), inShape ns idx = true → InBoxL ns (idx.map (fun (z : Nat) => (z : Int)))
  | [], [], _ => List.Forall₂.nil
  | [], _ :: _, h => absurd h Bool.false_ne_true
  | _ :: _, [], h => absurd h Bool.false_ne_true
  | n :: ns, i :: is, h => by
      obtain ⟨h1, h2⟩ := inShape_cons.1 h
      refine List.Forall₂.cons ?_ (inBoxL_natCast ns is h2)
      show (0 : Int) ≤ (i : Int) ∧ (i : Int) < (n : Int)
      exact ⟨by omega, by exact_mod_cast h1⟩

theorem getI_natCast (a : Arr Rat) (idx : List Nat) : a.getI (idx.map (fun (z : Nat) => (z : Int))) 0 = a.getD idx 0 := by
  unfold Arr.getI
  have h1 : (idx.map (fun (z : Nat) => (z : Int))).all (fun i => decide (0 ≤ i)) = true :=
    List.all_eq_true.2 fun i hi => by
      obtain ⟨z, _, rfl⟩ := List.mem_map.1 hi
      exact decide_eq_true (Int.natCast_nonneg z)
  have h2 : (idx.map (fun (z : Nat) => (z : Int))).map Int.toNat = idx := by
    rw [List.map_map]
    conv_rhs => rw [← List.map_id idx]
    exact List.map_congr_left (fun z _ => by simp)
  rw [if_pos h1, h2]

theorem insideL_intCast_iff : ∀ (ns : List Nat) (ks : List Int),
    InsideL (ks.map (fun (z : Int) => (z : Rat))) ns ↔ InBoxL ns ks
  | [], [] => ⟨fun _ => List.Forall₂.nil, fun _ => List.Forall₂.nil⟩
  | _ :: _, [] => ⟨fun h => (by cases h), fun h => (by cases h)⟩
  | [], _ :: _ => ⟨fun h => (by cases h), fun h => (by cases h)⟩
  | n :: ns, k :: ks =>
      List.forall₂_cons.trans ((and_congr (and_congr Int.cast_nonneg_iff (Int.cast_le.trans Int.le_sub_one_iff))
        (insideL_intCast_iff ns ks)).trans
        (List.forall₂_cons (R := fun (n : Nat) (i : Int) => 0 ≤ i ∧ i < (n : Int))).symm)

theorem inBox_of_insideL : ∀ (ns : List Nat) (ks : List Int), InsideL (ks.map (fun (z : Int) => (z : Rat))) ns →
    InBoxL ns ks :=
  fun ns ks => (insideL_intCast_iff ns ks).1

theorem ratIdx_toNat (ns : List Nat) (is : List Int) (h : InBoxL ns is) :
    ratIdx (is.map Int.toNat) = is.map (fun (z : Int) => (z : Rat)) := by
  have := map_toNat_cast h
  conv_rhs => rw [← this]
  simp only [ratIdx, List.map_map]
  rfl

theorem linCorners_length : ∀ (xs : List Rat), (linCorners xs).length = 2 ^ xs.length
  | [] => rfl
  | x :: xs => by
      rw [linCorners_cons, List.length_append, List.length_map, List.length_map, linCorners_length xs,
        List.length_cons, pow_succ, mul_two]

theorem linCorners_nonneg : ∀ (xs : List Rat) (iw : List Int × Rat), iw ∈ linCorners xs → 0 ≤ iw.2
  | [] => fun iw h => by rw [List.mem_singleton.1 h]; exact zero_le_one
  | x :: xs => forall_linCorners_cons.2 fun jw hj =>
      ⟨mul_nonneg (sub_nonneg.2 (Int.fract_lt_one x).le) (linCorners_nonneg xs jw hj),
        mul_nonneg (Int.fract_nonneg x) (linCorners_nonneg xs jw hj)⟩

theorem linCorners_sum_one (xs : List Rat) : ((linCorners xs).map (fun (iw : List Int × Rat) => iw.2)).sum = 1 := by
  have h := linCorners_sum xs (fun _ => (1 : Rat))
  simp only [mul_one] at h
  rw [h]
  exact interpRec_const 1 xs

theorem linCorners_neighbours : ∀ (xs : List Rat) (iw : List Int × Rat), iw ∈ linCorners xs →
    List.Forall₂ (fun (x : Rat) (i : Int) => i = ⌊x⌋ ∨ i = ⌊x⌋ + 1) xs iw.1
  | [] => fun iw h => by rw [List.mem_singleton.1 h]; exact List.Forall₂.nil
  | x :: xs => forall_linCorners_cons.2 fun jw hj =>
      ⟨List.Forall₂.cons (Or.inl rfl) (linCorners_neighbours xs jw hj),
        List.Forall₂.cons (Or.inr rfl) (linCorners_neighbours xs jw hj)⟩

theorem linInterp_nonneg (a : Arr Rat) (src : List Rat)
    (hv : ∀ idx, inShape a.shape idx = true → 0 ≤ a.getD idx 0) : 0 ≤ linInterp a src := by
  by_cases hin : InsideL src a.shape
  · rw [linInterp_inside a src hin]
    refine (interpRec_const 0 src).ge.trans (interpRec_mono src _ _ (fun is his => ?_))
    obtain ⟨h1, h2⟩ := getI_of_inBox a is (relevant_inBox hin his)
    rw [h1]; exact hv _ h2
  · rw [linInterp_outside a src hin]

end rat

end Pm.C06
