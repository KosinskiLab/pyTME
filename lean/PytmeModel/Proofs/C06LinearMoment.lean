import PytmeModel.Proofs.C06Linear
import PytmeModel.Proofs.C06

/-! Order-1 interpolation as a sum against hat functions, and what a sub-voxel translation does to the mass and the
first moments of an array (`Model/C06.lean`: `rigidLinearArr`, `mass`, `moment`). -/
set_option linter.unusedSectionVars false
namespace Pm.C06
open Finset

section generic
variable {K : Type} [Field K] [LinearOrder K] [IsStrictOrderedRing K] [FloorRing K]

/-- the hat function `Λ(u) = max(0, 1 − |u|)`: the order-1 B-spline -/
def hat (u : K) : K := max 0 (1 - |u|)

theorem hat_nonneg (u : K) : 0 ≤ hat u := le_max_left _ _

section
omit [FloorRing K]

theorem hat_neg (u : K) : hat (-u) = hat u := by rw [hat, hat, abs_neg]

theorem hat_eq_zero {u : K} (h : 1 ≤ |u|) : hat u = 0 := max_eq_left (sub_nonpos.2 h)

theorem hat_of_nonneg {u : K} (h0 : 0 ≤ u) (h1 : u ≤ 1) : hat u = 1 - u := by
  rw [hat, abs_of_nonneg h0]; exact max_eq_right (sub_nonneg.2 h1)

theorem abs_lt_one_of_hat_ne_zero {u : K} (h : hat u ≠ 0) : |u| < 1 :=
  lt_of_not_ge (fun h' => h (hat_eq_zero h'))

end

theorem hat_floor (x : K) : hat (x - (⌊x⌋ : K)) = 1 - Int.fract x :=
  hat_of_nonneg (Int.fract_nonneg x) (Int.fract_lt_one x).le

theorem hat_floor_succ (x : K) : hat (x - ((⌊x⌋ + 1 : Int) : K)) = Int.fract x := by
  have h : x - ((⌊x⌋ + 1 : Int) : K) = -(1 - Int.fract x) := by
    rw [Int.cast_add, Int.cast_one, ← sub_sub, neg_sub]; rfl
  rw [h, hat_neg, hat_of_nonneg (sub_nonneg.2 (Int.fract_lt_one x).le) (sub_le_self 1 (Int.fract_nonneg x)),
    sub_sub_cancel]

theorem int_near {t : K} {m : Int} (h : |(m : K) - t| < 1) : ⌊t⌋ ≤ m ∧ m ≤ ⌈t⌉ := by
  obtain ⟨l, u⟩ := abs_lt.1 h
  have h1 : ⌊t⌋ < m + 1 := Int.floor_lt.2 (by rw [Int.cast_add, Int.cast_one]; exact neg_lt_sub_iff_lt_add'.1 l)
  have h2 : m - 1 < ⌈t⌉ := Int.lt_ceil.2 (by rw [Int.cast_sub, Int.cast_one]; exact sub_lt_comm.1 u)
  omega

theorem hat_far (x : K) (i : Int) (h1 : i ≠ ⌊x⌋) (h2 : i ≠ ⌊x⌋ + 1) : hat (x - (i : K)) = 0 := by
  by_contra hne
  have := int_near (abs_sub_comm x (i : K) ▸ abs_lt_one_of_hat_ne_zero hne)
  have := Int.ceil_le_floor_add_one x
  omega

theorem interp1_eq_sum (n : Nat) (G : Int → K) (hG : ∀ i : Int, ¬ (0 ≤ i ∧ i < (n : Int)) → G i = 0) (y : K) :
    (1 - Int.fract y) * G ⌊y⌋ + Int.fract y * G (⌊y⌋ + 1) =
      ∑ i ∈ range n, G (i : Int) * hat (y - (((i : Nat) : Int) : K)) := by
  classical
  set F : Int → K := fun j => G j * hat (y - (j : K)) with hF
  have hS : ∑ i ∈ range n, G (i : Int) * hat (y - (((i : Nat) : Int) : K)) = ∑ j ∈ (range n).image (Nat.cast : Nat → Int), F j := by
    rw [Finset.sum_image (fun a _ b _ h => by exact_mod_cast h)]
  have hmem : ∀ j : Int, 0 ≤ j ∧ j < (n : Int) → j ∈ (range n).image (Nat.cast : Nat → Int) := fun j h =>
    Finset.mem_image.2 ⟨j.toNat, Finset.mem_range.2 ((Int.toNat_lt h.1).2 h.2), Int.toNat_of_nonneg h.1⟩
  set S := (range n).image (Nat.cast : Nat → Int) with hSdef
  set T : Finset Int := {⌊y⌋, ⌊y⌋ + 1} with hT
  have h1 : ∑ j ∈ S, F j = ∑ j ∈ S ∪ T, F j := by
    apply Finset.sum_subset Finset.subset_union_left
    intro j _ hj
    simp only [hF, hG j (fun h => hj (hmem j h)), zero_mul]
  have h2 : ∑ j ∈ T, F j = ∑ j ∈ S ∪ T, F j := by
    apply Finset.sum_subset Finset.subset_union_right
    intro j _ hj
    simp only [hT, Finset.mem_insert, Finset.mem_singleton, not_or] at hj
    simp only [hF, hat_far y j hj.1 hj.2, mul_zero]
  rw [hS, h1, ← h2, hT, Finset.sum_pair (by omega)]
  simp only [hF, hat_floor, hat_floor_succ]
  ring

/-- `Σ_{x ∈ box} F x`, axis by axis -/
def boxSum : List Nat → (List Int → K) → K
  | [], F => F []
  | n :: ns, F => ∑ i ∈ range n, boxSum ns (fun is => F ((i : Int) :: is))

section
omit [LinearOrder K] [IsStrictOrderedRing K] [FloorRing K]

theorem boxSum_congr : ∀ (ns : List Nat) (F F' : List Int → K), (∀ is, InBoxL ns is → F is = F' is) →
    boxSum ns F = boxSum ns F'
  | [], F, F', h => h [] List.Forall₂.nil
  | n :: ns, F, F', h => by
      simp only [boxSum]
      refine Finset.sum_congr rfl (fun i hi => ?_)
      refine boxSum_congr ns _ _ (fun is his => h _ (List.Forall₂.cons ⟨by omega, ?_⟩ his))
      exact_mod_cast Finset.mem_range.1 hi

theorem boxSum_zero : ∀ (ns : List Nat), boxSum ns (fun _ => (0 : K)) = 0
  | [] => rfl
  | n :: ns => by simp only [boxSum, boxSum_zero ns, Finset.sum_const_zero]

theorem boxSum_add : ∀ (ns : List Nat) (F G : List Int → K),
    boxSum ns (fun is => F is + G is) = boxSum ns F + boxSum ns G
  | [], F, G => rfl
  | n :: ns, F, G => by
      simp only [boxSum]
      rw [← Finset.sum_add_distrib]
      exact Finset.sum_congr rfl (fun i _ => boxSum_add ns _ _)

theorem boxSum_mul_left (c : K) : ∀ (ns : List Nat) (F : List Int → K),
    boxSum ns (fun is => c * F is) = c * boxSum ns F
  | [], F => rfl
  | n :: ns, F => by
      simp only [boxSum]
      rw [Finset.mul_sum]
      exact Finset.sum_congr rfl (fun i _ => boxSum_mul_left c ns _)

theorem boxSum_mul_right (c : K) (ns : List Nat) (F : List Int → K) :
    boxSum ns (fun is => F is * c) = boxSum ns F * c := by
  rw [mul_comm, ← boxSum_mul_left]
  exact boxSum_congr ns _ _ (fun is _ => mul_comm _ _)

theorem boxSum_finset_sum {ι : Type} (s : Finset ι) : ∀ (ns : List Nat) (F : ι → List Int → K),
    boxSum ns (fun is => ∑ j ∈ s, F j is) = ∑ j ∈ s, boxSum ns (F j)
  | [], F => rfl
  | n :: ns, F => by
      simp only [boxSum]
      rw [Finset.sum_comm]
      exact Finset.sum_congr rfl (fun i _ => boxSum_finset_sum s ns _)

theorem boxSum_comm : ∀ (ns ms : List Nat) (F : List Int → List Int → K),
    boxSum ns (fun o => boxSum ms (fun x => F o x)) = boxSum ms (fun x => boxSum ns (fun o => F o x))
  | [], ms, F => rfl
  | n :: ns, ms, F => by
      simp only [boxSum]
      rw [boxSum_finset_sum]
      exact Finset.sum_congr rfl (fun i _ => boxSum_comm ns ms _)

end

/-- the tensor-product hat function `Π_i Λ(y_i − x_i)` -/
def hatProd : List K → List Int → K
  | [], [] => 1
  | y :: ys, i :: is => hat (y - (i : K)) * hatProd ys is
  | _, _ => 0

theorem interpRec_eq_boxSum : ∀ (ns : List Nat) (ys : List K) (g : List Int → K), ys.length = ns.length →
    (∀ is, ¬ InBoxL ns is → g is = 0) → interpRec ys g = boxSum ns (fun x => g x * hatProd ys x)
  | [], [], g, _, _ => (mul_one _).symm
  | [], _ :: _, g, h, _ => nomatch h
  | _ :: _, [], g, h, _ => nomatch h
  | n :: ns, y :: ys, g, hlen, hg => by
      have hlen' : ys.length = ns.length := Nat.succ.inj hlen
      have hsub : ∀ (k : Int) (is : List Int), ¬ InBoxL ns is → g (k :: is) = 0 := fun k is his =>
        hg _ (fun h => his (List.forall₂_cons.1 h).2)
      have hout : ∀ k : Int, ¬ (0 ≤ k ∧ k < (n : Int)) → interpRec ys (fun is => g (k :: is)) = 0 := by
        intro k hk
        rw [interpRec_congr ys _ (fun _ => (0 : K)) (fun is _ => hg _ (fun h => hk (List.forall₂_cons.1 h).1))]
        exact interpRec_const 0 ys
      simp only [interpRec, boxSum]
      rw [interp1_eq_sum n (fun k => interpRec ys (fun is => g (k :: is))) hout y]
      refine Finset.sum_congr rfl (fun i _ => ?_)
      rw [interpRec_eq_boxSum ns ys (fun is => g ((i : Int) :: is)) hlen' (hsub _), ← boxSum_mul_right]
      exact boxSum_congr ns _ _ (fun is _ => by rw [hatProd, mul_assoc, mul_comm (hatProd ys is)])

/-- the source positions `o − t` and the shifted positions `x + t` -/
def subL (o : List Int) (ts : List K) : List K := List.zipWith (fun (z : Int) (t : K) => (z : K) - t) o ts
def addL (x : List Int) (ts : List K) : List K := List.zipWith (fun (z : Int) (t : K) => (z : K) + t) x ts

/-- voxel coordinate `x` shifted by `t` stays inside an axis of `n` voxels: both grid neighbours `x + ⌊t⌋`, `x + ⌈t⌉`
of the shifted position are voxels of the output, and their sources `o − t` lie inside `[0, n − 1]` (outside,
`mode="constant"` returns `cval` instead of interpolating towards the edge) -/
def SuppOK (n : Nat) (t : K) (x : Int) : Prop :=
  0 ≤ x + ⌊t⌋ ∧ x + ⌈t⌉ ≤ (n : Int) - 1 ∧
    (0 : K) ≤ (x : K) + (⌊t⌋ : K) - t ∧ (x : K) + (⌈t⌉ : K) - t ≤ (((n : Int) - 1 : Int) : K)

def SuppL : List Nat → List K → List Int → Prop
  | [], [], [] => True
  | n :: ns, t :: ts, x :: xs => SuppOK n t x ∧ SuppL ns ts xs
  | _, _, _ => False

/-- a voxel `o` whose source `o − t` has non-zero weight at the supported voxel `x` lies between `x + ⌊t⌋` and
`x + ⌈t⌉`, so its source is inside the axis -/
theorem hat_zero_outside (n : Nat) (t : K) (o x : Int) (hs : SuppOK n t x)
    (hout : ¬ (0 ≤ (o : K) - t ∧ (o : K) - t ≤ (((n : Int) - 1 : Int) : K))) : hat ((o : K) - t - (x : K)) = 0 := by
  by_contra hne
  obtain ⟨h1, h2⟩ := int_near (m := o - x) (t := t) (by
    rw [Int.cast_sub, sub_right_comm]; exact abs_lt_one_of_hat_ne_zero hne)
  have hc : ((x + ⌊t⌋ : Int) : K) ≤ (o : K) ∧ (o : K) ≤ ((x + ⌈t⌉ : Int) : K) :=
    ⟨Int.cast_le.2 (by omega), Int.cast_le.2 (by omega)⟩
  rw [Int.cast_add, Int.cast_add] at hc
  exact hout ⟨hs.2.2.1.trans (sub_le_sub_right hc.1 t), (sub_le_sub_right hc.2 t).trans hs.2.2.2⟩

theorem hatProd_zero_outside : ∀ (ns : List Nat) (ts : List K) (o x : List Int), SuppL ns ts x →
    o.length = ns.length → ¬ InsideL (subL o ts) ns → hatProd (subL o ts) x = 0
  | [], [], [], [], _, _, h => absurd List.Forall₂.nil h
  | [], [], _ :: _, _, _, h, _ => nomatch h
  | _ :: _, _ :: _, [], _, _, h, _ => nomatch h
  | [], [], [], _ :: _, h, _, _ => h.elim
  | [], _ :: _, _, _, h, _, _ => h.elim
  | _ :: _, [], _, _, h, _, _ => h.elim
  | _ :: _, _ :: _, _ :: _, [], h, _, _ => h.elim
  | n :: ns, t :: ts, o :: os, x :: xs, hs, hlen, hout => by
      show hat ((o : K) - t - (x : K)) * hatProd (subL os ts) xs = 0
      by_cases hh : (0 ≤ (o : K) - t ∧ (o : K) - t ≤ (((n : Int) - 1 : Int) : K))
      · rw [hatProd_zero_outside ns ts os xs hs.2 (Nat.succ.inj hlen) (fun h => hout (List.Forall₂.cons hh h)),
          mul_zero]
      · rw [hat_zero_outside n t o x hs.1 hh, zero_mul]

theorem hatProd_symm : ∀ (ts : List K) (o x : List Int), o.length = ts.length → x.length = ts.length →
    hatProd (subL o ts) x = hatProd (addL x ts) o
  | [], [], [], _, _ => rfl
  | [], _ :: _, _, h, _ => nomatch h
  | [], [], _ :: _, _, h => nomatch h
  | _ :: _, [], _, h, _ => nomatch h
  | _ :: _, _ :: _, [], _, h => nomatch h
  | t :: ts, o :: os, x :: xs, h1, h2 => by
      show hat ((o : K) - t - (x : K)) * hatProd (subL os ts) xs = hat ((x : K) + t - (o : K)) * hatProd (addL xs ts) os
      rw [hatProd_symm ts os xs (Nat.succ.inj h1) (Nat.succ.inj h2), sub_sub, ← hat_neg, neg_sub, add_comm t]

theorem suppOK_node {n : Nat} {t : K} {x i : Int} (hs : SuppOK n t x)
    (hi : i = ⌊(x : K) + t⌋ ∨ (i = ⌊(x : K) + t⌋ + 1 ∧ Int.fract ((x : K) + t) ≠ 0)) : 0 ≤ i ∧ i < (n : Int) := by
  obtain ⟨s1, s2, _, _⟩ := hs
  have hfc := Int.floor_le_ceil t
  rw [Int.floor_intCast_add, Int.fract_intCast_add] at hi
  rcases hi with rfl | ⟨rfl, hf⟩
  · exact ⟨s1, by omega⟩
  · have : ⌊t⌋ < ⌈t⌉ :=
      Int.lt_ceil.2 (lt_of_le_of_ne (Int.floor_le t) (fun he => hf (sub_eq_zero.2 he.symm)))
    exact ⟨by omega, by omega⟩

theorem relevant_addL_inBox : ∀ (ns : List Nat) (ts : List K) (x is : List Int), SuppL ns ts x →
    Relevant (addL x ts) is → InBoxL ns is
  | [], [], [], _, _, hr => by cases hr; exact List.Forall₂.nil
  | n :: ns, t :: ts, x :: xs, _, hs, hr => by
      cases hr with
      | cons hi hr' => exact List.Forall₂.cons (suppOK_node hs.1 hi) (relevant_addL_inBox ns ts xs _ hs.2 hr')
  | [], [], _ :: _, _, h, _ => h.elim
  | [], _ :: _, _, _, h, _ => h.elim
  | _ :: _, [], _, _, h, _ => h.elim
  | _ :: _, _ :: _, [], _, h, _ => h.elim

theorem length_of_inBoxL {ns : List Nat} {is : List Int} (h : InBoxL ns is) : is.length = ns.length :=
  (List.Forall₂.length_eq h).symm

theorem shift_functional (ns : List Nat) (ts : List K) (g out : List Int → K)
    (hlen : ts.length = ns.length)
    (hg0 : ∀ is, ¬ InBoxL ns is → g is = 0)
    (hsupp : ∀ x, g x ≠ 0 → SuppL ns ts x)
    (hin : ∀ o, InsideL (subL o ts) ns → out o = interpRec (subL o ts) g)
    (hout : ∀ o, ¬ InsideL (subL o ts) ns → out o = 0)
    (α : K) (β : List K) :
    boxSum ns (fun o => (α + dotL β (o.map (fun (z : Int) => (z : K)))) * out o) =
      boxSum ns (fun x => (α + dotL β (addL x ts)) * g x) := by
  classical
  -- every output voxel is `Σ_x g x · Π Λ(o − t − x)`; after swapping the sums, `Σ_o φ(o) · Π Λ(x + t − o)` is the
  -- interpolant of `φ` at `x + t`, which is exact because `φ` is affine
  have hrep : ∀ o, InBoxL ns o → out o = boxSum ns (fun x => g x * hatProd (subL o ts) x) := by
    intro o ho
    have hol := length_of_inBoxL ho
    by_cases hi : InsideL (subL o ts) ns
    · rw [hin o hi]
      exact interpRec_eq_boxSum ns _ g (by rw [subL, List.length_zipWith, hol, hlen, min_self]) hg0
    · rw [hout o hi]
      symm
      rw [← boxSum_zero (K := K) ns]
      refine boxSum_congr ns _ _ (fun x _ => ?_)
      by_cases hx : g x = 0
      · rw [hx, zero_mul]
      · rw [hatProd_zero_outside ns ts o x (hsupp x hx) hol hi, mul_zero]
  set φ : List Int → K := fun o => α + dotL β (o.map (fun (z : Int) => (z : K))) with hφ
  calc boxSum ns (fun o => φ o * out o)
      = boxSum ns (fun o => boxSum ns (fun x => φ o * (g x * hatProd (subL o ts) x))) := by
        refine boxSum_congr ns _ _ (fun o ho => ?_)
        rw [hrep o ho, boxSum_mul_left]
    _ = boxSum ns (fun x => boxSum ns (fun o => φ o * (g x * hatProd (subL o ts) x))) := boxSum_comm ns ns _
    _ = boxSum ns (fun x => (α + dotL β (addL x ts)) * g x) := by
        refine boxSum_congr ns _ _ (fun x hx => ?_)
        have hxl := length_of_inBoxL hx
        by_cases hgx : g x = 0
        · have : boxSum ns (fun o => φ o * (g x * hatProd (subL o ts) x)) = boxSum ns (fun _ => (0 : K)) :=
            boxSum_congr ns _ _ (fun o _ => by rw [hgx, zero_mul, mul_zero])
          rw [this, boxSum_zero, hgx, mul_zero]
        · set φ' : List Int → K := fun o => if InBoxL ns o then φ o else 0 with hφ'
          have h1 : boxSum ns (fun o => φ o * (g x * hatProd (subL o ts) x)) =
              g x * boxSum ns (fun o => φ' o * hatProd (addL x ts) o) := by
            rw [← boxSum_mul_left]
            refine boxSum_congr ns _ _ (fun o ho => ?_)
            rw [hatProd_symm ts o x ((length_of_inBoxL ho).trans hlen.symm) (hxl.trans hlen.symm)]
            simp only [hφ', if_pos ho]; ring
          have h2 : boxSum ns (fun o => φ' o * hatProd (addL x ts) o) = interpRec (addL x ts) φ' :=
            (interpRec_eq_boxSum ns _ φ' (by rw [addL, List.length_zipWith, hxl, hlen, min_self])
              (fun is his => by simp only [hφ', if_neg his])).symm
          have h3 : interpRec (addL x ts) φ' = α + dotL β (addL x ts) :=
            interpRec_affine _ φ' α β (fun is his => by
              simp only [hφ', if_pos (relevant_addL_inBox ns ts x is (hsupp x hgx) his), hφ])
          rw [h1, h2, h3]; ring

end generic

section rat

theorem list_range_sum (f : Nat → Rat) : ∀ m, ((List.range m).map f).sum = ∑ k ∈ range m, f k
  | 0 => Finset.sum_range_zero f ▸ rfl
  | m + 1 => by rw [List.sum_range_succ, Finset.sum_range_succ, list_range_sum f m]

theorem sum_range_mul (n P : Nat) (H : Nat → Nat → Rat) :
    ∑ k ∈ range (n * P), H (k / P) (k % P) = ∑ i ∈ range n, ∑ j ∈ range P, H i j := by
  induction n with
  | zero => rw [Nat.zero_mul, Finset.sum_range_zero, Finset.sum_range_zero]
  | succ n ih =>
    rw [Nat.succ_mul, Finset.sum_range_add, ih, Finset.sum_range_succ]
    congr 1
    refine Finset.sum_congr rfl (fun j hj => ?_)
    have hj' := Finset.mem_range.1 hj
    have hP : 0 < P := by omega
    rw [Nat.add_comm (n * P) j, Nat.add_mul_div_right _ _ hP, Nat.div_eq_of_lt hj', Nat.add_mul_mod_self_right,
      Nat.mod_eq_of_lt hj', Nat.zero_add]

theorem sum_allIdx : ∀ (shape : List Nat) (F : List Int → Rat),
    ((allIdx shape).map (fun idx => F (idx.map (fun (z : Nat) => (z : Int))))).sum = boxSum shape F
  | [], F => by simp [allIdx, prodL, unflat, boxSum]
  | n :: ns, F => by
      have ih := fun (i : Nat) => sum_allIdx ns (fun is => F ((i : Int) :: is))
      simp only [allIdx, List.map_map] at ih ⊢
      rw [list_range_sum]
      simp only [prodL, boxSum, Function.comp, unflat, List.map_cons]
      rw [sum_range_mul n (prodL ns) (fun i j => F ((i : Int) :: (unflat ns j).map (fun (z : Nat) => (z : Int))))]
      refine Finset.sum_congr rfl (fun i _ => ?_)
      rw [← ih i, list_range_sum]
      rfl

theorem mass_eq (a : Arr Rat) : mass a = boxSum a.shape (fun x => a.getI x 0) := by
  unfold mass
  rw [foldl_add_eq_sum (fun idx => a.getD idx 0), zero_add, ← sum_allIdx]
  congr 1
  exact List.map_congr_left (fun idx _ => (getI_natCast a idx).symm)

theorem moment_eq (a : Arr Rat) (k : Nat) :
    moment a k = boxSum a.shape (fun x => ((x.getD k 0 : Int) : Rat) * a.getI x 0) := by
  unfold moment
  rw [foldl_add_eq_sum (fun idx => ((idx.getD k 0 : Nat) : Rat) * a.getD idx 0), zero_add, ← sum_allIdx]
  congr 1
  refine List.map_congr_left (fun idx _ => ?_)
  rw [getI_natCast]
  rw [show (idx.map (fun (z : Nat) => (z : Int))).getD k 0 = ((idx.getD k 0 : Nat) : Int) from getD_map _ idx k 0,
    Int.cast_natCast]

theorem dotL_unit : ∀ (k : Nat) (v : List Rat), dotL (List.replicate k 0 ++ [1]) v = v.getD k 0
  | 0, [] => rfl
  | 0, a :: as => by
      rw [List.replicate_zero, List.nil_append, dotL_cons, dotL_nil_left, one_mul, add_zero, List.getD_cons_zero]
  | k + 1, [] => dotL_nil_right _
  | k + 1, a :: as => by
      rw [List.replicate_succ, List.cons_append, dotL_cons, zero_mul, zero_add, dotL_unit k as, List.getD_cons_succ]

theorem linCorners_weight_hat : ∀ (xs : List Rat) (iw : List Int × Rat), iw ∈ linCorners xs → iw.2 = hatProd xs iw.1
  | [] => fun iw h => by rw [List.mem_singleton.1 h]; rfl
  | x :: xs => forall_linCorners_cons.2 fun jw hj =>
      ⟨by rw [linCorners_weight_hat xs jw hj, hatProd, hat_floor],
        by rw [linCorners_weight_hat xs jw hj, hatProd, hat_floor_succ]⟩

theorem linInterp_eq_boxSum (a : Arr Rat) (src : List Rat) (hin : InsideL src a.shape) :
    linInterp a src = boxSum a.shape (fun x => a.getI x 0 * hatProd src x) := by
  rw [linInterp_inside a src hin]
  exact interpRec_eq_boxSum a.shape src _ (List.Forall₂.length_eq hin) (fun is his => getI_of_not_inBox a is his)

theorem getD_addL (x : List Int) (ts : List Rat) (k : Nat) (h1 : k < x.length) (h2 : k < ts.length) :
    (addL x ts).getD k 0 = ((x.getD k 0 : Int) : Rat) + ts.getD k 0 := by
  simp only [addL, List.getD_eq_getElem?_getD, List.getElem?_zipWith, List.getElem?_eq_getElem h1,
    List.getElem?_eq_getElem h2]
  simp

section shift
variable (a out : Arr Rat) (ts : List Rat) (hlen : ts.length = a.shape.length)
    (hshape : out.shape = a.shape)
    (hout : ∀ idx, inShape a.shape idx = true →
      out.getD idx 0 = linInterp a (subL (idx.map (fun (z : Nat) => (z : Int))) ts))
    (hsupp : ∀ idx, inShape a.shape idx = true → a.getD idx 0 ≠ 0 →
      SuppL a.shape ts (idx.map (fun (z : Nat) => (z : Int))))
include hlen hshape hout hsupp

theorem shift_functional_arr (α : Rat) (β : List Rat) :
    boxSum a.shape (fun o => (α + dotL β (o.map (fun (z : Int) => (z : Rat)))) * out.getI o 0) =
      boxSum a.shape (fun x => (α + dotL β (addL x ts)) * a.getI x 0) := by
  rw [← shift_functional a.shape ts (fun is => a.getI is 0) (fun o => linInterp a (subL o ts)) hlen
    (fun is his => getI_of_not_inBox a is his) ?_ (fun o ho => linInterp_inside a _ ho)
    (fun o ho => linInterp_outside a _ ho) α β]
  · refine boxSum_congr _ _ _ (fun o ho => ?_)
    have ho' : InBoxL out.shape o := by rw [hshape]; exact ho
    obtain ⟨h1, h2⟩ := getI_of_inBox out o ho'
    rw [hshape] at h2
    rw [h1, hout _ h2, map_toNat_cast ho]
  · intro x hx
    have hb : InBoxL a.shape x := by
      by_contra h; exact hx (getI_of_not_inBox a x h)
    obtain ⟨h1, h2⟩ := getI_of_inBox a x hb
    have := hsupp _ h2 (by rw [← h1]; exact hx)
    rwa [map_toNat_cast hb] at this

theorem shift_mass : mass out = mass a := by
  have h := shift_functional_arr a out ts hlen hshape hout hsupp 1 []
  simp only [dotL_nil_left, add_zero, one_mul] at h
  rw [mass_eq, mass_eq, hshape]; exact h

theorem shift_moment (k : Nat) (hk : k < a.shape.length) :
    moment out k = moment a k + ts.getD k 0 * mass a := by
  have h := shift_functional_arr a out ts hlen hshape hout hsupp 0 (List.replicate k 0 ++ [1])
  simp only [dotL_unit, zero_add] at h
  rw [moment_eq, moment_eq, mass_eq, hshape, ← boxSum_mul_left, ← boxSum_add]
  have hl : boxSum a.shape (fun x => ((x.getD k 0 : Int) : Rat) * out.getI x 0) =
      boxSum a.shape (fun o => (o.map (fun (z : Int) => (z : Rat))).getD k 0 * out.getI o 0) := by
    exact boxSum_congr _ _ _ (fun o _ => congrArg (· * out.getI o 0) (getD_map (fun (z : Int) => (z : Rat)) o k 0).symm)
  rw [hl, h]
  refine boxSum_congr _ _ _ (fun x hx => ?_)
  have hxl := length_of_inBoxL hx
  rw [getD_addL x ts k (by omega) (by omega)]
  ring

end shift

theorem suppL_ofFn : ∀ (d : Nat) (ns : List Nat) (t : Fin d → Rat) (x : List Int), ns.length = d → x.length = d →
    (∀ i : Fin d, SuppOK (ns.getD i.val 0) (t i) (x.getD i.val 0)) → SuppL ns (List.ofFn t) x
  | 0, [], t, [], _, _, _ => by rw [List.ofFn_zero]; trivial
  | 0, _ :: _, _, _, h, _, _ => nomatch h
  | 0, [], _, _ :: _, _, h, _ => nomatch h
  | d + 1, [], _, _, h, _, _ => nomatch h
  | d + 1, _ :: _, _, [], _, h, _ => nomatch h
  | d + 1, n :: ns, t, x :: xs, h1, h2, h => by
      rw [List.ofFn_succ]
      exact ⟨h 0, suppL_ofFn d ns (fun i => t i.succ) xs (Nat.succ.inj h1) (Nat.succ.inj h2) (fun i => h i.succ)⟩

theorem suppL_of_axes {d : Nat} (a : Arr Rat) (t : Fin d → Rat) (hd : a.shape.length = d) (idx : List Nat)
    (h : inShape a.shape idx = true)
    (hsupp : ∀ i : Fin d, SuppOK (a.shape.getD i.val 0) (t i) ((idx.getD i.val 0 : Nat) : Int)) :
    SuppL a.shape (List.ofFn t) (idx.map (fun (z : Nat) => (z : Int))) := by
  refine suppL_ofFn d a.shape t _ hd ((List.length_map _).trans ((inShape_length h).trans hd)) (fun i => ?_)
  rw [show (idx.map (fun (z : Nat) => (z : Int))).getD i.val 0 = ((idx.getD i.val 0 : Nat) : Int) from getD_map _ idx i.val 0]
  exact hsupp i

theorem forall₂_ofFn {α β : Type} (R : α → β → Prop) : ∀ (d : Nat) (f : Fin d → α) (g : Fin d → β),
    List.Forall₂ R (List.ofFn f) (List.ofFn g) ↔ ∀ i, R (f i) (g i)
  | 0, f, g => by
      rw [List.ofFn_zero, List.ofFn_zero]
      exact ⟨fun _ i => i.elim0, fun _ => List.Forall₂.nil⟩
  | d + 1, f, g => by
      rw [List.ofFn_succ, List.ofFn_succ, List.forall₂_cons, forall₂_ofFn R d, Fin.forall_fin_succ]

theorem inBoxL_ofFn {d : Nat} (n : Fin d → Nat) (s : Vec d Int) :
    InBoxL (List.ofFn n) (List.ofFn s) ↔ inBox n s = true := by
  rw [InBoxL, forall₂_ofFn, inBox_iff]

theorem ofFn_sub_eq_subL : ∀ (d : Nat) (t : Fin d → Rat) (idx : List Nat), idx.length = d →
    List.ofFn (fun i : Fin d => vecOfList d (ratIdx idx) i - t i) =
      subL (idx.map (fun (z : Nat) => (z : Int))) (List.ofFn t)
  | 0, t, [], _ => by rw [List.ofFn_zero]; rfl
  | 0, _, _ :: _, h => nomatch h
  | d + 1, _, [], h => nomatch h
  | d + 1, t, z :: idx, h => by
      rw [List.ofFn_succ, List.ofFn_succ]
      exact congrArg (List.cons _) (ofFn_sub_eq_subL d (fun i => t i.succ) idx (Nat.succ.inj h))

/-- for non-negative data the backend's `center_of_mass(arr, cutoff=0)` is first moment / mass on every axis -/
theorem centerOfMass_eq (a : Arr Rat) (hpos : ∀ idx, inShape a.shape idx = true → 0 ≤ a.getD idx 0) :
    centerOfMass a 0 = (List.range a.shape.length).map (fun ax => moment a ax / mass a) := by
  have hall : ∀ idx, 0 ≤ a.getD idx 0 := by
    intro idx
    by_cases h : inShape a.shape idx = true
    · exact hpos idx h
    · rw [Arr.getD, if_neg h]
  have hw : ∀ idx, (if a.getD idx 0 > 0 then a.getD idx 0 else 0) = a.getD idx 0 := by
    intro idx
    split
    · rfl
    · rename_i h; exact le_antisymm (hall idx) (not_lt.1 h)
  unfold centerOfMass
  simp only [hw]
  apply List.map_congr_left
  intro ax _
  have hden : List.foldl (fun acc idx => acc + a.getD idx 0) 0 (allIdx a.shape) = mass a := rfl
  rw [hden, foldl_add_eq_sum (fun idx => a.getD idx 0 * ((idx.getD ax 0 : Nat) : Rat) / mass a), zero_add]
  unfold moment
  rw [foldl_add_eq_sum (fun idx => ((idx.getD ax 0 : Nat) : Rat) * a.getD idx 0), zero_add]
  simp only [div_eq_mul_inv]
  rw [← List.sum_map_mul_right]
  congr 1
  apply List.map_congr_left
  intro idx _
  ring

end rat

end Pm.C06
