import PytmeModel.Model.C07
import PytmeModel.Proofs.Common
import Mathlib.Tactic.Ring
import Mathlib.Tactic.LinearCombination
import Mathlib.Algebra.Order.Field.Basic
import Mathlib.Data.List.Induction

/-! Helper algebra for C07: 3×3 / 2×2 matrices over a commutative ring (associativity, transpose of a
product, multiplicativity of the determinant, closure of proper rotations under products, the adjugate `M3.adj`),
the matrices `axisMat k t s = 1 + s·K + t·K²` about an axis (of which `rodrigues`, `quatToMat`, `rotX/Y/Z` and
`alignRot` are instances), the norm-scaled quaternion matrix `Q4.homMat`, the running minimum of the set lookup,
the column flip `negLastCol`, the sign of a determinant of square one, the length of `linspace0`, what `parseSeq`
accepts.
Matrix identities are proved entrywise: unfold, split into the nine equations, `ring`. -/
namespace Pm.C07

section
variable {α : Type} [CommRing α]

theorem M3.mul_assoc (A B C : M3 α) : (A.mul B).mul C = A.mul (B.mul C) := by
  simp only [M3.mul, M3.mk.injEq]; and_intros <;> ring

theorem M3.id_mul (A : M3 α) : M3.id.mul A = A := by
  cases A; simp only [M3.mul, M3.id, M3.mk.injEq]; and_intros <;> ring

theorem M3.mul_id (A : M3 α) : A.mul M3.id = A := by
  cases A; simp only [M3.mul, M3.id, M3.mk.injEq]; and_intros <;> ring

theorem M3.tr_mul (A B : M3 α) : (A.mul B).tr = B.tr.mul A.tr := by
  simp only [M3.mul, M3.tr, M3.mk.injEq]; and_intros <;> ring

omit [CommRing α] in
theorem M3.tr_tr (A : M3 α) : A.tr.tr = A := rfl

theorem M3.tr_id : (M3.id : M3 α).tr = M3.id := rfl

theorem M3.det_mul (A B : M3 α) : (A.mul B).det = A.det * B.det := by
  simp only [M3.det, M3.mul]; ring

theorem M3.det_tr (A : M3 α) : A.tr.det = A.det := by
  simp only [M3.det, M3.tr]; ring

theorem M3.det_id : (M3.id : M3 α).det = 1 := by
  simp only [M3.det, M3.id]; ring

theorem M3.id_proper : (M3.id : M3 α).Proper :=
  ⟨⟨by rw [M3.tr_id, M3.id_mul], by rw [M3.tr_id, M3.id_mul]⟩, M3.det_id⟩

theorem M3.Orthonormal.mul {A B : M3 α} (hA : A.Orthonormal) (hB : B.Orthonormal) :
    (A.mul B).Orthonormal := by
  constructor
  · rw [M3.tr_mul, M3.mul_assoc, ← M3.mul_assoc A.tr, hA.1, M3.id_mul, hB.1]
  · rw [M3.tr_mul, M3.mul_assoc, ← M3.mul_assoc B, hB.2, M3.id_mul, hA.2]

theorem M3.Proper.mul {A B : M3 α} (hA : A.Proper) (hB : B.Proper) : (A.mul B).Proper :=
  ⟨hA.1.mul hB.1, by rw [M3.det_mul, hA.2, hB.2, one_mul]⟩

theorem M3.Orthonormal.det_sq {A : M3 α} (hA : A.Orthonormal) : A.det * A.det = 1 := by
  have := congrArg M3.det hA.1
  rw [M3.det_mul, M3.det_tr, M3.det_id] at this
  exact this

theorem M3.id_mulVec (w : α × α × α) : M3.id.mulVec w = w := by
  simp only [M3.id, M3.mulVec, one_mul, zero_mul, add_zero, zero_add]

/-- `Au · Av = u · (AᵀA) v` -/
theorem M3.dot3_mulVec {A : M3 α} (hA : A.tr.mul A = M3.id) (u v : α × α × α) :
    dot3 (A.mulVec u) (A.mulVec v) = dot3 u v := by
  have e : dot3 (A.mulVec u) (A.mulVec v) = dot3 u ((A.tr.mul A).mulVec v) := by
    simp only [dot3, M3.mulVec, M3.mul, M3.tr]; ring
  rw [e, hA, M3.id_mulVec]

/-- `1 + s·K + t·K²`, `K` the cross-product matrix of an axis `k` of any length, entry by entry
(`K² = k kᵀ − (k·k)·1`, `K³ = −(k·k) K`); `rodrigues k c s` is the case `t = 1 − c` -/
def axisMat (k : α × α × α) (t s : α) : M3 α :=
  ⟨1 - t * (k.2.1 * k.2.1 + k.2.2 * k.2.2), t * (k.1 * k.2.1) - s * k.2.2, t * (k.1 * k.2.2) + s * k.2.1,
   t * (k.2.1 * k.1) + s * k.2.2, 1 - t * (k.2.2 * k.2.2 + k.1 * k.1), t * (k.2.1 * k.2.2) - s * k.1,
   t * (k.2.2 * k.1) - s * k.2.1, t * (k.2.2 * k.2.1) + s * k.1, 1 - t * (k.1 * k.1 + k.2.1 * k.2.1)⟩

theorem rodrigues_eq_axisMat (k : α × α × α) (c s : α) : rodrigues k c s = axisMat k (1 - c) s := by
  simp only [rodrigues, axisMat, M3.add, M3.smul, M3.id, skew, M3.mul, M3.mk.injEq]; and_intros <;> ring

theorem axisMat_zero (k : α × α × α) : axisMat k 0 0 = M3.id := by
  simp only [axisMat, M3.id, zero_mul, sub_zero, add_zero]

theorem axisMat_tr (k : α × α × α) (t s : α) : (axisMat k t s).tr = axisMat k t (-s) := by
  simp only [axisMat, M3.tr, M3.mk.injEq, true_and, and_true]; and_intros <;> ring

theorem axisMat_mul (k : α × α × α) (t₁ s₁ t₂ s₂ : α) :
    (axisMat k t₁ s₁).mul (axisMat k t₂ s₂) =
      axisMat k (t₁ + t₂ + s₁ * s₂ - dot3 k k * (t₁ * t₂)) (s₁ + s₂ - dot3 k k * (s₁ * t₂ + s₂ * t₁)) := by
  simp only [axisMat, M3.mul, dot3, M3.mk.injEq]; and_intros <;> ring

theorem axisMat_smul_axis (a : α) (k : α × α × α) (t s : α) :
    axisMat (a * k.1, a * k.2.1, a * k.2.2) t s = axisMat k (a * a * t) (a * s) := by
  simp only [axisMat, M3.mk.injEq]; and_intros <;> ring

theorem axisMat_neg_axis (k : α × α × α) (t s : α) :
    axisMat (-k.1, -k.2.1, -k.2.2) t s = (axisMat k t s).tr := by
  have h := axisMat_smul_axis (-1) k t s
  simp only [neg_one_mul, neg_neg, one_mul] at h
  rw [h, axisMat_tr]

/-- under this condition the transpose `1 − sK + tK²` is the inverse; for a unit axis and `t = 1 − c` it
says `c² + s² = 1` -/
theorem axisMat_proper (k : α × α × α) (t s : α) (h : s * s + dot3 k k * (t * t) = 2 * t) :
    (axisMat k t s).Proper := by
  have inv : ∀ s' : α, s' * s' = s * s → (axisMat k t (-s')).mul (axisMat k t s') = M3.id := fun s' hs => by
    rw [axisMat_mul, ← axisMat_zero k]
    congr 1
    · linear_combination -hs - h
    · ring
  refine ⟨⟨?_, ?_⟩, ?_⟩
  · rw [axisMat_tr]; exact inv s rfl
  · have := inv (-s) (neg_mul_neg s s)
    rwa [neg_neg, ← axisMat_tr] at this
  · -- `det = (1 − t (k·k))² + (k·k) s²`
    simp only [axisMat, M3.det, dot3] at h ⊢
    linear_combination (k.1 * k.1 + k.2.1 * k.2.1 + k.2.2 * k.2.2) * h

theorem quatToMat_eq_axisMat (s : α) (q : Q4 α) : quatToMat s q = axisMat q.vec s (s * q.w) := by
  simp only [axisMat, quatToMat, Q4.vec, M3.mk.injEq, true_and, and_true]; and_intros <;> ring

theorem dot3_comm (u v : α × α × α) : dot3 u v = dot3 v u := by
  simp only [dot3]; ring

theorem cross3_cross3 (a b c : α × α × α) : cross3 (cross3 a b) c =
    (b.1 * dot3 a c - a.1 * dot3 b c, b.2.1 * dot3 a c - a.2.1 * dot3 b c,
      b.2.2 * dot3 a c - a.2.2 * dot3 b c) := by
  simp only [cross3, dot3, Prod.mk.injEq]; and_intros <;> ring

/-- Rodrigues' rotation formula, for an axis of any length -/
theorem rodrigues_mulVec (k w : α × α × α) (c s : α) : (rodrigues k c s).mulVec w =
    (w.1 + s * (cross3 k w).1 + (1 - c) * (k.1 * dot3 k w - w.1 * dot3 k k),
      w.2.1 + s * (cross3 k w).2.1 + (1 - c) * (k.2.1 * dot3 k w - w.2.1 * dot3 k k),
      w.2.2 + s * (cross3 k w).2.2 + (1 - c) * (k.2.2 * dot3 k w - w.2.2 * dot3 k k)) := by
  simp only [rodrigues_eq_axisMat, axisMat, M3.mulVec, cross3, dot3, Prod.mk.injEq]; and_intros <;> ring

theorem eulerZYX_eq (ca sa cb sb cc sc : α) : eulerZYX ca sa cb sb cc sc =
    ⟨cb * ca, -(cb * sa), sb,
     cc * sa + sc * sb * ca, cc * ca - sc * sb * sa, -(sc * cb),
     sc * sa - cc * sb * ca, sc * ca + cc * sb * sa, cc * cb⟩ := by
  simp only [eulerZYX, M3.mul, rotX, rotY, rotZ, M3.mk.injEq]
  and_intros <;> ring

theorem rotX_eq_rodrigues (c s : α) : rotX c s = rodrigues (1, 0, 0) c s := by
  simp only [rodrigues_eq_axisMat, axisMat, rotX, M3.mk.injEq]; and_intros <;> ring

theorem rotY_eq_rodrigues (c s : α) : rotY c s = rodrigues (0, 1, 0) c s := by
  simp only [rodrigues_eq_axisMat, axisMat, rotY, M3.mk.injEq]; and_intros <;> ring

theorem rotZ_eq_rodrigues (c s : α) : rotZ c s = rodrigues (0, 0, 1) c s := by
  simp only [rodrigues_eq_axisMat, axisMat, rotZ, M3.mk.injEq]; and_intros <;> ring

def M3.adj (A : M3 α) : M3 α :=
  ⟨A.a11 * A.a22 - A.a12 * A.a21, A.a02 * A.a21 - A.a01 * A.a22, A.a01 * A.a12 - A.a02 * A.a11,
   A.a12 * A.a20 - A.a10 * A.a22, A.a00 * A.a22 - A.a02 * A.a20, A.a02 * A.a10 - A.a00 * A.a12,
   A.a10 * A.a21 - A.a11 * A.a20, A.a01 * A.a20 - A.a00 * A.a21, A.a00 * A.a11 - A.a01 * A.a10⟩

theorem M3.mul_adj (A : M3 α) : A.mul A.adj = M3.smul A.det M3.id := by
  simp only [M3.mul, M3.adj, M3.smul, M3.det, M3.id, M3.mk.injEq]; and_intros <;> ring

/-- `|q|² · R(q)`, polynomial in `q`, so multiplicative for all quaternions; `quatToMat 2 q` on unit ones -/
def Q4.homMat (q : Q4 α) : M3 α :=
  ⟨q.w * q.w + q.x * q.x - q.y * q.y - q.z * q.z, 2 * (q.x * q.y - q.w * q.z), 2 * (q.x * q.z + q.w * q.y),
   2 * (q.y * q.x + q.w * q.z), q.w * q.w - q.x * q.x + q.y * q.y - q.z * q.z, 2 * (q.y * q.z - q.w * q.x),
   2 * (q.z * q.x - q.w * q.y), 2 * (q.z * q.y + q.w * q.x), q.w * q.w - q.x * q.x - q.y * q.y + q.z * q.z⟩

theorem Q4.homMat_mul (p q : Q4 α) : (p.mul q).homMat = p.homMat.mul q.homMat := by
  simp only [Q4.homMat, Q4.mul, M3.mul, M3.mk.injEq]; and_intros <;> ring

theorem Q4.mul_pure_mul_conj (q : Q4 α) (v : α × α × α) :
    (q.mul (Q4.pure v)).mul q.conj = Q4.pure (q.homMat.mulVec v) := by
  simp only [Q4.homMat, Q4.mul, Q4.pure, Q4.conj, M3.mulVec, Q4.mk.injEq]; and_intros <;> ring

theorem quatToMat_of_unit (q : Q4 α) (hq : normSq q = 1) : quatToMat 2 q = q.homMat := by
  simp only [normSq] at hq
  simp only [quatToMat, Q4.homMat, M3.mk.injEq, true_and]
  -- the off-diagonal entries agree syntactically
  refine ⟨?_, ?_, ?_⟩ <;> linear_combination (-1 : α) * hq

theorem Q4.mul_conj (q : Q4 α) : q.mul q.conj = ⟨normSq q, 0, 0, 0⟩ := by
  simp only [Q4.mul, Q4.conj, normSq, Q4.mk.injEq]; and_intros <;> ring

theorem negLastCol_det3 (A : M3 α) : A.negLastCol.det = -A.det := by
  simp only [M3.negLastCol, M3.det]; ring

/-- flipping a column changes signs in pairs in `A Aᵀ` and flips whole entries of `Aᵀ A` -/
theorem negLastCol_orthonormal3 (A : M3 α) (h : A.Orthonormal) : A.negLastCol.Orthonormal := by
  simp only [M3.Orthonormal, M3.negLastCol, M3.tr, M3.mul, M3.id, M3.mk.injEq, mul_neg, neg_mul, neg_neg,
    ← neg_add, neg_eq_zero] at h ⊢
  exact h

theorem negLastCol_det2 (A : M2 α) : A.negLastCol.det = -A.det := by
  simp only [M2.negLastCol, M2.det]; ring

theorem negLastCol_orthonormal2 (A : M2 α) (h : A.Orthonormal) : A.negLastCol.Orthonormal := by
  simp only [M2.Orthonormal, M2.negLastCol, M2.tr, M2.mul, M2.id, M2.mk.injEq, mul_neg, neg_mul, neg_neg,
    ← neg_add, neg_eq_zero] at h ⊢
  exact h

end

/-- dividing the axis by `n` only rescales the parameters -/
theorem alignRot_eq_rodrigues {α : Type} [Field α] (u v : α × α × α) (n c s : α) :
    alignRot u v n c s = rodrigues (cross3 u v) (1 - n⁻¹ * n⁻¹ * (1 - c)) (n⁻¹ * s) := by
  simp only [alignRot, div_eq_inv_mul, rodrigues_eq_axisMat, axisMat_smul_axis, sub_sub_cancel]

section lookup
variable {ι β : Type} [LinearOrder β]

/-- Python's `min(…, key=f)` returns the first minimal element: keys before it are strictly larger, none
after it is smaller -/
theorem runMin_spec (f : ι → β) (xs : List ι) (x : ι) :
    ∃ pre post, x :: xs = pre ++ runMin f x xs :: post ∧ (∀ y ∈ pre, f (runMin f x xs) < f y) ∧
      ∀ y ∈ post, f (runMin f x xs) ≤ f y := by
  induction xs using List.reverseRecOn with
  | nil => exact ⟨[], [], rfl, by simp, by simp⟩
  | append_singleton ys y ih =>
    obtain ⟨pre, post, e, hp, hq⟩ := ih
    have hstep : runMin f x (ys ++ [y]) = if f y < f (runMin f x ys) then y else runMin f x ys := by
      unfold runMin; rw [List.foldl_append]; rfl
    rw [hstep]
    generalize runMin f x ys = r at e hp hq ⊢
    by_cases h : f y < f r
    · -- a strictly smaller last element becomes the result; all of `x :: ys` lies before it
      rw [if_pos h]
      refine ⟨x :: ys, [], rfl, ?_, by simp⟩
      rw [e]
      exact List.forall_mem_append.mpr ⟨fun z hz => h.trans (hp z hz),
        List.forall_mem_cons.mpr ⟨h, fun z hz => lt_of_lt_of_le h (hq z hz)⟩⟩
    · rw [if_neg h]
      exact ⟨pre, post ++ [y], by rw [← List.cons_append, e, List.append_assoc]; rfl, hp,
        List.forall_mem_append.mpr ⟨hq, List.forall_mem_singleton.mpr (not_lt.mp h)⟩⟩

theorem argminFirst_spec (f : ι → β) (l : List ι) (r : ι) (h : argminFirst f l = some r) :
    ∃ pre post, l = pre ++ r :: post ∧ (∀ y ∈ pre, f r < f y) ∧ ∀ y ∈ post, f r ≤ f y := by
  cases l with
  | nil => simp [argminFirst] at h
  | cons x xs =>
    obtain rfl : runMin f x xs = r := Option.some.inj h
    exact runMin_spec f xs x

end lookup

section lookupRing
variable {β : Type} [Ring β] [LinearOrder β] [IsStrictOrderedRing β]

theorem absDiff_eq_abs (a b : β) : absDiff a b = |a - b| := by
  unfold absDiff
  split
  · rename_i h; rw [abs_of_neg h]
  · rename_i h; rw [abs_of_nonneg (not_lt.mp h)]

end lookupRing

section m2
variable {α : Type} [CommRing α]

theorem M2.det_mul (A B : M2 α) : (A.mul B).det = A.det * B.det := by
  simp only [M2.det, M2.mul]; ring

theorem M2.det_tr (A : M2 α) : A.tr.det = A.det := by
  simp only [M2.det, M2.tr]; ring

theorem M2.det_id : (M2.id : M2 α).det = 1 := by
  simp only [M2.det, M2.id]; ring

theorem M2.Orthonormal.det_sq {A : M2 α} (hA : A.Orthonormal) : A.det * A.det = 1 := by
  have := congrArg M2.det hA.1
  rw [M2.det_mul, M2.det_tr, M2.det_id] at this
  exact this

end m2

theorem det_sign_of_sq_one {α : Type} [Field α] [LinearOrder α] [IsStrictOrderedRing α] (d : α) (h : d * d = 1) :
    (d < 0 → -d = 1) ∧ (¬ d < 0 → d = 1) := by
  rcases mul_self_eq_one_iff.mp h with rfl | rfl
  · exact ⟨fun h => absurd h (not_lt.mpr zero_le_one), fun _ => rfl⟩
  · exact ⟨fun _ => neg_neg 1, fun h => absurd (neg_lt_zero.mpr one_pos) h⟩

theorem linspace0_length (stop : Float) (num : Nat) : (linspace0 stop num).length = num := by
  unfold linspace0
  split
  · next h => rw [h, List.length_nil]
  · split
    · next h => rw [h, List.length_singleton]
    · rw [List.length_map, List.length_range]

theorem axisOfChar_lt (c : Char) (a : Nat) (h : axisOfChar c = some a) : a < 3 := by
  unfold axisOfChar at h
  split_ifs at h <;> cases h <;> omega

theorem mapM_axis_spec (cs : List Char) (axes : List Nat) (h : cs.mapM axisOfChar = some axes) :
    axes.length = cs.length ∧ ∀ a ∈ axes, a < 3 := by
  refine ⟨length_mapM _ cs axes h, ?_⟩
  induction cs generalizing axes with
  | nil =>
    rw [List.mapM_nil] at h
    cases h
    exact fun _ ha => nomatch ha
  | cons c cs ih =>
    obtain ⟨a, rest, ha, hr, rfl⟩ := mapM_cons_eq_some h
    exact List.forall_mem_cons.mpr ⟨axisOfChar_lt c _ ha, ih rest hr⟩

theorem parseSeq_sound (cs : List Char) (intr : Bool) (axes : List Nat) (h : parseSeq cs = some (intr, axes)) :
    1 ≤ cs.length ∧ cs.length ≤ 3 ∧ cs.mapM axisOfChar = some axes ∧ axes.length = cs.length ∧
    (∀ a ∈ axes, a < 3) ∧ consecDistinct axes = true ∧
    intr = cs.all (fun c => c = 'X' ∨ c = 'Y' ∨ c = 'Z') ∧
    (intr = false → cs.all (fun c => c = 'x' ∨ c = 'y' ∨ c = 'z') = true) := by
  simp only [parseSeq] at h
  -- `split_ifs` closes the branches where `h` reads `none = some _`
  split_ifs at h with hlen hcase
  split at h
  · cases h
  · rename_i ax hax
    split_ifs at h with hd
    obtain ⟨rfl, rfl⟩ := Prod.mk.inj (Option.some.inj h)
    obtain ⟨l1, l2⟩ := mapM_axis_spec cs ax hax
    refine ⟨by omega, by omega, hax, l1, l2, hd, rfl, fun hf => ?_⟩
    rcases hcase with hl | hu
    · exact hl
    · rw [hf] at hu; cases hu

theorem mapM_axis_none (cs : List Char) (c : Char) (hc : c ∈ cs) (hbad : axisOfChar c = none) :
    cs.mapM axisOfChar = none := by
  induction cs with
  | nil => cases hc
  | cons x xs ih =>
    simp only [List.mapM_cons, Option.bind_eq_bind]
    rcases List.mem_cons.mp hc with rfl | hx
    · rw [hbad]; rfl
    · rw [ih hx]
      cases axisOfChar x <;> rfl

end Pm.C07
