import PytmeModel.Model.C08
import PytmeModel.Proofs.Common
import Mathlib.Tactic.Ring
import Mathlib.Data.List.GetD

/-! Helper lemmas for C08: little-endian words, reading tokens back out of `pre ++ payload ++ post`, the EM header,
row offsets, python slices, the six MRC axis orders, the MRC header read. -/
namespace Pm.C08

theorem length_leBytes (b v : Nat) : (leBytes b v).length = b := by
  induction b generalizing v with
  | zero => rfl
  | succ b ih => simp [leBytes, ih]

theorem leVal_leBytes (b v : Nat) (h : v < 256 ^ b) : leVal (leBytes b v) = v := by
  induction b generalizing v with
  | zero =>
    rw [Nat.pow_zero] at h
    show 0 = v
    omega
  | succ b ih =>
    have h' : v / 256 < 256 ^ b := by
      rw [Nat.div_lt_iff_lt_mul (by decide)]; rw [Nat.pow_succ] at h; exact h
    simp only [leBytes, leVal, ih _ h']
    omega

theorem leBytes_byte (b v x : Nat) (hx : x ∈ leBytes b v) : x < 256 := by
  induction b generalizing v with
  | zero => simp [leBytes] at hx
  | succ b ih =>
    simp only [leBytes, List.mem_cons] at hx
    rcases hx with h | h
    · omega
    · exact ih _ h

theorem mul_add_lt {i m t w : Nat} (hi : i < m) (ht : t < w) : i * w + t < m * w :=
  calc i * w + t < (i + 1) * w := by rw [Nat.succ_mul]; omega
    _ ≤ m * w := Nat.mul_le_mul_right _ hi

theorem getD_flatMap_const {α β : Type} (l : List α) (f : α → List β) (w : Nat)
    (hw : ∀ x ∈ l, (f x).length = w) (i t : Nat) (hi : i < l.length) (ht : t < w) (d : β) :
    (l.flatMap f).getD (i * w + t) d = (f (l[i]'hi)).getD t d := by
  induction l generalizing i with
  | nil => simp at hi
  | cons x xs ih =>
    have hx : (f x).length = w := hw x (by simp)
    simp only [List.flatMap_cons]
    cases i with
    | zero =>
      simp only [Nat.zero_mul, Nat.zero_add, List.getElem_cons_zero]
      rw [List.getD_append _ _ _ _ (by omega)]
    | succ i =>
      have hi' : i < xs.length := by simpa using hi
      have : (i + 1) * w + t = (f x).length + (i * w + t) := by rw [hx]; ring
      rw [this, List.getD_append_right _ _ _ _ (by omega)]
      simp only [Nat.add_sub_cancel_left, List.getElem_cons_succ]
      exact ih (fun y hy => hw y (by simp [hy])) i hi'

theorem length_payload (b : Nat) (data : List Nat) : (payload b data).length = data.length * b := by
  unfold payload
  exact length_flatMap_const _ _ _ (fun x _ => length_leBytes b x)

theorem rdTok_file (pre post : Bytes) (b : Nat) (data : List Nat) (i : Nat)
    (hi : i < data.length) (hv : data[i]'hi < 256 ^ b) :
    rdTok (pre ++ payload b data ++ post) (pre.length + i * b) b = data[i]'hi := by
  unfold rdTok
  -- byte `t` of the token is byte `t` of block `i` of the payload
  have hbyte : ∀ t ∈ List.range b,
      (pre ++ payload b data ++ post).getD (pre.length + i * b + t) 0 = (leBytes b (data[i]'hi)).getD t 0 := by
    intro t ht
    have ht := List.mem_range.mp ht
    have hlt : i * b + t < (payload b data).length := length_payload b data ▸ mul_add_lt hi ht
    rw [List.append_assoc, Nat.add_assoc, List.getD_append_right _ _ _ _ (by omega), Nat.add_sub_cancel_left,
      List.getD_append _ _ _ _ hlt]
    exact getD_flatMap_const _ _ _ (fun x _ => length_leBytes b x) i t hi ht 0
  rw [List.map_congr_left hbyte, map_getD_range _ _ _ (length_leBytes b _), leVal_leBytes _ _ hv]

theorem readRow_file (pre post : Bytes) (b : Nat) (data : List Nat) (k n : Nat)
    (hk : k + n ≤ data.length) (hv : ∀ v ∈ data, v < 256 ^ b) :
    readRow (pre ++ payload b data ++ post) (pre.length + k * b) n b
      = (List.range n).map (fun j => data.getD (k + j) 0) := by
  unfold readRow
  apply List.map_congr_left
  intro j hj
  have hj' : j < n := by simpa using hj
  have hlt : k + j < data.length := by omega
  have : pre.length + k * b + j * b = pre.length + (k + j) * b := by ring
  rw [this, rdTok_file pre post b data (k + j) hlt (hv _ (List.getElem_mem hlt)),
    List.getD_eq_getElem _ _ hlt]

theorem readRow_all (pre post : Bytes) (b : Nat) (data : List Nat) (hv : ∀ v ∈ data, v < 256 ^ b) :
    readRow (pre ++ payload b data ++ post) pre.length data.length b = data := by
  have h := readRow_file pre post b data 0 data.length (by omega) hv
  simp only [Nat.zero_mul, Nat.add_zero, Nat.zero_add] at h
  rw [h, map_getD_range _ _ _ rfl]

theorem length_spaces (n : Nat) : (spaces n).length = n := by simp [spaces]

theorem length_readRow (f : Bytes) (off n b : Nat) : (readRow f off n b).length = n := by
  simp [readRow]

theorem uToI32_i32ToU (x : Int) (h1 : -2147483648 ≤ x) (h2 : x < 2147483648) : uToI32 (i32ToU x) = x := by
  unfold uToI32 i32ToU
  split <;> omega

theorem i32ToU_lt (x : Int) : i32ToU x < 256 ^ 4 := by
  unfold i32ToU
  have : (256 : Nat) ^ 4 = 4294967296 := by norm_num
  omega

theorem emHeader_length (code nz ny nx : Nat) (rate : Int) :
    (emHeader code [nz, ny, nx] rate).length = 512 := by
  simp [emHeader, emUserParams, length_payload, length_spaces, length_leBytes]

theorem length_emEncode (code b nz ny nx : Nat) (rate : Int) (data : List Nat) :
    (emEncode code b [nz, ny, nx] rate data).length = 512 + data.length * b := by
  unfold emEncode
  rw [List.length_append, emHeader_length, length_payload]

theorem readRow_emEncode (code b nz ny nx : Nat) (rate : Int) (data : List Nat) (hv : ∀ v ∈ data, v < 256 ^ b) :
    readRow (emEncode code b [nz, ny, nx] rate data) 512 data.length b = data := by
  have h := readRow_all (emHeader code [nz, ny, nx] rate) [] b data hv
  rwa [emHeader_length, List.append_nil] at h

theorem prodL_three (nz ny nx : Nat) : prodL [nz, ny, nx] = nz * ny * nx := by
  simp only [prodL, Nat.mul_one, Nat.mul_assoc]

theorem emParse_of_length (f : Bytes) (h : 512 ≤ f.length) :
    emParse f = some ⟨f.getD 3 0, [rdTok f 12 4, rdTok f 8 4, rdTok f 4 4], uToI32 (rdTok f 120 4), 512⟩ := by
  unfold emParse
  rw [if_neg (by omega)]
  rfl

theorem emParse_emEncode (code b nz ny nx : Nat) (rate : Int) (data : List Nat)
    (hz : nz < 2147483648) (hy : ny < 2147483648) (hx : nx < 2147483648)
    (hr1 : -2147483648 ≤ rate) (hr2 : rate < 2147483648) :
    emParse (emEncode code b [nz, ny, nx] rate data) = some ⟨code, [nz, ny, nx], rate, 512⟩ := by
  have h31 : ∀ n, n < 2147483648 → n < 256 ^ 4 := fun n h => Nat.lt_trans h (by decide)
  rw [emParse_of_length _ (by rw [length_emEncode]; omega)]
  -- the sampling word is user parameter 6, after 96 bytes
  have hr : rdTok (emEncode code b [nz, ny, nx] rate data) 120 4 = i32ToU rate := by
    obtain ⟨rest, hs⟩ : ∃ rest, emEncode code b [nz, ny, nx] rate data =
        ([0, 0, 0, code] ++ payload 4 [nx, ny, nz] ++ spaces 80) ++
          payload 4 ((List.range 40).map fun i => if i = 6 then i32ToU rate else 0) ++ rest :=
      ⟨_, by simp only [emEncode, emHeader, emUserParams, List.append_assoc]; rfl⟩
    rw [hs]
    exact rdTok_file _ rest 4 _ 6 (by simp) (i32ToU_lt rate)
  obtain ⟨rest, hs⟩ : ∃ rest, emEncode code b [nz, ny, nx] rate data =
      [0, 0, 0, code] ++ payload 4 [nx, ny, nz] ++ rest :=
    ⟨_, by simp only [emEncode, emHeader, List.append_assoc]; rfl⟩
  have hd := rdTok_file [0, 0, 0, code] rest 4 [nx, ny, nz]
  rw [hr, uToI32_i32ToU rate hr1 hr2, hs, show rdTok _ 4 4 = nx from hd 0 (by simp) (h31 _ hx),
    show rdTok _ 8 4 = ny from hd 1 (by simp) (h31 _ hy), show rdTok _ 12 4 = nz from hd 2 (by simp) (h31 _ hz)]
  rfl

/-- the type code stands for `b'`-byte items, the payload was written with `b`-byte items -/
theorem emDecode_emEncode (code b b' nz ny nx : Nat) (rate : Int) (data : List Nat)
    (hb : emItemsize code = some b')
    (hz : nz < 2147483648) (hy : ny < 2147483648) (hx : nx < 2147483648)
    (hr1 : -2147483648 ≤ rate) (hr2 : rate < 2147483648) :
    emDecode (emEncode code b [nz, ny, nx] rate data) =
      if 512 + data.length * b < 512 + nz * ny * nx * b' then none
      else some (⟨code, [nz, ny, nx], rate, 512⟩, readRow (emEncode code b [nz, ny, nx] rate data) 512 (nz * ny * nx) b') := by
  unfold emDecode
  rw [emParse_emEncode code b nz ny nx rate data hz hy hx hr1 hr2]
  simp only [hb, length_emEncode, prodL_three]

theorem readRows_getD (f : Bytes) (header ny nx b z0 z1 y0 y1 x0 x1 i j k : Nat)
    (hi : i < z1 - z0) (hj : j < y1 - y0) (hk : k < x1 - x0) :
    (readRows f header ny nx b z0 z1 y0 y1 x0 x1).getD (i * ((y1 - y0) * (x1 - x0)) + (j * (x1 - x0) + k)) 0
      = rdTok f (rowOffset header ny nx b (z0 + i) (y0 + j) x0 + k * b) b := by
  unfold readRows
  rw [getD_flatMap_const _ _ ((y1 - y0) * (x1 - x0)) (fun _ _ => by
    rw [length_flatMap_const _ _ (x1 - x0) (fun _ _ => length_readRow _ _ _ _), List.length_range])
    i _ (by simpa using hi) (mul_add_lt hj hk)]
  rw [getD_flatMap_const _ _ (x1 - x0) (fun _ _ => length_readRow _ _ _ _) j k (by simpa using hj) hk]
  simp only [List.getElem_range]
  unfold readRow
  rw [List.getD_eq_getElem _ _ (by simpa using hk)]
  simp

theorem rowOffset_row_le (header nz ny nx b z y x0 x1 : Nat) (hz : z < nz) (hy : y < ny) (hx : x0 ≤ x1 ∧ x1 ≤ nx) :
    rowOffset header ny nx b z y x0 + (x1 - x0) * b ≤ header + nz * ny * nx * b := by
  have e : rowOffset header ny nx b z y x0 + (x1 - x0) * b = header + ((z * ny + y) * nx + x0 + (x1 - x0)) * b := by
    unfold rowOffset; ring
  rw [e]
  have h1 : (z * ny + y + 1) * nx ≤ nz * ny * nx :=
    Nat.mul_le_mul_right _ (calc z * ny + y + 1 ≤ (z + 1) * ny := by rw [Nat.succ_mul]; omega
      _ ≤ nz * ny := Nat.mul_le_mul_right _ hz)
  rw [Nat.succ_mul] at h1
  exact Nat.add_le_add_left (Nat.mul_le_mul_right _ (by omega)) _

theorem add_lt_of_lt_sub {a i c n : Nat} (hi : i < c - a) (hc : c ≤ n) : a + i < n := by omega

theorem inShape_three {a b c i j k : Nat} : inShape [a, b, c] [i, j, k] = true ↔ i < a ∧ j < b ∧ k < c := by
  simp [inShape]

theorem flatIdx_three (a b c i j k : Nat) : flatIdx [a, b, c] [i, j, k] = i * (b * c) + (j * c + k) := by
  simp [flatIdx, prodL]

theorem getD_toArray (shape idx : List Nat) (l : List Nat) (h : inShape shape idx = true) :
    (⟨shape, l.toArray⟩ : Arr Nat).getD idx 0 = l.getD (flatIdx shape idx) 0 := by
  simp only [Arr.getD, h, if_true, Array.getD_eq_getD_getElem?, List.getElem?_toArray, ← List.getD_eq_getElem?_getD]

theorem isFullBox_three (z0 z1 y0 y1 x0 x1 : Int) (nz ny nx : Nat) :
    isFullBox [(z0, z1), (y0, y1), (x0, x1)] [nz, ny, nx] = true ↔ z1 - z0 = nz ∧ y1 - y0 = ny ∧ x1 - x0 = nx := by
  unfold isFullBox
  rw [beq_iff_eq]
  simp only [boxShape, List.map_cons, List.map_nil, List.cons.injEq, and_true]

theorem endsWith_append_gz (name suf : List Char) :
    endsWith (name ++ ['.', 'g', 'z']) (suf ++ ['.', 'g', 'z']) = endsWith name suf := by
  simp [endsWith, List.isSuffixOf, List.reverse_append, List.isPrefixOf]

theorem gz_not_em (name : List Char) (h : endsWith name ['.', 'g', 'z'] = true) :
    endsWith name ['e', 'm'] = false ∧ endsWith name ['h', '5'] = false := by
  -- of two suffixes of `name` the shorter is a suffix of the longer, and ".gz" ends in neither "em" nor "h5"
  have hg := List.isSuffixOf_iff_suffix.mp h
  constructor <;>
  · rw [← Bool.not_eq_true]
    intro h'
    exact absurd (List.suffix_of_suffix_length_le (List.isSuffixOf_iff_suffix.mp h') hg (by decide)) (by decide)

theorem endsWith_xy_gz_false (name : List Char) (x y : Char) (h : endsWith name ['.', 'g', 'z'] = false) :
    endsWith name [x, y, '.', 'g', 'z'] = false := by
  -- a name ending in "xy.gz" ends in ".gz"
  rw [← Bool.not_eq_true] at h ⊢
  exact fun h' => h (List.isSuffixOf_iff_suffix.mpr
    (List.IsSuffix.trans ⟨[x, y], rfl⟩ (List.isSuffixOf_iff_suffix.mp h')))

theorem sliceBounds_eq_some {s : PySlice} {p : Int × Int} (h : sliceBounds s = some p) :
    s.start = some p.1 ∧ s.stop = some p.2 := by
  rcases s with ⟨_ | a, _ | b, st⟩ <;> cases h
  exact ⟨rfl, rfl⟩

theorem pyIndices_canonical (n a b : Nat) (st : Option Int) (hst : st = none ∨ st = some 1) (hab : a ≤ b) (hb : b ≤ n) :
    pyIndices n ⟨some (a : Int), some (b : Int), st⟩ = some (a, b, 1) := by
  have hstep : st.getD 1 = 1 := by rcases hst with rfl | rfl <;> rfl
  unfold pyIndices
  simp only [hstep, Option.map_some, Option.getD_some]
  rw [if_neg (by decide), if_neg (by omega), if_neg (by omega), Int.toNat_natCast, Int.toNat_natCast,
    Nat.min_eq_left (Nat.le_trans hab hb), Nat.min_eq_left hb]
  rfl

theorem pyRange_unit (a b : Nat) : pyRange (a, b, 1) = (List.range (b - a)).map (fun k => a + k) := by
  simp [pyRange]

theorem pyRange_lt (A B S k : Nat) (hS : 1 ≤ S) (hk : k < (B - A + S - 1) / S) : A + k * S < B := by
  have h1 := (Nat.le_div_iff_mul_le (by omega : 0 < S)).mp (show k + 1 ≤ _ from hk)
  rw [Nat.succ_mul] at h1
  omega

/-- python slicing looks at a request only through `slice.indices` of each axis -/
theorem pySliceArr_congr (a : Arr Nat) (sl sl' : List PySlice) (hl : sl.length ≤ a.shape.length)
    (hl' : sl'.length ≤ a.shape.length)
    (h : ∀ i < a.shape.length, pyIndices (a.shape.getD i 0) (sl.getD i ⟨none, none, none⟩)
      = pyIndices (a.shape.getD i 0) (sl'.getD i ⟨none, none, none⟩)) :
    pySliceArr a sl = pySliceArr a sl' := by
  unfold pySliceArr
  rw [if_neg (by omega), if_neg (by omega), List.map_congr_left (fun i hi => h i (List.mem_range.mp hi))]

/-- python slicing completes a short tuple by full axes, one at a time -/
theorem pySliceArr_snoc_full (a : Arr Nat) (sl : List PySlice) (hl : sl.length < a.shape.length) :
    pySliceArr a sl = pySliceArr a (sl ++ [⟨some 0, some (a.shape.getD sl.length 0 : Int), none⟩]) := by
  refine pySliceArr_congr _ _ _ (Nat.le_of_lt hl) (by rw [List.length_append]; exact hl) fun i _ => ?_
  rcases Nat.lt_trichotomy i sl.length with h | rfl | h
  · rw [List.getD_append _ _ _ _ h]
  · rw [List.getD_append_right _ _ _ _ (Nat.le_refl _), Nat.sub_self, List.getD_eq_default _ _ (Nat.le_refl _)]
    exact (pyIndices_canonical _ 0 _ none (Or.inl rfl) (Nat.zero_le _) (Nat.le_refl _)).symm
  · rw [List.getD_eq_default sl _ (Nat.le_of_lt h), List.getD_eq_default (sl ++ _) _ (by rw [List.length_append]; exact h)]

theorem mapM_map_congr {α β γ : Type} (f : β → Option γ) (g g' : α → β) (h : ∀ i, f (g i) = f (g' i)) :
    ∀ l : List α, (l.map g).mapM f = (l.map g').mapM f
  | [] => rfl
  | a :: l => by simp only [List.map_cons, List.mapM_cons, h a, mapM_map_congr f g g' h l]

theorem readRowExact_complete (f : Bytes) (off k b : Nat) (hb : 0 < b) (h : off + k * b ≤ f.length) :
    readRowExact f off k b = some (readRow f off k b) := by
  unfold readRowExact
  have h1 : min (k * b) (f.length - off) = k * b := by omega
  simp only [h1, Nat.mul_mod_left, ne_eq, not_true_eq_false, if_false, Nat.mul_div_cancel _ hb, if_true]

theorem optFlat_map_of_some {α : Type} (l : List α) (g : α → Option (List Nat)) (h : α → List Nat)
    (hg : ∀ x ∈ l, g x = some (h x)) : optFlat (l.map g) = some (l.flatMap h) := by
  induction l with
  | nil => rfl
  | cons a l ih =>
    show (match g a, optFlat (l.map g) with
      | some a, some r => some (a ++ r)
      | _, _ => none) = _
    rw [hg a List.mem_cons_self, ih fun x hx => hg x (List.mem_cons_of_mem _ hx)]
    rfl

/-- `mapc/mapr/maps` minus one: the six arrangements of the three file axes -/
abbrev axisOrders : List (List Nat) := [[0, 1, 2], [0, 2, 1], [1, 0, 2], [1, 2, 0], [2, 0, 1], [2, 1, 0]]

theorem axisOrders_cases {crs : List Nat} (h : crs ∈ axisOrders) :
    crs = [0, 1, 2] ∨ crs = [0, 2, 1] ∨ crs = [1, 0, 2] ∨ crs = [1, 2, 0] ∨ crs = [2, 0, 1] ∨ crs = [2, 1, 0] := by
  simpa only [List.mem_cons, List.not_mem_nil, or_false] using h

theorem invPerm_axisOrders :
    invPerm [0, 1, 2] = [0, 1, 2] ∧ invPerm [0, 2, 1] = [0, 2, 1] ∧ invPerm [1, 0, 2] = [1, 0, 2] ∧
    invPerm [1, 2, 0] = [2, 0, 1] ∧ invPerm [2, 0, 1] = [1, 2, 0] ∧ invPerm [2, 1, 0] = [2, 1, 0] := by
  decide

theorem axisOrders_complete :
    ∀ crs ∈ axisOrders, (crs.contains 0 && crs.contains 1 && crs.contains 2) = true := by
  decide

theorem mrcCrsBox_three (crs : List Nat) (box : Box) (n0 n1 n2 : Nat) :
    mrcCrsBox crs box [n0, n1, n2] =
      [box.getD ((invPerm crs).getD 0 0) (0, (n0 : Int)), box.getD ((invPerm crs).getD 1 0) (0, (n1 : Int)),
       box.getD ((invPerm crs).getD 2 0) (0, (n2 : Int))] := rfl

/-- a file-order box, handed over in the caller's axes, reaches the row reader unchanged -/
theorem mrcCrsBox_permute {crs : List Nat} (hcrs : crs ∈ axisOrders) (a b c d : Int × Int) (n0 n1 n2 : Nat) :
    mrcCrsBox crs (permute crs [a, b, c] d) [n0, n1, n2] = [a, b, c] := by
  rcases axisOrders_cases hcrs with rfl | rfl | rfl | rfl | rfl | rfl <;> rfl

/-- element `crs[(i, j, k)]` of `np.transpose(a, crs)` is element `(i, j, k)` of `a` -/
theorem transposeArr_getD_permute {crs : List Nat} (hcrs : crs ∈ axisOrders) (a : Arr Nat) (s0 s1 s2 i j k : Nat)
    (hs : a.shape = [s0, s1, s2]) (hi : i < s0) (hj : j < s1) (hk : k < s2) :
    (transposeArr a crs).getD (permute crs [i, j, k] 0) 0 = a.getD [i, j, k] 0 := by
  unfold transposeArr
  rcases axisOrders_cases hcrs with rfl | rfl | rfl | rfl | rfl | rfl <;>
  · rw [hs, Arr.getD_ofFn _ _ _ _ (by
      simp only [permute, List.map, List.getD_cons_zero, List.getD_cons_succ, inShape, hi, hj, hk, decide_true,
        Bool.and_self])]
    rfl

theorem permute_id {α : Type} (l : List α) (d : α) (hl : l.length = 3) : permute [0, 1, 2] l d = l := by
  match l, hl with
  | [_, _, _], _ => rfl

theorem mrcRead_ok (h : MrcFields) (crs : List Nat) (hm : h.mapcrs.map (· - 1) = crs)
    (hc : (crs.contains 0 && crs.contains 1 && crs.contains 2) = true) :
    mrcRead h = .ok ⟨h.nxyz.reverse,
      if allTiny h.origin.reverse && !(h.nstart.reverse.all (· == 0))
        then List.zipWith (fun (s : Int) r => (s : Rat) * r) h.nstart.reverse (zipDiv h.cella h.mxyz).reverse
        else h.origin.reverse,
      (zipDiv h.cella h.mxyz).reverse, 1024 + h.nsymbt, crs⟩ := by
  unfold mrcRead
  simp only [hm, hc, Bool.not_true, Bool.false_eq_true, if_false]

/-- the general header read takes shape and origin through `crs`, also when `crs` is the identity -/
theorem mrcReadCrs_of_ok {h : MrcFields} {p : MrcParsed} (hr : mrcRead h = .ok p)
    (hs : p.shape.length = 3) (ho : p.origin.length = 3) :
    mrcReadCrs h = .ok ⟨permute p.crs p.shape 0, permute p.crs p.origin 0, p.rate, p.header, p.crs⟩ := by
  unfold mrcReadCrs
  rw [hr]
  show (if (p.crs == [0, 1, 2]) = true then _ else _) = _
  split
  · rename_i hc
    rw [eq_of_beq hc, permute_id _ _ hs, permute_id _ _ ho, ← eq_of_beq hc]
  · rfl

/-- `origin` is what `mrcRead` settles on (the origin words, or start × rate); `st` may have any length -/
theorem mrcReadCrs_fields {crs : List Nat} (hcrs : crs ∈ axisOrders)
    (nz ny nx mz my mx mode nsymbt : Nat) (st : List Int) (cx cy cz ox oy oz : Rat) {origin : List Rat}
    (ho : (if allTiny [oz, oy, ox] && !(st.reverse.all (· == 0))
        then List.zipWith (fun (s : Int) r => (s : Rat) * r) st.reverse [cz / mz, cy / my, cx / mx]
        else [oz, oy, ox]) = origin)
    (hl : origin.length = 3) :
    mrcReadCrs ⟨[nx, ny, nz], mode, st, [mx, my, mz], [cx, cy, cz], crs.map (· + 1), [ox, oy, oz], nsymbt⟩
      = .ok ⟨permute crs [nz, ny, nx] 0, permute crs origin 0, [cz / mz, cy / my, cx / mx], 1024 + nsymbt, crs⟩ := by
  have hr := mrcRead_ok ⟨[nx, ny, nz], mode, st, [mx, my, mz], [cx, cy, cz], crs.map (· + 1), [ox, oy, oz], nsymbt⟩
    crs (by simp [Function.comp_def]) (axisOrders_complete crs hcrs)
  subst ho
  exact mrcReadCrs_of_ok hr rfl hl

end Pm.C08
