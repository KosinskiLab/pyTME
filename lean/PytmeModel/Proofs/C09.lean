import PytmeModel.Model.C09
import PytmeModel.Proofs.Common
import Mathlib.Tactic.IntervalCases

/-! C09, text level: stripping padded fields, decimal text and its widths, fixed-column slices, splitting and
joining lines, the tokens of a written mmCIF row, rows broken over lines, look-ups in tables. -/
namespace Pm.C09

def Clean (s : Str) : Prop := ∀ c ∈ s, isWs c = false

theorem Clean.nil : Clean [] := by intro c h; cases h

theorem Clean.append {s t : Str} (hs : Clean s) (ht : Clean t) : Clean (s ++ t) := by
  intro c h; rcases List.mem_append.mp h with h | h
  · exact hs c h
  · exact ht c h

theorem Clean.reverse {s : Str} (hs : Clean s) : Clean s.reverse := by
  intro c h; exact hs c (List.mem_reverse.mp h)

theorem isWs_space : isWs ' ' = true := by decide

theorem dropWhile_isWs_clean {s : Str} (hs : Clean s) : s.dropWhile isWs = s := by
  cases s with
  | nil => rfl
  | cons c t => simp [List.dropWhile_cons, hs c (List.mem_cons_self ..)]

theorem lstrip_spaces_append (k : Nat) (s : Str) : lstrip (spaces k ++ s) = lstrip s := by
  induction k with
  | zero => simp [spaces]
  | succ k ih =>
    simp only [spaces, List.replicate_succ, List.cons_append, lstrip, List.dropWhile_cons, isWs_space, if_true] at ih ⊢
    exact ih

theorem lstrip_clean {s : Str} (hs : Clean s) : lstrip s = s := dropWhile_isWs_clean hs

theorem rstrip_append_spaces (k : Nat) (s : Str) : rstrip (s ++ spaces k) = rstrip s := by
  unfold rstrip
  have : (s ++ spaces k).reverse = spaces k ++ s.reverse := by simp [spaces]
  rw [this]
  have := lstrip_spaces_append k s.reverse
  unfold lstrip at this
  rw [this]

theorem rstrip_clean {s : Str} (hs : Clean s) : rstrip s = s := by
  unfold rstrip; rw [dropWhile_isWs_clean hs.reverse]; simp

theorem strip_clean {s : Str} (hs : Clean s) : strip s = s := by
  unfold strip; rw [lstrip_clean hs, rstrip_clean hs]

theorem strip_ljust {s : Str} (hs : Clean s) (w : Nat) : strip (ljust w s) = s := by
  unfold strip ljust
  cases s with
  | nil =>
    have h := lstrip_spaces_append (w - 0) []
    simp only [List.append_nil, List.nil_append, List.length_nil] at h ⊢
    rw [h]; rfl
  | cons c t =>
    have hc : isWs c = false := hs c (List.mem_cons_self ..)
    have : lstrip (c :: t ++ spaces (w - (c :: t).length)) = c :: t ++ spaces (w - (c :: t).length) := by
      simp [lstrip, List.dropWhile_cons, hc]
    rw [this, rstrip_append_spaces, rstrip_clean hs]

theorem strip_rjust {s : Str} (hs : Clean s) (w : Nat) : strip (rjust w s) = s := by
  unfold strip rjust
  rw [lstrip_spaces_append, lstrip_clean hs, rstrip_clean hs]

theorem strip_spaces (k : Nat) : strip (spaces k) = [] := by
  have := strip_ljust Clean.nil k
  simpa [ljust] using this

theorem length_ljust (w : Nat) (s : Str) (h : s.length ≤ w) : (ljust w s).length = w := by
  simp [ljust, spaces]; omega

theorem length_rjust (w : Nat) (s : Str) (h : s.length ≤ w) : (rjust w s).length = w := by
  simp [rjust, spaces]; omega

theorem digitVal_digitChar (d : Nat) (h : d < 10) : digitVal? (digitChar d) = some d := by
  interval_cases d <;> decide

theorem digitChar_not_ws (d : Nat) (h : d < 10) : isWs (digitChar d) = false := by
  interval_cases d <;> decide

theorem digitChar_ne (d : Nat) (h : d < 10) :
    digitChar d ≠ '-' ∧ digitChar d ≠ '+' ∧ digitChar d ≠ '.' ∧ digitChar d ≠ '\n' := by
  interval_cases d <;> decide

theorem digitChar_ne_dq (d : Nat) (h : d < 10) : digitChar d ≠ '"' := by
  interval_cases d <;> decide

def IsDigit (c : Char) : Prop := ∃ d, d < 10 ∧ c = digitChar d

theorem showNatAux_digits (f n : Nat) : ∀ c ∈ showNatAux f n, IsDigit c := by
  induction f generalizing n with
  | zero => intro c h; simp [showNatAux] at h; exact ⟨n % 10, by omega, h⟩
  | succ f ih =>
    intro c h
    unfold showNatAux at h
    split at h
    · simp at h; exact ⟨n, by omega, h⟩
    · rcases List.mem_append.mp h with h | h
      · exact ih _ c h
      · simp at h; exact ⟨n % 10, by omega, h⟩

theorem showNat_digits (n : Nat) : ∀ c ∈ showNat n, IsDigit c := showNatAux_digits n n

theorem showNatAux_ne_nil (f n : Nat) : showNatAux f n ≠ [] := by
  cases f with
  | zero => simp [showNatAux]
  | succ f => unfold showNatAux; split <;> simp

theorem dq_not_mem_showNat (n : Nat) : '"' ∉ showNat n := fun hm => by
  obtain ⟨d, hd, e⟩ := showNat_digits n _ hm
  exact digitChar_ne_dq d hd e.symm

theorem showNat_ne_nil (n : Nat) : showNat n ≠ [] := showNatAux_ne_nil n n

theorem parseNatAux_snoc (s : Str) (c : Char) (acc : Nat) :
    parseNatAux (s ++ [c]) acc =
      (parseNatAux s acc).bind (fun v => (digitVal? c).map (fun d => v * 10 + d)) := by
  induction s generalizing acc with
  | nil => simp [parseNatAux]; cases digitVal? c <;> simp [parseNatAux]
  | cons x xs ih =>
    simp only [List.cons_append, parseNatAux]
    cases digitVal? x with
    | none => simp
    | some d => exact ih _

theorem parseNatAux_showNatAux (f n : Nat) (h : n ≤ f) : parseNatAux (showNatAux f n) 0 = some n := by
  induction f generalizing n with
  | zero =>
    have : n = 0 := by omega
    subst this; decide
  | succ f ih =>
    unfold showNatAux
    split
    · rename_i h10
      simp [parseNatAux, digitVal_digitChar n h10]
    · rename_i h10
      rw [parseNatAux_snoc, ih (n / 10) (by omega), digitVal_digitChar _ (by omega)]
      simp; omega

theorem showNat_isEmpty (n : Nat) : (showNat n).isEmpty = false := by
  cases h : showNat n with
  | nil => exact absurd h (showNat_ne_nil n)
  | cons c t => rfl

theorem parseNat_showNat (n : Nat) : parseNat (showNat n) = some n := by
  unfold parseNat
  rw [showNat_isEmpty]
  exact parseNatAux_showNatAux n n (Nat.le_refl _)

theorem showNat_head (n : Nat) : ∃ c t, showNat n = c :: t ∧ IsDigit c := by
  cases h : showNat n with
  | nil => exact absurd h (showNat_ne_nil n)
  | cons c t => exact ⟨c, t, rfl, showNat_digits n c (by rw [h]; exact List.mem_cons_self ..)⟩

theorem parseInt_showNat (n : Nat) : parseInt (showNat n) = some (n : Int) := by
  obtain ⟨c, t, h, d, hd, hc⟩ := showNat_head n
  have hne := digitChar_ne d hd
  have hp := parseNat_showNat n
  rw [h] at hp ⊢
  unfold parseInt
  split
  · rename_i r heq; injection heq with h1 _; exact absurd (hc ▸ h1) hne.1
  · rename_i r heq; injection heq with h1 _; exact absurd (hc ▸ h1) hne.2.1
  · simp [hp]

theorem parseInt_showInt (i : Int) : parseInt (showInt i) = some i := by
  unfold showInt
  split
  · rename_i hneg
    have h := Int.natAbs_of_nonneg (a := -i) (by omega)
    rw [Int.natAbs_neg] at h
    simp [parseInt, parseNat_showNat, h]
  · rename_i hneg
    rw [parseInt_showNat]; congr 1; exact Int.natAbs_of_nonneg (by omega)

theorem isDigit_clean {s : Str} (h : ∀ c ∈ s, IsDigit c) : Clean s := by
  intro c hc; obtain ⟨d, hd, rfl⟩ := h c hc; exact digitChar_not_ws d hd

theorem showInt_clean (i : Int) : Clean (showInt i) := by
  unfold showInt; split
  · intro c hc
    rcases List.mem_cons.mp hc with h | h
    · subst h; decide
    · exact isDigit_clean (showNat_digits _) c h
  · exact isDigit_clean (showNat_digits _)

theorem intCell_showInt_rjust (i : Int) (w : Nat) : intCell (rjust w (showInt i)) = some i := by
  unfold intCell
  simp only [strip_rjust (showInt_clean i)]
  have : (showInt i == ['.']) = false := by
    unfold showInt; split
    · simp
    · obtain ⟨c, t, h, d, hd, hc⟩ := showNat_head i.natAbs
      rw [h]; have := (digitChar_ne d hd).2.2.1
      simp; intro e; exact absurd (hc ▸ e) this
  simp [this, parseInt_showInt]

def DecOk (d : Dec) : Prop := ∀ x ∈ d.frac, x < 10

theorem parseDigits_map (l : List Nat) (h : ∀ x ∈ l, x < 10) : parseDigits (l.map digitChar) = some l := by
  induction l with
  | nil => rfl
  | cons x xs ih =>
    simp only [List.map_cons, parseDigits, digitVal_digitChar x (h x (List.mem_cons_self ..)),
      ih (fun y hy => h y (List.mem_cons_of_mem _ hy))]

theorem takeWhile_digits (s rest : Str) (h : ∀ c ∈ s, IsDigit c) :
    (s ++ '.' :: rest).takeWhile (· ≠ '.') = s ∧ (s ++ '.' :: rest).dropWhile (· ≠ '.') = '.' :: rest := by
  induction s with
  | nil => simp
  | cons c t ih =>
    obtain ⟨d, hd, hc⟩ := h c (List.mem_cons_self ..)
    have hne : c ≠ '.' := hc ▸ (digitChar_ne d hd).2.2.1
    have := ih (fun x hx => h x (List.mem_cons_of_mem _ hx))
    have hd' : decide (c ≠ '.') = true := by simp [hne]
    simp only [List.cons_append, List.takeWhile_cons, List.dropWhile_cons, hd', if_true]
    exact ⟨by rw [this.1], this.2⟩

/-- `parseDec` once the sign has been taken off -/
def parseUnsigned (neg : Bool) (r : Str) : Option Dec :=
  match r.dropWhile (· ≠ '.') with
  | [] => (parseNat (r.takeWhile (· ≠ '.'))).map (fun n => ⟨neg, n, []⟩)
  | _ :: fpS =>
    if (r.takeWhile (· ≠ '.')).isEmpty && fpS.isEmpty then none else
    match (if (r.takeWhile (· ≠ '.')).isEmpty then some 0 else parseNat (r.takeWhile (· ≠ '.'))), parseDigits fpS with
    | some n, some ds => some ⟨neg, n, ds⟩
    | _, _ => none

theorem parseDec_minus (r : Str) : parseDec ('-' :: r) = parseUnsigned true r := rfl

theorem parseDec_of_no_sign (c : Char) (r : Str) (h1 : c ≠ '-') (h2 : c ≠ '+') :
    parseDec (c :: r) = parseUnsigned false (c :: r) := by
  unfold parseDec parseUnsigned
  split
  · rename_i heq
    split at heq
    · rename_i r' hh; injection hh with e _; exact absurd e h1
    · rename_i r' hh; injection hh with e _; exact absurd e h2
    · injection heq with e1 e2; subst e1; subst e2; rfl

theorem parseUnsigned_show (ip : Nat) (frac : List Nat) (h : ∀ x ∈ frac, x < 10) (neg : Bool) :
    parseUnsigned neg (showNat ip ++ '.' :: frac.map digitChar) = some ⟨neg, ip, frac⟩ := by
  obtain ⟨h1, h2⟩ := takeWhile_digits (showNat ip) (frac.map digitChar) (showNat_digits ip)
  unfold parseUnsigned
  rw [h1, h2]
  simp [showNat_isEmpty, parseNat_showNat, parseDigits_map frac h]

theorem parseDec_showDec (d : Dec) (h : DecOk d) : parseDec (showDec d) = some d := by
  obtain ⟨neg, ip, frac⟩ := d
  unfold showDec
  cases neg with
  | true =>
    simp only [if_true, List.append_assoc, List.cons_append, List.nil_append]
    rw [parseDec_minus]
    exact parseUnsigned_show ip frac h true
  | false =>
    simp only [Bool.false_eq_true, if_false, List.append_assoc, List.singleton_append, List.nil_append]
    obtain ⟨c, t, hs, dg, hd, hc⟩ := showNat_head ip
    have hne := digitChar_ne dg hd
    have key := parseUnsigned_show ip frac h false
    rw [hs] at key ⊢
    rw [List.cons_append, parseDec_of_no_sign c _ (hc ▸ hne.1) (hc ▸ hne.2.1)]
    exact key

theorem showDec_clean (d : Dec) (h : DecOk d) : Clean (showDec d) := by
  unfold showDec
  refine Clean.append (Clean.append (Clean.append ?_ (isDigit_clean (showNat_digits _))) ?_) ?_
  · split
    · intro c hc; simp at hc; subst hc; decide
    · exact Clean.nil
  · intro c hc; simp at hc; subst hc; decide
  · intro c hc
    obtain ⟨x, hx, rfl⟩ := List.mem_map.mp hc
    exact digitChar_not_ws x (h x hx)

theorem length_splice (l s : Str) (lo hi : Nat) (h1 : lo ≤ hi) (h2 : hi ≤ l.length)
    (hs : s.length = hi - lo) : (splice l lo hi s).length = l.length := by
  unfold splice
  rw [List.length_append, List.length_append, List.length_take, List.length_drop, hs]; omega

theorem slice_full (s : Str) (n : Nat) (h : s.length ≤ n) : slice s 0 n = s := by
  simp [slice, List.take_of_length_le h]

theorem slice_append_left (p q : Str) (a b : Nat) (hb : b ≤ p.length) : slice (p ++ q) a b = slice p a b := by
  unfold slice
  rw [List.drop_append, List.take_append_of_le_length (by rw [List.length_drop]; omega)]

theorem slice_append_right (p q : Str) (a b : Nat) (ha : p.length ≤ a) :
    slice (p ++ q) a b = slice q (a - p.length) (b - p.length) := by
  unfold slice
  rw [List.drop_append, List.drop_eq_nil_iff.mpr ha, List.nil_append]
  congr 1; omega

theorem slice_splice_inside (l s : Str) (lo hi a b : Nat) (h1 : lo ≤ hi) (h2 : hi ≤ l.length)
    (hs : s.length = hi - lo) (ha : lo ≤ a) (hab : a ≤ b) (hb : b ≤ hi) :
    slice (splice l lo hi s) a b = slice s (a - lo) (b - lo) := by
  have hl : (l.take lo).length = lo := List.length_take_of_le (by omega)
  unfold splice
  rw [List.append_assoc, slice_append_right _ _ a b (by omega), hl, slice_append_left _ _ _ _ (by omega)]

theorem slice_splice_disjoint (l s : Str) (lo hi a b : Nat) (h1 : lo ≤ hi) (h2 : hi ≤ l.length)
    (hs : s.length = hi - lo) (hab : a ≤ b) (hd : b ≤ lo ∨ hi ≤ a) :
    slice (splice l lo hi s) a b = slice l a b := by
  have hl : ∀ k, k ≤ l.length → (l.take k).length = k := fun k hk => List.length_take_of_le hk
  unfold splice
  rcases hd with hd | hd
  · -- both sides are the slice of `l.take lo`
    rw [List.append_assoc, slice_append_left _ _ a b (by rw [hl lo (by omega)]; exact hd)]
    conv_rhs => rw [← List.take_append_drop lo l, slice_append_left _ _ a b (by rw [hl lo (by omega)]; exact hd)]
  · -- both sides are the slice of `l.drop hi`
    have e : (l.take lo ++ s).length = hi := by rw [List.length_append, hl lo (by omega), hs]; omega
    rw [slice_append_right _ _ a b (by omega), e]
    conv_rhs => rw [← List.take_append_drop hi l, slice_append_right _ _ a b (by rw [hl hi h2]; exact hd), hl hi h2]

def ColsOk (W : Nat) (txt : F → Str) (cols : List Col) : Prop :=
  ∀ c ∈ cols, c.lo ≤ c.hi ∧ c.hi ≤ W ∧ (txt c.f).length = c.hi - c.lo

def Disjoint (c d : Col) : Prop := c.hi ≤ d.lo ∨ d.hi ≤ c.lo

instance : DecidableRel Disjoint := fun c d => by unfold Disjoint; infer_instance

theorem writeCols_cons (c : Col) (cs : List Col) (txt : F → Str) (line : Str) :
    writeCols (c :: cs) txt line = writeCols cs txt (splice line c.lo c.hi (txt c.f)) := rfl

theorem length_writeCols (cols : List Col) (txt : F → Str) (line : Str)
    (h : ColsOk line.length txt cols) : (writeCols cols txt line).length = line.length := by
  induction cols generalizing line with
  | nil => rfl
  | cons c cs ih =>
    obtain ⟨h1, h2, h3⟩ := h c (List.mem_cons_self ..)
    have hl := length_splice line (txt c.f) c.lo c.hi h1 h2 h3
    rw [writeCols_cons, ih _ (by rw [hl]; exact fun d hd => h d (List.mem_cons_of_mem _ hd)), hl]

theorem slice_writeCols_disjoint (cols : List Col) (txt : F → Str) (line : Str) (a b : Nat)
    (h : ColsOk line.length txt cols) (hab : a ≤ b) (hd : ∀ c ∈ cols, b ≤ c.lo ∨ c.hi ≤ a) :
    slice (writeCols cols txt line) a b = slice line a b := by
  induction cols generalizing line with
  | nil => rfl
  | cons c cs ih =>
    obtain ⟨h1, h2, h3⟩ := h c (List.mem_cons_self ..)
    have hl := length_splice line (txt c.f) c.lo c.hi h1 h2 h3
    rw [writeCols_cons, ih _ (by rw [hl]; exact fun d hd => h d (List.mem_cons_of_mem _ hd))
      (fun d hd' => hd d (List.mem_cons_of_mem _ hd'))]
    exact slice_splice_disjoint _ _ _ _ _ _ h1 h2 h3 hab (hd c (List.mem_cons_self ..))

/-- **any** table of pairwise disjoint columns round-trips: a slice inside a written column
reads back that part of the text written there, whatever was written elsewhere -/
theorem slice_writeCols_mem (cols : List Col) (txt : F → Str) (line : Str) (wc : Col) (a b : Nat)
    (h : ColsOk line.length txt cols) (hp : cols.Pairwise Disjoint) (hm : wc ∈ cols)
    (ha : wc.lo ≤ a) (hab : a ≤ b) (hb : b ≤ wc.hi) :
    slice (writeCols cols txt line) a b = slice (txt wc.f) (a - wc.lo) (b - wc.lo) := by
  induction cols generalizing line with
  | nil => cases hm
  | cons c cs ih =>
    obtain ⟨h1, h2, h3⟩ := h c (List.mem_cons_self ..)
    have hl := length_splice line (txt c.f) c.lo c.hi h1 h2 h3
    have hcs : ColsOk (splice line c.lo c.hi (txt c.f)).length txt cs := by
      rw [hl]; exact fun d hd => h d (List.mem_cons_of_mem _ hd)
    rw [writeCols_cons]
    rcases List.mem_cons.mp hm with rfl | hm'
    · rw [slice_writeCols_disjoint cs txt _ a b hcs hab]
      · exact slice_splice_inside _ _ _ _ _ _ h1 h2 h3 ha hab hb
      · intro d hd
        rcases (List.pairwise_cons.mp hp).1 d hd with hh | hh
        · left; omega
        · right; omega
    · exact ih _ hcs (List.pairwise_cons.mp hp).2 hm'

theorem mem_splice {l s : Str} {lo hi : Nat} {c : Char} (h : c ∈ splice l lo hi s) : c ∈ l ∨ c ∈ s := by
  unfold splice at h
  rcases List.mem_append.mp h with h | h
  · rcases List.mem_append.mp h with h | h
    · exact Or.inl (List.mem_of_mem_take h)
    · exact Or.inr h
  · exact Or.inl (List.mem_of_mem_drop h)

theorem mem_writeCols {cols : List Col} {txt : F → Str} {line : Str} {c : Char}
    (h : c ∈ writeCols cols txt line) : c ∈ line ∨ ∃ col ∈ cols, c ∈ txt col.f := by
  induction cols generalizing line with
  | nil => exact Or.inl h
  | cons d ds ih =>
    rw [writeCols_cons] at h
    rcases ih h with h | ⟨col, hc, hm⟩
    · rcases mem_splice h with h | h
      · exact Or.inl h
      · exact Or.inr ⟨d, List.mem_cons_self .., h⟩
    · exact Or.inr ⟨col, List.mem_cons_of_mem _ hc, hm⟩

theorem mapM_map_some {α β γ : Type} (l : List α) (r : α → β) (f : β → Option γ) (g : α → γ)
    (h : ∀ x ∈ l, f (r x) = some (g x)) : (l.map r).mapM f = some (l.map g) := by
  induction l with
  | nil => rfl
  | cons x xs ih =>
    simp only [List.map_cons, List.mapM_cons, h x (List.mem_cons_self ..),
      ih (fun y hy => h y (List.mem_cons_of_mem _ hy))]
    rfl

theorem floatColumn_map {α : Type} (l : List α) (r : α → Str) (g : α → Dec)
    (h : ∀ x ∈ l, parseDec (strip (r x)) = some (g x)) : floatColumn (l.map r) = l.map g := by
  unfold floatColumn
  rw [mapM_map_some l r (fun s => parseDec (strip s)) g h]

theorem splitOnAux_append (c : Char) (s rest cur : Str) (h : c ∉ s) :
    splitOnAux c (s ++ rest) cur = splitOnAux c rest (s.reverse ++ cur) := by
  induction s generalizing cur with
  | nil => rfl
  | cons x xs ih =>
    have hx : x ≠ c := fun e => h (e ▸ List.mem_cons_self ..)
    simp only [List.cons_append, splitOnAux, hx, if_false]
    rw [ih _ (fun hm => h (List.mem_cons_of_mem _ hm))]
    simp

/-- `"\n".join(lines).split("\n") = lines` when no line contains a newline -/
theorem splitOn_joinWith (c : Char) (ls : List Str) (hne : ls ≠ []) (h : ∀ l ∈ ls, c ∉ l) :
    splitOn c (joinWith [c] ls) = ls := by
  unfold splitOn
  induction ls with
  | nil => exact absurd rfl hne
  | cons a rest ih =>
    cases rest with
    | nil =>
      have := splitOnAux_append c a [] [] (h a (List.mem_cons_self ..))
      simp only [List.append_nil] at this
      simp [joinWith, this, splitOnAux]
    | cons b rest' =>
      have ih' := ih (by simp) (fun l hl => h l (List.mem_cons_of_mem _ hl))
      simp only [joinWith, List.append_assoc]
      rw [splitOnAux_append c a _ [] (h a (List.mem_cons_self ..))]
      simp only [List.append_nil, List.singleton_append, splitOnAux, if_true, List.reverse_reverse]
      rw [ih']

/-- a value that survives the loop syntax: no white space, no double quote -/
def TokOk (v : Str) : Prop := Clean v ∧ '"' ∉ v

/-- what is read back for a written value: the empty string becomes the placeholder "." -/
def tok (v : Str) : Str := if v.isEmpty then ['.'] else v

theorem removeDq_of_not_mem {v : Str} (h : '"' ∉ v) : removeDq v = v := by
  unfold removeDq
  rw [List.filter_eq_self]
  intro c hc
  have : c ≠ '"' := fun e => h (e ▸ hc)
  simp [this]

theorem removeDq_append (a b : Str) : removeDq (a ++ b) = removeDq a ++ removeDq b := by
  simp [removeDq]

theorem removeDq_spaces (k : Nat) : removeDq (spaces k) = spaces k :=
  removeDq_of_not_mem (by simp [spaces])

theorem contains_space_clean {v : Str} (h : Clean v) : v.contains ' ' = false := by
  cases hc : v.contains ' ' with
  | false => rfl
  | true =>
    have hm : ' ' ∈ v := by simpa using hc
    have := h _ hm
    simp [isWs] at this

theorem removeDq_formatString {v : Str} (h : TokOk v) : removeDq (formatString v) = tok v := by
  unfold formatString tok
  rw [strip_clean h.1, contains_space_clean h.1]
  cases v with
  | nil => rfl
  | cons c t =>
    simp only [List.isEmpty_cons, Bool.false_eq_true, if_false]
    split
    · have : removeDq ('"' :: (c :: t ++ ['"'])) = removeDq (c :: t) := by
        have e : '"' :: (c :: t ++ ['"']) = ['"'] ++ (c :: t) ++ ['"'] := by simp
        rw [e, removeDq_append, removeDq_append]
        simp [removeDq]
      rw [this, removeDq_of_not_mem h.2]
    · exact removeDq_of_not_mem h.2

theorem tok_ne_nil (v : Str) : tok v ≠ [] := by
  unfold tok; cases v <;> simp

theorem tok_ok {v : Str} (h : TokOk v) : TokOk (tok v) := by
  unfold tok; cases v with
  | nil => exact ⟨by intro c hc; simp at hc; subst hc; decide, by simp⟩
  | cons c t => exact h

theorem formatString_length_pos {v : Str} : 0 < (formatString v).length := by
  unfold formatString
  split
  · exact Nat.succ_pos _
  · split
    · exact Nat.succ_pos _
    · split
      · exact Nat.succ_pos _
      · rename_i h _ _
        cases v with
        | nil => exact absurd rfl h
        | cons _ _ => exact Nat.succ_pos _

/-- a loop row as the writer lays it out: every token followed by its `k` blanks -/
def rowOf : List (Str × Nat) → Str
  | [] => []
  | (t, k) :: rest => t ++ spaces k ++ rowOf rest

theorem splitWsAux_clean (t rest cur : Str) (h : Clean t) :
    splitWsAux (t ++ rest) cur = splitWsAux rest (t.reverse ++ cur) := by
  induction t generalizing cur with
  | nil => rfl
  | cons x xs ih =>
    have hx : isWs x = false := h x (List.mem_cons_self ..)
    simp only [List.cons_append, splitWsAux, hx, Bool.false_eq_true, if_false]
    rw [ih _ (fun c hc => h c (List.mem_cons_of_mem _ hc))]
    simp

theorem splitWsAux_spaces (k : Nat) (rest : Str) : splitWsAux (spaces k ++ rest) [] = splitWsAux rest [] := by
  induction k with
  | zero => rfl
  | succ k ih =>
    simp only [spaces, List.replicate_succ, List.cons_append, splitWsAux, isWs_space, if_true,
      List.isEmpty_nil] at ih ⊢
    exact ih

theorem splitWs_token (t rest : Str) (k : Nat) (h : Clean t) (hne : t ≠ []) :
    splitWsAux (t ++ spaces (k + 1) ++ rest) [] = t :: splitWsAux rest [] := by
  rw [List.append_assoc, splitWsAux_clean _ _ _ h]
  have hne' : (t.reverse ++ ([] : Str)).isEmpty = false := by
    cases t with
    | nil => exact absurd rfl hne
    | cons _ _ => simp
  simp only [spaces, List.replicate_succ, List.cons_append, splitWsAux, isWs_space, if_true, hne',
    Bool.false_eq_true, if_false]
  have := splitWsAux_spaces k rest
  simp only [spaces] at this
  rw [this]; simp

theorem splitWs_rowOf (cells : List (Str × Nat)) (h : ∀ c ∈ cells, Clean c.1 ∧ c.1 ≠ [] ∧ 1 ≤ c.2) :
    splitWs (rowOf cells) = cells.map (·.1) := by
  unfold splitWs
  induction cells with
  | nil => rfl
  | cons c rest ih =>
    obtain ⟨t, k⟩ := c
    obtain ⟨h1, h2, h3⟩ := h (t, k) (List.mem_cons_self ..)
    obtain ⟨k', rfl⟩ : ∃ k', k = k' + 1 := ⟨k - 1, by simp only at h3; omega⟩
    simp only [rowOf, List.map_cons]
    rw [splitWs_token t _ k' h1 h2, ih (fun d hd => h d (List.mem_cons_of_mem _ hd))]

theorem splitQuotedAux_tok (t rest cur : Str) (h : TokOk t) :
    splitQuotedAux (t ++ rest) cur false = splitQuotedAux rest (t.reverse ++ cur) false := by
  induction t generalizing cur with
  | nil => rfl
  | cons x xs ih =>
    have hx : x ≠ ' ' := fun e => by have := h.1 x (List.mem_cons_self ..); rw [e] at this; simp [isWs] at this
    have hq : x ≠ '"' := fun e => h.2 (e ▸ List.mem_cons_self ..)
    simp only [List.cons_append, splitQuotedAux, hx, hq, false_and, if_false]
    rw [ih _ ⟨fun c hc => h.1 c (List.mem_cons_of_mem _ hc), fun hm => h.2 (List.mem_cons_of_mem _ hm)⟩]
    simp

theorem splitQuotedAux_spaces (k : Nat) (rest : Str) :
    splitQuotedAux (spaces k ++ rest) [] false = splitQuotedAux rest [] false := by
  induction k with
  | zero => rfl
  | succ k ih =>
    simp only [spaces, List.replicate_succ, List.cons_append, splitQuotedAux, Bool.not_false, and_self,
      if_true, List.isEmpty_nil] at ih ⊢
    exact ih

theorem splitQuoted_token (t rest : Str) (k : Nat) (h : TokOk t) (hne : t ≠ []) :
    splitQuotedAux (t ++ spaces (k + 1) ++ rest) [] false = t :: splitQuotedAux rest [] false := by
  rw [List.append_assoc, splitQuotedAux_tok _ _ _ h]
  have hne' : (t.reverse ++ ([] : Str)).isEmpty = false := by
    cases t with
    | nil => exact absurd rfl hne
    | cons _ _ => simp
  simp only [spaces, List.replicate_succ, List.cons_append, splitQuotedAux, Bool.not_false, and_self,
    if_true, hne', Bool.false_eq_true, if_false]
  have := splitQuotedAux_spaces k rest
  simp only [spaces] at this
  rw [this]; simp

theorem splitQuoted_last (t : Str) (h : TokOk t) (hne : t ≠ []) :
    splitQuotedAux t [] false = [t] := by
  have := splitQuotedAux_tok t [] [] h
  simp only [List.append_nil] at this
  rw [this]
  cases t with
  | nil => exact absurd rfl hne
  | cons _ _ => simp [splitQuotedAux]

/-- rows without their final blanks -/
def rowBody : List (Str × Nat) → Str
  | [] => []
  | [(t, _)] => t
  | (t, k) :: rest => t ++ spaces k ++ rowBody rest

theorem splitQuoted_rowBody (cells : List (Str × Nat)) (h : ∀ c ∈ cells, TokOk c.1 ∧ c.1 ≠ [] ∧ 1 ≤ c.2) :
    splitQuotedAux (rowBody cells) [] false = cells.map (·.1) := by
  induction cells with
  | nil => rfl
  | cons c rest ih =>
    obtain ⟨t, k⟩ := c
    obtain ⟨h1, h2, h3⟩ := h (t, k) (List.mem_cons_self ..)
    cases rest with
    | nil => simp only [rowBody, List.map_cons, List.map_nil]; exact splitQuoted_last t h1 h2
    | cons d rest' =>
      obtain ⟨k', rfl⟩ : ∃ k', k = k' + 1 := ⟨k - 1, by simp only at h3; omega⟩
      simp only [rowBody, List.map_cons]
      rw [splitQuoted_token t _ k' h1 h2]
      have := ih (fun e he => h e (List.mem_cons_of_mem _ he))
      simp only [List.map_cons] at this
      rw [this]

theorem rstrip_append_of_ne (a b : Str) (h : rstrip b ≠ []) : rstrip (a ++ b) = a ++ rstrip b := by
  unfold rstrip at h ⊢
  have hb : (b.reverse.dropWhile isWs).isEmpty = false := by
    cases e : b.reverse.dropWhile isWs with
    | nil => rw [e] at h; exact absurd rfl h
    | cons _ _ => rfl
  rw [List.reverse_append, List.dropWhile_append, hb]
  simp

theorem rstrip_rowOf (cells : List (Str × Nat)) (hne : cells ≠ [])
    (h : ∀ c ∈ cells, TokOk c.1 ∧ c.1 ≠ [] ∧ 1 ≤ c.2) : rstrip (rowOf cells) = rowBody cells ∧ rowBody cells ≠ [] := by
  induction cells with
  | nil => exact absurd rfl hne
  | cons c rest ih =>
    obtain ⟨t, k⟩ := c
    obtain ⟨h1, h2, -⟩ := h (t, k) (List.mem_cons_self ..)
    cases rest with
    | nil =>
      simp only [rowOf, rowBody, List.append_nil]
      exact ⟨by rw [rstrip_append_spaces, rstrip_clean h1.1], h2⟩
    | cons d rest' =>
      obtain ⟨e, hn⟩ := ih (by simp) (fun x hx => h x (List.mem_cons_of_mem _ hx))
      simp only [rowOf, rowBody] at e ⊢
      rw [rstrip_append_of_ne _ _ (by rw [e]; exact hn), e]
      exact ⟨rfl, by simp [h2]⟩

theorem strip_rowOf (cells : List (Str × Nat)) (hne : cells ≠ [])
    (h : ∀ c ∈ cells, TokOk c.1 ∧ c.1 ≠ [] ∧ 1 ≤ c.2) : strip (rowOf cells) = rowBody cells := by
  obtain ⟨⟨t, k⟩, rest, rfl⟩ := List.exists_cons_of_ne_nil hne
  obtain ⟨h1, h2, -⟩ := h (t, k) (List.mem_cons_self ..)
  obtain ⟨c, u, rfl⟩ := List.exists_cons_of_ne_nil h2
  have hl : lstrip (rowOf ((c :: u, k) :: rest)) = rowOf ((c :: u, k) :: rest) := by
    simp [rowOf, lstrip, h1.1 c (List.mem_cons_self ..)]
  unfold strip
  rw [hl]
  exact (rstrip_rowOf _ hne h).1

/-- **both branches of `_split_line`** return exactly the tokens of a written row -/
theorem splitLine_rowOf (cells : List (Str × Nat)) (h : ∀ c ∈ cells, TokOk c.1 ∧ c.1 ≠ [] ∧ 1 ≤ c.2) :
    splitLine (rowOf cells) = cells.map (·.1) := by
  unfold splitLine
  split
  · by_cases hne : cells = []
    · subst hne; rfl
    · rw [strip_rowOf cells hne h, splitQuoted_rowBody cells h]
  · exact splitWs_rowOf cells (fun c hc => ⟨(h c hc).1.1, (h c hc).2⟩)

theorem length_le_maxLen {l : List Str} {s : Str} (h : s ∈ l) : s.length ≤ maxLen l := by
  induction l with
  | nil => cases h
  | cons x xs ih =>
    simp only [maxLen]
    rcases List.mem_cons.mp h with rfl | h
    · omega
    · have := ih h; omega

theorem removeDq_rowOf (cells : List (Str × Nat)) :
    removeDq (rowOf cells) = rowOf (cells.map (fun c => (removeDq c.1, c.2))) := by
  induction cells with
  | nil => rfl
  | cons c rest ih =>
    obtain ⟨t, k⟩ := c
    simp only [rowOf, List.map_cons, removeDq_append, removeDq_spaces, ih]

theorem flatten_ljust (cols : List (List Str)) (g : List Str → Str) (W : List Str → Nat) :
    (cols.map (fun c => ljust (W c) (g c))).flatten = rowOf (cols.map (fun c => (g c, W c - (g c).length))) := by
  induction cols with
  | nil => rfl
  | cons c rest ih =>
    simp only [List.map_cons, List.flatten_cons, rowOf]
    rw [ih]; rfl

/-- row `i` of the padded columns, for `i` inside every column, is the row the writer lays out -/
theorem padded_row (cols : List (List Str)) (i : Nat) (hi : ∀ c ∈ cols, i < c.length) :
    ((List.map (fun c => List.map (ljust (maxLen c + 1)) c) (List.map (fun x => List.map formatString x) cols)).map
      (fun c => c.getD i [])).flatten =
    rowOf (cols.map (fun c => (formatString (c.getD i []),
      maxLen (c.map formatString) + 1 - (formatString (c.getD i [])).length))) := by
  rw [← flatten_ljust cols (fun c => formatString (c.getD i [])) (fun c => maxLen (c.map formatString) + 1)]
  congr 1
  simp only [List.map_map]
  apply List.map_congr_left
  intro c hc
  have := hi c hc
  simp [List.getD_eq_getElem?_getD, this]

theorem mem_loopRows {cols : List (List Str)} {line : Str} (h : line ∈ loopRows cols) :
    ∃ i, (∀ c ∈ cols, i < c.length) ∧
      line = rowOf (cols.map (fun c => (formatString (c.getD i []),
        maxLen (c.map formatString) + 1 - (formatString (c.getD i [])).length))) := by
  unfold loopRows at h
  simp only [List.mem_map, List.mem_range] at h
  obtain ⟨i, hi, rfl⟩ := h
  have hlen : ∀ c ∈ cols, i < c.length := by
    intro c hc
    cases hcols : cols with
    | nil => rw [hcols] at hc; cases hc
    | cons c0 rest =>
      rw [hcols] at hi hc
      simp only [List.map_cons, List.map_map, List.length_map] at hi
      have hi' : i < List.foldl min c0.length (rest.map List.length) := by
        have e : (List.map (List.length ∘ (fun c => List.map (ljust (maxLen c + 1)) c) ∘ fun x => List.map formatString x) rest)
            = rest.map List.length := by
          apply List.map_congr_left; intro c _; simp
        rw [e] at hi; exact hi
      have := foldl_min_le_mem c0.length _ c.length (List.mem_map_of_mem (f := List.length) hc)
      omega
  exact ⟨i, hlen, padded_row cols i hlen⟩

theorem showNatAux_length (f n k : Nat) (hk : 1 ≤ k) (h : n < 10 ^ k) : (showNatAux f n).length ≤ k := by
  induction f generalizing n k with
  | zero => simp [showNatAux]; omega
  | succ f ih =>
    unfold showNatAux
    split
    · simp; omega
    · rename_i h10
      have hk2 : 2 ≤ k := by
        rcases Nat.lt_or_ge k 2 with hlt | hge
        · have : k = 1 := by omega
          subst this; simp at h; omega
        · exact hge
      obtain ⟨k', rfl⟩ : ∃ k', k = k' + 1 := ⟨k - 1, by omega⟩
      have : n / 10 < 10 ^ k' := by
        rw [Nat.div_lt_iff_lt_mul (by decide)]; rw [Nat.pow_succ] at h; exact h
      have := ih (n / 10) k' (by omega) this
      simp; omega

theorem showNat_length (n k : Nat) (hk : 1 ≤ k) (h : n < 10 ^ k) : (showNat n).length ≤ k :=
  showNatAux_length n n k hk h

/-- `str(i)` has at most `k + 1` characters when `i` has at most `k` digits below zero, `k + 1` from zero on -/
theorem showInt_length (i : Int) (k : Nat) (hk : 1 ≤ k) (hn : i < 0 → i.natAbs < 10 ^ k)
    (hp : 0 ≤ i → i.natAbs < 10 ^ (k + 1)) : (showInt i).length ≤ k + 1 := by
  unfold showInt
  split
  · rename_i h
    exact Nat.succ_le_succ (showNat_length _ k hk (hn h))
  · rename_i h
    exact showNat_length _ (k + 1) (by omega) (hp (by omega))

/-- `f"{x:.nf}"` has at most `k + 2 + n` characters when the integer part is at most `m < 10 ^ k` below zero,
at most `M < 10 ^ (k + 1)` otherwise -/
theorem showDec_length (d : Dec) (k m M : Nat) (hk : 1 ≤ k) (hm : m < 10 ^ k) (hM : M < 10 ^ (k + 1))
    (h : if d.neg then d.ip ≤ m else d.ip ≤ M) : (showDec d).length ≤ k + 2 + d.frac.length := by
  unfold showDec
  cases hn : d.neg <;> simp only [hn, if_true, Bool.false_eq_true, if_false] at h ⊢
  · have := showNat_length d.ip (k + 1) (by omega) (by omega)
    simp; omega
  · have := showNat_length d.ip k hk (by omega)
    simp; omega

instance (s : Str) : Decidable (Clean s) := by unfold Clean; infer_instance
instance (d : Dec) : Decidable (DecOk d) := by unfold DecOk; infer_instance
instance (s : Str) : Decidable (TokOk s) := by unfold TokOk; infer_instance

theorem reuniteAux_pieces (n : Nat) (cur : List Str) (ps rest : List (List Str))
    (h : cur.length + ps.flatten.length ≤ n) :
    reuniteAux n cur (ps ++ rest) = reuniteAux n (cur ++ ps.flatten) rest := by
  induction ps generalizing cur with
  | nil => simp
  | cons p ps ih =>
    have h' : cur.length + (p.length + ps.flatten.length) ≤ n := by
      simpa [List.flatten_cons, List.length_append] using h
    have h1 : cur.length + p.length ≤ n := by omega
    simp only [List.cons_append, reuniteAux, if_pos h1]
    rw [ih (cur ++ p) (by simp only [List.length_append]; omega)]
    simp [List.flatten_cons, List.append_assoc]

theorem reuniteAux_full (n : Nat) (cur : List Str) (rest : List (List Str)) (hc : cur.length = n)
    (hr : ∀ q ∈ rest, q ≠ []) : reuniteAux n cur rest = cur :: reunite n rest := by
  cases rest with
  | nil => simp [reuniteAux, reunite]
  | cons q qs =>
    have hq : 0 < q.length := List.length_pos_iff.mpr (hr q (List.mem_cons_self ..))
    simp only [reuniteAux, reunite]
    rw [if_neg (by omega)]

theorem lookup_perm {t t' : Table} (hp : t.Perm t') (hn : (t.map (·.1)).Nodup) (k : Str) :
    lookup t k = lookup t' k := by
  unfold lookup
  induction hp with
  | nil => rfl
  | cons x _ ih =>
    simp only [List.map_cons, List.nodup_cons] at hn
    simp only [List.find?_cons]
    split
    · rfl
    · exact ih hn.2
  | swap x y l =>
    simp only [List.map_cons, List.nodup_cons, List.mem_cons, not_or] at hn
    simp only [List.find?_cons]
    by_cases hx : (x.1 == k) = true <;> by_cases hy : (y.1 == k) = true
    · exact absurd ((beq_iff_eq.mp hy).trans (beq_iff_eq.mp hx).symm) hn.1.1
    · simp [hx, hy]
    · simp [hx, hy]
    · simp [hx, hy]
  | trans h1 _ ih1 ih2 =>
    have hn2 := (List.Perm.nodup_iff (List.Perm.map _ h1)).mp hn
    exact (ih1 hn).trans (ih2 hn2)

theorem lookup_cons_ne (kv : Str × List Str) (t : Table) (k : Str) (h : kv.1 ≠ k) :
    lookup (kv :: t) k = lookup t k := by
  simp [lookup, h]

/-- column names are string literals: they are told apart as strings, not character by character -/
theorem toList_ne {s t : String} (h : s ≠ t) : s.toList ≠ t.toList := fun e => h (String.toList_injective e)

theorem lookup_of_mem {t : Table} (hn : (t.map (·.1)).Nodup) {k : Str} {c : List Str} (h : (k, c) ∈ t) :
    lookup t k = some c := by
  induction t with
  | nil => cases h
  | cons kv rest ih =>
    rw [List.map_cons, List.nodup_cons] at hn
    rcases List.mem_cons.mp h with rfl | h
    · simp [lookup]
    · rw [lookup_cons_ne kv rest k (fun e => hn.1 (e ▸ List.mem_map.mpr ⟨(k, c), h, rfl⟩))]
      exact ih hn.2 h

theorem colOf_mem {cols : List Col} {f : F} (h : f ∈ cols.map (·.f)) : colOf cols f ∈ cols ∧ (colOf cols f).f = f := by
  obtain ⟨c, hc, rfl⟩ := List.mem_map.mp h
  unfold colOf
  cases hfind : cols.find? (·.f = c.f) with
  | none => exact absurd (List.find?_eq_none.mp hfind c hc) (by simp)
  | some c' => exact ⟨List.mem_of_find?_eq_some hfind, by simpa using List.find?_some hfind⟩

/-- `chain_identifier[index][0]` does not raise -/
theorem all_pdbWritable {as : List Atom} (h : ∀ a ∈ as, a.chain ≠ []) : as.all pdbWritable = true := by
  rw [List.all_eq_true]
  intro a ha
  unfold pdbWritable
  cases hc : a.chain with
  | nil => exact absurd hc (h a ha)
  | cons _ _ => rfl

theorem slice_rjust_seg (s : Str) (h : s.length ≤ 2) : slice (rjust 4 s) 2 4 = rjust 2 s := by
  unfold slice rjust spaces
  have h1 : 4 - s.length = 2 + (2 - s.length) := by omega
  rw [h1, ← List.replicate_append_replicate, List.append_assoc, List.drop_append_of_le_length (by simp)]
  simp only [List.drop_replicate, Nat.add_sub_cancel_left, Nat.sub_self, Nat.add_zero]
  apply List.take_of_length_le
  simp; omega

theorem tok_showInt (i : Int) : tok (showInt i) = showInt i := by
  unfold tok showInt
  split
  · rfl
  · obtain ⟨c, t, h, _⟩ := showNat_head i.natAbs
    rw [h]; rfl

theorem tok_showDec (d : Dec) : tok (showDec d) = showDec d := by
  unfold tok showDec
  cases d.neg
  · obtain ⟨c, t, h, _⟩ := showNat_head d.ip
    simp [h]
  · simp

theorem strip_tok {v : Str} (h : TokOk v) : strip (tok v) = tok v := strip_clean (tok_ok h).1

theorem intCell_showInt (i : Int) : intCell (showInt i) = some i := by
  have := intCell_showInt_rjust i 0
  simpa [rjust, spaces] using this

theorem tok_tok (v : Str) : tok (tok v) = tok v := by
  unfold tok; cases v <;> rfl

theorem tok_length_le (v : Str) (w : Nat) (hw : 1 ≤ w) (h : v.length ≤ w) : (tok v).length ≤ w := by
  unfold tok; cases v with
  | nil => simpa using hw
  | cons _ _ => exact h

theorem normStr_tok (v : Str) : normStr (tok v) = normStr v := by
  unfold tok; cases v <;> rfl

theorem keepAtom_iff (k : Bool) (es rs : List Str) (a : Atom) :
    keepAtom k es rs a = true ↔
      (es = [] ∨ a.elem ∈ es) ∧ (rs = [] ∨ a.resName ∈ rs) ∧ (k = true ∨ a.record = "ATOM".toList) := by
  simp [keepAtom, List.isEmpty_iff, and_assoc]

end Pm.C09
