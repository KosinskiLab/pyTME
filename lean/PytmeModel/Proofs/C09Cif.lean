import PytmeModel.Model.C09
import PytmeModel.Proofs.C09

/-! C09: the file-level mmCIF reader (`Parser.__init__` line filter, `_consolidate_strings`,
`_split_in_blocks`, `_loop_block_to_dict`) applied to a loop written by `_write_mmcif`. -/
namespace Pm.C09

theorem joinWith_cons_ne (sep a : Str) (rest : List Str) (h : rest ≠ []) :
    joinWith sep (a :: rest) = a ++ sep ++ joinWith sep rest := by
  cases rest with
  | nil => exact absurd rfl h
  | cons _ _ => rfl

theorem flatten_sep_joinWith (sep : Str) (ls rs : List Str) (h : rs ≠ []) :
    (ls.map (· ++ sep)).flatten ++ joinWith sep rs = joinWith sep (ls ++ rs) := by
  induction ls with
  | nil => rfl
  | cons a rest ih =>
    have : rest ++ rs ≠ [] := by simp [h]
    simp only [List.map_cons, List.flatten_cons, List.cons_append, joinWith_cons_ne sep a _ this,
      List.append_assoc, ih]

theorem joinWith_snoc_nil (sep : Str) (ls : List Str) (h : ls ≠ []) :
    joinWith sep ls ++ sep = joinWith sep (ls ++ [[]]) := by
  induction ls with
  | nil => exact absurd rfl h
  | cons a rest ih =>
    cases rest with
    | nil => simp [joinWith]
    | cons b rest' =>
      have ih' := ih (by simp)
      simp only [List.cons_append, joinWith, List.append_assoc] at ih' ⊢
      rw [ih']

theorem consolidate_plain (ls : List Str) (h : ∀ l ∈ ls, startsWith [';'] l = false) (fuel : Nat)
    (hf : ls.length ≤ fuel) (acc : List Str) :
    consolidate fuel ls acc = some (acc.reverse ++ ls.map removeDq) := by
  induction ls generalizing fuel acc with
  | nil => cases fuel <;> simp [consolidate]
  | cons l rest ih =>
    cases fuel with
    | zero => simp at hf
    | succ f =>
      have hl := h l (List.mem_cons_self ..)
      simp only [consolidate, hl, Bool.false_eq_true, if_false]
      rw [ih (fun x hx => h x (List.mem_cons_of_mem _ hx)) f (by simpa using hf)]
      simp

theorem isPrefixOf_append_sep (p s r : Str) (c : Char) (hc : c ∉ p)
    (h : p.isPrefixOf (s ++ c :: r) = true) : p.isPrefixOf s = true := by
  induction p generalizing s with
  | nil => simp
  | cons x xs ih =>
    cases s with
    | nil =>
      simp only [List.nil_append, List.isPrefixOf, Bool.and_eq_true, beq_iff_eq] at h
      exact absurd h.1 (fun e => hc (e ▸ List.mem_cons_self ..))
    | cons y ys =>
      simp only [List.cons_append, List.isPrefixOf, Bool.and_eq_true, beq_iff_eq] at h ⊢
      exact ⟨h.1, ih ys (fun hm => hc (List.mem_cons_of_mem _ hm)) h.2⟩

/-- a line that `_split_in_blocks` appends to the current block of category `c` -/
def PlainFor (c : Str) (line : Str) : Prop :=
  startsWith "data_".toList line = false ∧ startsWith "loop_".toList line = false ∧
  (startsWith ['_'] line = true → firstDot line = c)

theorem splitBlocksAux_plain (c : Str) (ls rest : List Str) (h : ∀ l ∈ ls, PlainFor c l)
    (block : List Str) (acc : List Block) :
    splitBlocksAux (ls ++ rest) (some c) block acc = splitBlocksAux rest (some c) (ls.reverse ++ block) acc := by
  induction ls generalizing block with
  | nil => rfl
  | cons l ls ih =>
    obtain ⟨h1, h2, h3⟩ := h l (List.mem_cons_self ..)
    have hc : ¬ (startsWith ['_'] l = true ∧ some (firstDot l) ≠ some c) := by
      rintro ⟨a, b⟩; exact b (by rw [h3 a])
    simp only [List.cons_append, splitBlocksAux, h1, h2, Bool.false_eq_true, if_false, if_neg hc]
    rw [ih (fun x hx => h x (List.mem_cons_of_mem _ hx))]
    simp

/-- the header line of one loop column: `f"_{category}.{k}"` -/
def nameLine (cat k : Str) : Str := '_' :: cat ++ ['.'] ++ k

/-- a column name that survives the header syntax -/
def NameOk (k : Str) : Prop := Clean k ∧ '.' ∉ k ∧ '"' ∉ k

instance (k : Str) : Decidable (NameOk k) := by unfold NameOk; infer_instance

theorem splitOn_dot_nameLine (cat k : Str) (hc : '.' ∉ cat) :
    splitOn '.' (nameLine cat k) = ('_' :: cat) :: splitOn '.' k := by
  unfold splitOn nameLine
  have e : '_' :: cat ++ ['.'] ++ k = ('_' :: cat) ++ ('.' :: k) := by simp
  rw [e, splitOnAux_append '.' ('_' :: cat) ('.' :: k) [] (by simp [hc])]
  simp [splitOnAux]

theorem firstDot_nameLine (cat k : Str) (hc : '.' ∉ cat) : firstDot (nameLine cat k) = '_' :: cat := by
  unfold firstDot; rw [splitOn_dot_nameLine cat k hc]; rfl

theorem splitOn_not_mem (c : Char) (k : Str) (h : c ∉ k) : splitOn c k = [k] := by
  unfold splitOn
  have := splitOnAux_append c k [] [] h
  simp only [List.append_nil] at this
  rw [this]; simp [splitOnAux]

theorem nameOf_nameLine (cat k : Str) (hc : '.' ∉ cat) (hk : NameOk k) : nameOf (nameLine cat k) = some k := by
  unfold nameOf
  rw [splitOn_dot_nameLine cat k hc, splitOn_not_mem '.' k hk.2.1]
  simp [rstrip_clean hk.1]

theorem startsWith_nameLine (cat k : Str) : startsWith ('_' :: cat) (nameLine cat k) = true := by
  unfold startsWith nameLine
  have e : '_' :: cat ++ ['.'] ++ k = ('_' :: cat) ++ ('.' :: k) := by simp
  rw [e]
  exact List.isPrefixOf_iff_prefix.mpr (List.prefix_append _ _)

theorem plainFor_nameLine (cat k : Str) (hc : '.' ∉ cat) : PlainFor ('_' :: cat) (nameLine cat k) := by
  refine ⟨?_, ?_, fun _ => firstDot_nameLine cat k hc⟩ <;> simp [startsWith, nameLine, List.isPrefixOf]

theorem removeDq_nameLine (cat k : Str) (hc : '"' ∉ cat) (hk : '"' ∉ k) :
    removeDq (nameLine cat k) = nameLine cat k := by
  apply removeDq_of_not_mem
  simp [nameLine, hc, hk]

/-- `_split_in_blocks` on one loop: header lines of one category followed by rows that look like
neither a header nor a keyword give one block holding all the lines -/
theorem splitBlocks_loop (cat : Str) (hc : '.' ∉ cat) (names rows : List Str) (hn : names ≠ [])
    (hrows : ∀ r ∈ rows, PlainFor ('_' :: cat) r) :
    splitBlocks ("loop_".toList :: (names.map (nameLine cat) ++ rows)) =
      some [⟨cat, "loop_".toList :: (names.map (nameLine cat) ++ rows)⟩] := by
  cases names with
  | nil => exact absurd rfl hn
  | cons k0 ks =>
    have h1 : startsWith "data_".toList "loop_".toList = false := by decide
    have h2 : startsWith ['_'] "loop_".toList = false := by decide
    have h3 : startsWith "loop_".toList "loop_".toList = true := by decide
    unfold splitBlocks
    simp only [List.map_cons, List.cons_append]
    rw [splitBlocksAux]
    simp only [h1, h2, h3, Bool.false_eq_true, false_and, if_false, if_true, firstDot_nameLine cat k0 hc]
    have hall : ∀ l ∈ nameLine cat k0 :: (ks.map (nameLine cat) ++ rows), PlainFor ('_' :: cat) l := by
      intro l hl
      rcases List.mem_cons.mp hl with rfl | hl
      · exact plainFor_nameLine cat k0 hc
      · rcases List.mem_append.mp hl with hl | hl
        · obtain ⟨k, _, rfl⟩ := List.mem_map.mp hl
          exact plainFor_nameLine cat k hc
        · exact hrows l hl
    have := splitBlocksAux_plain ('_' :: cat) _ [] hall ["loop_".toList] []
    rw [List.append_nil] at this
    rw [this]
    simp [splitBlocksAux]

/-- the `i`-th line of a written loop -/
def rowLine (cols : List (List Str)) (i : Nat) : Str :=
  rowOf (cols.map (fun c => (formatString (c.getD i []),
    maxLen (c.map formatString) + 1 - (formatString (c.getD i [])).length)))

theorem foldl_min_const (n : Nat) (l : List Nat) (h : ∀ x ∈ l, x = n) : l.foldl min n = n := by
  induction l with
  | nil => rfl
  | cons x xs ih =>
    have := h x (List.mem_cons_self ..)
    subst this
    simp only [List.foldl_cons, Nat.min_self]
    exact ih (fun y hy => h y (List.mem_cons_of_mem _ hy))

theorem loopRows_eq (cols : List (List Str)) (n : Nat) (hne : cols ≠ []) (hlen : ∀ c ∈ cols, c.length = n) :
    loopRows cols = (List.range n).map (rowLine cols) := by
  unfold loopRows
  have hn : (match (List.map (fun c => List.map (ljust (maxLen c + 1)) c)
        (List.map (fun x => List.map formatString x) cols)).map List.length with
      | [] => 0
      | l :: ls => ls.foldl min l) = n := by
    cases cols with
    | nil => exact absurd rfl hne
    | cons c0 rest =>
      simp only [List.map_cons, List.map_map, List.length_map]
      rw [hlen c0 (List.mem_cons_self ..)]
      apply foldl_min_const
      intro x hx
      obtain ⟨c, hc, rfl⟩ := List.mem_map.mp hx
      simp [hlen c (List.mem_cons_of_mem _ hc)]
  show List.map _ (List.range (match (List.map (fun c => List.map (ljust (maxLen c + 1)) c)
        (List.map (fun x => List.map formatString x) cols)).map List.length with
      | [] => 0
      | l :: ls => ls.foldl min l)) = _
  rw [hn]
  apply List.map_congr_left
  intro i hi
  exact padded_row cols i (fun c hc => by rw [hlen c hc]; exact List.mem_range.mp hi)

theorem splitLine_removeDq_rowLine (cols : List (List Str)) (hv : ∀ c ∈ cols, ∀ v ∈ c, TokOk v) (i : Nat)
    (hi : ∀ c ∈ cols, i < c.length) :
    splitLine (removeDq (rowLine cols i)) = cols.map (fun c => tok (c.getD i [])) := by
  unfold rowLine
  rw [removeDq_rowOf, List.map_map, splitLine_rowOf]
  · rw [List.map_map]
    apply List.map_congr_left
    intro c hc
    exact removeDq_formatString (hv c hc _ (getD_mem c i [] (hi c hc)))
  · intro cell hcell
    obtain ⟨c, hc, rfl⟩ := List.mem_map.mp hcell
    have ht := hv c hc _ (getD_mem c i [] (hi c hc))
    simp only [Function.comp]
    rw [removeDq_formatString ht]
    refine ⟨tok_ok ht, tok_ne_nil _, ?_⟩
    have : (formatString (c.getD i [])).length ≤ maxLen (c.map formatString) :=
      length_le_maxLen (List.mem_map.mpr ⟨_, getD_mem c i [] (hi c hc), rfl⟩)
    omega

/-- the first value of a row must not make the line look like a comment, a text field, a header or a
keyword of the file syntax -/
def lineStartOk (s : Str) : Bool :=
  !(startsWith ['#'] s || startsWith [';'] s || startsWith ['_'] s || startsWith "data_".toList s
    || startsWith "loop_".toList s)

theorem formatString_cases {v : Str} (h : TokOk v) :
    (v = [] ∧ formatString v = ['.']) ∨ (v ≠ [] ∧ formatString v = '"' :: (v ++ ['"'])) ∨
    (v ≠ [] ∧ formatString v = v) := by
  unfold formatString
  rw [strip_clean h.1, contains_space_clean h.1]
  cases v with
  | nil => exact Or.inl ⟨rfl, rfl⟩
  | cons c t =>
    right
    simp only [List.isEmpty_cons, Bool.false_eq_true, if_false]
    split
    · exact Or.inl ⟨by simp, rfl⟩
    · exact Or.inr ⟨by simp, rfl⟩

theorem not_mem_newline_of_clean {v : Str} (h : Clean v) : '\n' ∉ v := by
  intro hm; have := h _ hm; simp [isWs] at this

theorem formatString_no_newline {v : Str} (h : TokOk v) : '\n' ∉ formatString v := by
  have hn := not_mem_newline_of_clean h.1
  rcases formatString_cases h with ⟨_, e⟩ | ⟨_, e⟩ | ⟨_, e⟩ <;> rw [e] <;> simp [hn]

theorem rowOf_no_newline (cells : List (Str × Nat)) (h : ∀ c ∈ cells, '\n' ∉ c.1) : '\n' ∉ rowOf cells := by
  induction cells with
  | nil => simp [rowOf]
  | cons c rest ih =>
    obtain ⟨t, k⟩ := c
    have := h (t, k) (List.mem_cons_self ..)
    simp only [rowOf, List.mem_append, not_or]
    exact ⟨⟨this, by simp [spaces]⟩, ih (fun d hd => h d (List.mem_cons_of_mem _ hd))⟩

theorem rowLine_no_newline (cols : List (List Str)) (hv : ∀ c ∈ cols, ∀ v ∈ c, TokOk v) (i : Nat)
    (hi : ∀ c ∈ cols, i < c.length) : '\n' ∉ rowLine cols i := by
  apply rowOf_no_newline
  intro cell hcell
  obtain ⟨c, hc, rfl⟩ := List.mem_map.mp hcell
  exact formatString_no_newline (hv c hc _ (getD_mem c i [] (hi c hc)))

theorem lineStartOk_iff (s : Str) : lineStartOk s = true ↔
    startsWith ['#'] s = false ∧ startsWith [';'] s = false ∧ startsWith ['_'] s = false ∧
    startsWith "data_".toList s = false ∧ startsWith "loop_".toList s = false := by
  simp [lineStartOk, and_assoc]

theorem startsWith_single (c y : Char) (t : Str) : startsWith [c] (y :: t) = (c == y) := by
  simp [startsWith, List.isPrefixOf]

theorem tok_lineStartOk {v : Str} (h : lineStartOk v = true) : lineStartOk (tok v) = true := by
  unfold tok; cases v with
  | nil => decide
  | cons _ _ => exact h

theorem row_kept (v tail : Str) (hv : TokOk v) (hs : lineStartOk v = true) :
    (!(formatString v ++ tail).isEmpty && (formatString v ++ tail).head? != some '#') = true ∧
    startsWith [';'] (formatString v ++ tail) = false := by
  obtain ⟨h1, h2, -⟩ := (lineStartOk_iff v).mp hs
  rcases formatString_cases hv with ⟨_, e⟩ | ⟨_, e⟩ | ⟨hne, e⟩
  · rw [e]; exact ⟨by simp, by simp [startsWith_single]⟩
  · rw [e]; exact ⟨by simp, by simp [startsWith_single]⟩
  · rw [e]
    cases v with
    | nil => exact absurd rfl hne
    | cons y ys =>
      rw [startsWith_single] at h1 h2
      simp only [List.cons_append, startsWith_single, h2, and_true]
      simp only [beq_eq_false_iff_ne, ne_eq] at h1
      simp [Ne.symm h1]

theorem row_plain (c v r : Str) (k : Nat) (hs : lineStartOk v = true) :
    PlainFor c (tok v ++ spaces (k + 1) ++ r) := by
  obtain ⟨-, -, h3, h4, h5⟩ := (lineStartOk_iff _).mp (tok_lineStartOk hs)
  have e : tok v ++ spaces (k + 1) ++ r = tok v ++ ' ' :: (spaces k ++ r) := by
    simp [spaces, List.replicate_succ]
  rw [e]
  have key : ∀ p : Str, ' ' ∉ p → startsWith p (tok v) = false →
      startsWith p (tok v ++ ' ' :: (spaces k ++ r)) = false := by
    intro p hp hf
    cases hh : startsWith p (tok v ++ ' ' :: (spaces k ++ r)) with
    | false => rfl
    | true =>
      have := isPrefixOf_append_sep p (tok v) (spaces k ++ r) ' ' hp hh
      unfold startsWith at hf; rw [hf] at this; cases this
  refine ⟨key _ (by decide) h4, key _ (by decide) h5, ?_⟩
  intro h
  rw [key _ (by decide) h3] at h; cases h

theorem row_no_header (c v r : Str) (k : Nat) (hs : lineStartOk v = true) :
    startsWith ('_' :: c) (tok v ++ spaces (k + 1) ++ r) = false := by
  obtain ⟨-, -, h3, -, -⟩ := (lineStartOk_iff _).mp (tok_lineStartOk hs)
  have hne := tok_ne_nil v
  cases htv : tok v with
  | nil => exact absurd htv hne
  | cons y ys =>
    rw [htv, startsWith_single] at h3
    simp [startsWith, List.isPrefixOf, h3]

theorem rowLine_cons (c0 : List Str) (rest : List (List Str)) (i : Nat) :
    rowLine (c0 :: rest) i = formatString (c0.getD i []) ++
      (spaces (maxLen (c0.map formatString) + 1 - (formatString (c0.getD i [])).length) ++ rowLine rest i) := by
  simp only [rowLine, List.map_cons, rowOf, List.append_assoc]

theorem removeDq_rowLine_cons (c0 : List Str) (rest : List (List Str)) (i : Nat) (hi : i < c0.length)
    (hv : TokOk (c0.getD i [])) :
    ∃ k r, removeDq (rowLine (c0 :: rest) i) = tok (c0.getD i []) ++ spaces (k + 1) ++ r := by
  have hl : (formatString (c0.getD i [])).length ≤ maxLen (c0.map formatString) :=
    length_le_maxLen (List.mem_map.mpr ⟨_, getD_mem c0 i [] hi, rfl⟩)
  refine ⟨maxLen (c0.map formatString) - (formatString (c0.getD i [])).length, removeDq (rowLine rest i), ?_⟩
  rw [rowLine_cons, removeDq_append, removeDq_append, removeDq_formatString hv, removeDq_spaces, List.append_assoc]
  congr 3
  omega

/-- the category `_write_mmcif` writes the atoms to -/
abbrev atomSite : Str := "atom_site".toList

/-- what a loop table must satisfy to survive the file syntax: at least one column and `n ≥ 1` rows,
distinct header-safe column names, values without white space or double quote (empty allowed), and
first-column values that do not start like a comment / text field / header / keyword -/
structure LoopOk (t : Table) (n : Nat) : Prop where
  rows : 0 < n
  cols : t ≠ []
  names : ∀ kv ∈ t, NameOk kv.1
  nodup : (t.map (·.1)).Nodup
  len : ∀ kv ∈ t, kv.2.length = n
  vals : ∀ kv ∈ t, ∀ v ∈ kv.2, TokOk v
  start : ∀ v ∈ (t.headD default).2, lineStartOk v = true

/-- row `i` of a written loop passes the line filter of `Parser.__init__`, `_consolidate_strings` (no text field)
and `_split_in_blocks` (a body line, no header of category `c`) -/
theorem loopOk_row {t : Table} {n : Nat} (h : LoopOk t n) {i : Nat} (hi : i < n) (c : Str) :
    (!(rowLine (t.map (·.2)) i).isEmpty && (rowLine (t.map (·.2)) i).head? != some '#') = true ∧
    startsWith [';'] (rowLine (t.map (·.2)) i) = false ∧
    PlainFor c (removeDq (rowLine (t.map (·.2)) i)) ∧
    startsWith ('_' :: c) (removeDq (rowLine (t.map (·.2)) i)) = false := by
  obtain ⟨kv0, trest, rfl⟩ := List.exists_cons_of_ne_nil h.cols
  have hi0 : i < kv0.2.length := by rw [h.len kv0 (List.mem_cons_self ..)]; exact hi
  have hm := getD_mem kv0.2 i [] hi0
  have hv := h.vals kv0 (List.mem_cons_self ..) _ hm
  have hs : lineStartOk (kv0.2.getD i []) = true := h.start _ hm
  obtain ⟨k, r, e⟩ := removeDq_rowLine_cons kv0.2 (trest.map (·.2)) i hi0 hv
  rw [List.map_cons, e, rowLine_cons]
  exact ⟨(row_kept _ _ hv hs).1, (row_kept _ _ hv hs).2, row_plain _ _ _ _ hs, row_no_header _ _ _ _ hs⟩

theorem writeLoop_eq_join (t : Table) (rows : List Str) (hr : rows ≠ []) :
    "#\nloop_\n".toList ++ (t.map (fun kv => '_' :: atomSite ++ ['.'] ++ kv.1 ++ ['\n'])).flatten
      ++ joinWith ['\n'] rows ++ ['\n'] =
    joinWith ['\n'] (["#".toList, "loop_".toList] ++ t.map (fun kv => nameLine atomSite kv.1) ++ (rows ++ [[]])) := by
  rw [← flatten_sep_joinWith ['\n'] _ (rows ++ [[]]) (by simp), ← joinWith_snoc_nil ['\n'] rows hr]
  have e1 : "#\nloop_\n".toList = (["#".toList, "loop_".toList].map (· ++ ['\n'])).flatten := by decide +kernel
  rw [e1, List.map_append, List.flatten_append, List.map_map]
  simp only [List.append_assoc]
  rfl

theorem fileLines_writeLoop (t : Table) (n : Nat) (h : LoopOk t n) :
    fileLines (writeLoop atomSite t) =
      "loop_".toList :: (t.map (fun kv => nameLine atomSite kv.1) ++ (List.range n).map (rowLine (t.map (·.2)))) := by
  have hcols : t.map (·.2) ≠ [] := by simpa using h.cols
  have hlen : ∀ c ∈ t.map (·.2), c.length = n := by
    intro c hc; obtain ⟨kv, hkv, rfl⟩ := List.mem_map.mp hc; exact h.len kv hkv
  have hvals : ∀ c ∈ t.map (·.2), ∀ v ∈ c, TokOk v := by
    intro c hc; obtain ⟨kv, hkv, rfl⟩ := List.mem_map.mp hc; exact h.vals kv hkv
  have hrows : (List.range n).map (rowLine (t.map (·.2))) ≠ [] := by
    simpa using Nat.pos_iff_ne_zero.mp h.rows
  unfold writeLoop fileLines
  rw [loopRows_eq _ n hcols hlen, writeLoop_eq_join _ _ hrows, splitOn_joinWith '\n' _ (by simp)]
  · -- `#` and the empty last piece go, every header line and every row stays
    have f1 : ["#".toList, "loop_".toList].filter (fun l => !l.isEmpty && l.head? != some '#') = ["loop_".toList] := by
      decide
    rw [List.filter_append, List.filter_append, List.filter_append, f1, List.filter_eq_self.mpr, List.filter_eq_self.mpr]
    · simp
    · intro x hx
      obtain ⟨i, hi, rfl⟩ := List.mem_map.mp hx
      exact (loopOk_row h (List.mem_range.mp hi) []).1
    · intro x hx
      obtain ⟨kv, _, rfl⟩ := List.mem_map.mp hx
      simp [nameLine]
  · intro l hl
    simp only [List.cons_append, List.nil_append, List.mem_cons, List.mem_append, List.mem_map,
      List.mem_range, List.not_mem_nil, or_false] at hl
    rcases hl with rfl | rfl | ⟨kv, hkv, rfl⟩ | ⟨i, hi, rfl⟩ | rfl
    · decide
    · decide
    · have := not_mem_newline_of_clean (h.names kv hkv).1
      have h2 : '\n' ∉ atomSite := by decide
      simp [nameLine, this, h2]
    · exact rowLine_no_newline _ hvals i (fun c hc => by rw [hlen c hc]; exact hi)
    · simp

theorem reunite_eq_self (n : Nat) (rows : List (List Str)) (hn : 0 < n) (h : ∀ r ∈ rows, r.length = n) :
    reunite n rows = rows := by
  cases rows with
  | nil => rfl
  | cons a rest =>
    simp only [reunite]
    induction rest generalizing a with
    | nil => rfl
    | cons b rest' ih =>
      have ha := h a (List.mem_cons_self ..)
      have hb := h b (List.mem_cons_of_mem _ (List.mem_cons_self ..))
      simp only [reuniteAux]
      rw [if_neg (by omega)]
      congr 1
      exact ih b (fun r hr => h r (List.mem_cons_of_mem _ hr))

theorem takeWhile_append_stop {α : Type} (p : α → Bool) (l : List α) (x : α) (r : List α)
    (hl : ∀ a ∈ l, p a = true) (hx : p x = false) : (l ++ x :: r).takeWhile p = l := by
  induction l with
  | nil => simp [hx]
  | cons a l ih =>
    simp only [List.cons_append, List.takeWhile_cons, hl a (List.mem_cons_self ..), if_true]
    rw [ih (fun b hb => hl b (List.mem_cons_of_mem _ hb))]

theorem map_range_getD {α β : Type} (l : List α) (d : α) (f : α → β) :
    (List.range l.length).map (fun i => f (l.getD i d)) = l.map f :=
  (List.map_map ..).symm.trans (congrArg (List.map f) (map_getD_range l d _ rfl))

/-- the table `_loop_block_to_dict` builds from the lines of a written loop -/
theorem loopToDict_written (t : Table) (n : Nat) (h : LoopOk t n) :
    loopToDict ⟨atomSite, "loop_".toList :: (t.map (fun kv => nameLine atomSite kv.1) ++
      ((List.range n).map (rowLine (t.map (·.2)))).map removeDq)⟩ =
      some (t.map (fun kv => (kv.1, kv.2.map tok))) := by
  obtain ⟨m, rfl⟩ : ∃ m, n = m + 1 := ⟨n - 1, by have := h.rows; omega⟩
  have hlen : ∀ c ∈ t.map (·.2), c.length = m + 1 := by
    intro c hc; obtain ⟨kv, hkv, rfl⟩ := List.mem_map.mp hc; exact h.len kv hkv
  have hvals : ∀ c ∈ t.map (·.2), ∀ v ∈ c, TokOk v := by
    intro c hc; obtain ⟨kv, hkv, rfl⟩ := List.mem_map.mp hc; exact h.vals kv hkv
  -- the first row stops the header
  have hrow0 : startsWith ('_' :: atomSite) (removeDq (rowLine (t.map (·.2)) 0)) = false :=
    (loopOk_row h (Nat.succ_pos m) atomSite).2.2.2
  have hhdr : (t.map (fun kv => nameLine atomSite kv.1) ++
      ((List.range (m + 1)).map (rowLine (t.map (·.2)))).map removeDq).takeWhile (startsWith ('_' :: atomSite))
      = t.map (fun kv => nameLine atomSite kv.1) := by
    rw [List.range_succ_eq_map, List.map_cons, List.map_cons]
    apply takeWhile_append_stop _ _ _ _ _ hrow0
    intro a ha
    obtain ⟨kv, _, rfl⟩ := List.mem_map.mp ha
    exact startsWith_nameLine _ _
  have hnames : (t.map (fun kv => nameLine atomSite kv.1)).mapM nameOf = some (t.map (·.1)) :=
    mapM_map_some t _ nameOf (·.1) (fun kv hkv => nameOf_nameLine atomSite kv.1 (by decide) (h.names kv hkv))
  have hsplit : (((List.range (m + 1)).map (rowLine (t.map (·.2)))).map removeDq).map splitLine =
      (List.range (m + 1)).map (fun i => (t.map (·.2)).map (fun c => tok (c.getD i []))) := by
    rw [List.map_map, List.map_map]
    apply List.map_congr_left
    intro i hi
    have hi' := List.mem_range.mp hi
    exact splitLine_removeDq_rowLine _ hvals i (fun c hc => by rw [hlen c hc]; exact hi')
  have htl : 0 < t.length := List.length_pos_iff.mpr h.cols
  unfold loopToDict
  simp only [List.drop_one, List.tail_cons, hhdr, List.length_append, List.length_map, List.length_range]
  rw [if_neg (by omega)]
  simp only [hnames, Option.bind_eq_bind, Option.bind_some, List.drop_left', List.length_map]
  rw [if_neg (by simpa using h.nodup)]
  simp only [Option.pure_def, Option.some.injEq]
  rw [hsplit, reunite_eq_self _ _ htl (by
    intro r hr; obtain ⟨i, _, rfl⟩ := List.mem_map.mp hr; simp)]
  apply List.ext_getElem
  · simp only [List.length_map, List.length_range]
  · intro j h1 h2
    simp only [List.length_map, List.length_range] at h1
    simp only [List.getElem_map, List.getElem_range]
    congr 1
    · simp only [List.getD_eq_getElem?_getD, List.getElem?_map, List.getElem?_eq_getElem h1, Option.map_some,
        Option.getD_some]
    · rw [List.filter_eq_self.mpr (by
        intro r hr; obtain ⟨i, _, rfl⟩ := List.mem_map.mp hr; simpa using h1)]
      rw [List.map_map]
      have hl : (t[j]).2.length = m + 1 := h.len _ (List.getElem_mem _)
      rw [← map_range_getD (t[j]).2 [] tok, hl]
      apply List.map_congr_left
      intro i _
      simp [List.getD_eq_getElem?_getD, h1]

/-- **the file-level reader on a written loop.**  `Parser.__init__` (line filter), `_consolidate_strings`,
`_split_in_blocks` and `_loop_block_to_dict` applied to the text `_write_mmcif` emits for a loop table
return that table, every value `v` as `tok v` (the empty value as "."), the columns under their names and in
their order, the rows in their order -/
theorem parseCif_writeLoop (t : Table) (n : Nat) (h : LoopOk t n) :
    parseCif (writeLoop atomSite t) = some (t.map (fun kv => (kv.1, kv.2.map tok))) := by
  have hlen : ∀ c ∈ t.map (·.2), c.length = n := by
    intro c hc; obtain ⟨kv, hkv, rfl⟩ := List.mem_map.mp hc; exact h.len kv hkv
  have hsemi : ∀ l ∈ "loop_".toList :: (t.map (fun kv => nameLine atomSite kv.1) ++
      (List.range n).map (rowLine (t.map (·.2)))), startsWith [';'] l = false := by
    intro l hl
    simp only [List.mem_cons, List.mem_append, List.mem_map, List.mem_range] at hl
    rcases hl with rfl | ⟨kv, _, rfl⟩ | ⟨i, hi, rfl⟩
    · decide
    · simp [nameLine, startsWith_single]
    · exact (loopOk_row h hi []).2.1
  have hplain : ∀ r ∈ ((List.range n).map (rowLine (t.map (·.2)))).map removeDq, PlainFor ('_' :: atomSite) r := by
    intro r hr
    simp only [List.map_map, List.mem_map, List.mem_range, Function.comp] at hr
    obtain ⟨i, hi, rfl⟩ := hr
    exact (loopOk_row h hi _).2.2.1
  have hnl2 : t.map (fun kv => nameLine atomSite kv.1) = (t.map (·.1)).map (nameLine atomSite) := by
    rw [List.map_map]; rfl
  have hnl : (t.map (fun kv => nameLine atomSite kv.1)).map removeDq = (t.map (·.1)).map (nameLine atomSite) := by
    rw [List.map_map, List.map_map]
    apply List.map_congr_left
    intro kv hkv
    exact removeDq_nameLine _ _ (by decide) (h.names kv hkv).2.2
  unfold parseCif
  rw [fileLines_writeLoop t n h]
  simp only [Option.bind_eq_bind]
  rw [consolidate_plain _ hsemi _ (Nat.le_succ _)]
  simp only [List.reverse_nil, List.nil_append, List.map_cons, List.map_append, Option.bind_some, hnl]
  have e0 : removeDq "loop_".toList = "loop_".toList := by decide
  rw [e0, splitBlocks_loop atomSite (by decide) _ _ (by simpa using h.cols) hplain]
  simp only [Option.bind_some, List.reverse_cons, List.reverse_nil, List.nil_append, List.find?_cons]
  have e1 : (atomSite == "atom_site".toList) = true := by decide
  simp only [e1, Option.bind_some, List.head?_cons, ne_eq, not_true_eq_false, if_false]
  rw [← hnl2]
  exact loopToDict_written t n h

instance (t : Table) (n : Nat) : Decidable (LoopOk t n) :=
  decidable_of_iff (0 < n ∧ t ≠ [] ∧ (∀ kv ∈ t, NameOk kv.1) ∧ (t.map (·.1)).Nodup ∧ (∀ kv ∈ t, kv.2.length = n) ∧
      (∀ kv ∈ t, ∀ v ∈ kv.2, TokOk v) ∧ ∀ v ∈ (t.headD default).2, lineStartOk v = true)
    ⟨fun ⟨a, b, c, d, e, f, g⟩ => ⟨a, b, c, d, e, f, g⟩, fun h => ⟨h.rows, h.cols, h.names, h.nodup, h.len, h.vals, h.start⟩⟩

end Pm.C09
