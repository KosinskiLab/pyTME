import PytmeModel.Model.C09
import PytmeModel.Proofs.C09
import PytmeModel.Proofs.C09Cif
import Mathlib.Data.List.Nodup

/-! C09: tables and `_load_mmcif` on them (`loadCifTable_rect`), the typing of rows (`convert_map`), the freshly
built table `cifColumns` and what its values look like, and `_write_mmcif` re-using the records of the original
mmCIF file (`reuseOriginal`): which rows, what is typed from them, that the re-used table survives the file syntax. -/
namespace Pm.C09

/-- all columns have `n` entries (what `_loop_block_to_dict` returns when every row is complete) -/
def Rect (t : Table) (n : Nat) : Prop := ∀ kv ∈ t, kv.2.length = n

instance (t : Table) (n : Nat) : Decidable (Rect t n) := by unfold Rect; infer_instance

theorem lookup_mem {t : Table} {k : Str} {c : List Str} (h : lookup t k = some c) : (k, c) ∈ t := by
  obtain ⟨kv, hf, rfl⟩ := Option.map_eq_some_iff.mp h
  have e : (kv.1 == k) = true := List.find?_some (p := fun x : Str × List Str => x.1 == k) hf
  exact beq_iff_eq.mp e ▸ List.mem_of_find?_eq_some hf

theorem lookup_length {t : Table} {n : Nat} (hr : Rect t n) {k : Str} {c : List Str} (h : lookup t k = some c) :
    c.length = n := hr _ (lookup_mem h)

theorem lookup_map (t : Table) (f : List Str → List Str) (k : Str) :
    lookup (t.map (fun kv => (kv.1, f kv.2))) k = (lookup t k).map f := by
  unfold lookup
  induction t with
  | nil => rfl
  | cons kv rest ih =>
    simp only [List.map_cons, List.find?_cons]
    split
    · rfl
    · exact ih

theorem lookup_replace (t : Table) (k k' : Str) (v : List Str) :
    lookup (t.map (fun kv => if kv.1 == k then (k, v) else kv)) k' =
      if k' = k then (if t.any (·.1 == k) then some v else none) else lookup t k' := by
  unfold lookup
  induction t with
  | nil => simp
  | cons kv rest ih =>
    by_cases h1 : kv.1 = k <;> by_cases h2 : k' = k
    · subst h2; simp [h1]
    · have b3 : (k == k') = false := by simp [Ne.symm h2]
      have b4 : (kv.1 == k') = false := by rw [h1]; exact b3
      have b1 : (kv.1 == k) = true := by simp [h1]
      simp only [List.map_cons, b1, if_true, List.find?_cons, b3, b4, h2, if_false] at ih ⊢
      exact ih
    · subst h2
      have b1 : (kv.1 == k') = false := by simp [h1]
      simp only [List.map_cons, b1, Bool.false_eq_true, if_false, List.find?_cons, List.any_cons, Bool.false_or,
        if_true] at ih ⊢
      exact ih
    · have b1 : (kv.1 == k) = false := by simp [h1]
      by_cases h5 : kv.1 = k'
      · simp [h2, h5]
      · have b5 : (kv.1 == k') = false := by simp [h5]
        simp only [List.map_cons, b1, Bool.false_eq_true, if_false, List.find?_cons, b5, h2] at ih ⊢
        exact ih

theorem lookup_setCol (t : Table) (k k' : Str) (v : List Str) :
    lookup (setCol t k v) k' = if k' = k then some v else lookup t k' := by
  unfold setCol
  split
  · rename_i hany
    rw [lookup_replace, hany]; simp
  · rename_i hany
    unfold lookup
    rw [List.find?_append]
    by_cases h2 : k' = k
    · subst h2
      have : t.find? (·.1 == k') = none := by
        rw [List.find?_eq_none]
        intro x hx hx'
        exact hany (List.any_eq_true.mpr ⟨x, hx, hx'⟩)
      simp [this]
    · have : ((k == k') = false) := by simp [Ne.symm h2]
      cases hf : t.find? (·.1 == k') with
      | none => simp [this, h2]
      | some x => simp [h2]

/-- the row a (possibly negative) Python index addresses in a list of `n` entries -/
def resolve (n : Nat) (i : Int) : Option Nat :=
  if 0 ≤ i then (if i.toNat < n then some i.toNat else none)
  else if -i ≤ n then some (n - (-i).toNat) else none

theorem resolve_lt {n : Nat} {i : Int} {j : Nat} (h : resolve n i = some j) : j < n := by
  unfold resolve at h
  split at h
  · split at h
    · cases h; assumption
    · cases h
  · split at h
    · cases h; omega
    · cases h

theorem pyIndex_eq (l : List Str) (i : Int) :
    pyIndex l i = (resolve l.length i).map (fun j => l.getD j []) := by
  have key : ∀ j, j < l.length → l[j]? = some (l.getD j []) := fun j hj => by
    rw [List.getD_eq_getElem?_getD, List.getElem?_eq_getElem hj]; rfl
  unfold pyIndex resolve
  split
  · split
    · rename_i h; exact key _ h
    · rename_i h; exact List.getElem?_eq_none (Nat.le_of_not_lt h)
  · split
    · exact key _ (by omega)
    · rfl

/-- the rows `js` of a table, in that order -/
def selRows (js : List Nat) (t : Table) : Table := t.map (fun kv => (kv.1, js.map (fun j => kv.2.getD j [])))

theorem mapM_pyIndex (c : List Str) (idx : List Int) :
    idx.mapM (pyIndex c) = (idx.mapM (resolve c.length)).map (fun js => js.map (fun j => c.getD j [])) := by
  induction idx with
  | nil => rfl
  | cons i rest ih =>
    simp only [List.mapM_cons, ih, pyIndex_eq]
    cases resolve c.length i with
    | none => rfl
    | some j =>
      cases List.mapM (resolve c.length) rest with
      | none => rfl
      | some js => rfl

theorem mapM_sel_some (t : Table) (n : Nat) (h : Rect t n) (idx : List Int) (js : List Nat)
    (hjs : idx.mapM (resolve n) = some js) :
    t.mapM (fun kv => do pure (kv.1, ← idx.mapM (pyIndex kv.2))) = some (selRows js t) := by
  induction t with
  | nil => rfl
  | cons kv rest ih =>
    have hk := h kv (List.mem_cons_self ..)
    simp only [List.mapM_cons, ih (fun x hx => h x (List.mem_cons_of_mem _ hx))]
    simp only [mapM_pyIndex, hk, hjs]
    rfl

theorem mapM_sel_none (t : Table) (n : Nat) (h : Rect t n) (idx : List Int) (hne : t ≠ [])
    (hjs : idx.mapM (resolve n) = none) :
    t.mapM (fun kv => do pure (kv.1, ← idx.mapM (pyIndex kv.2))) = none := by
  cases t with
  | nil => exact absurd rfl hne
  | cons kv rest =>
    have hk := h kv (List.mem_cons_self ..)
    simp only [List.mapM_cons, mapM_pyIndex, hk, hjs]
    rfl

theorem lookup_selRows (js : List Nat) (t : Table) (k : Str) :
    lookup (selRows js t) k = (lookup t k).map (fun c => js.map (fun j => c.getD j [])) :=
  lookup_map t (fun c => js.map (fun j => c.getD j [])) k

/-- the table `_write_mmcif` prints when it re-uses the rows `js` of the original file -/
def reuseTable (orig : Table) (js : List Nat) (data : Table) : Table :=
  setCol (setCol (setCol (selRows js orig) "Cartn_x".toList ((lookup data "Cartn_x".toList).getD []))
    "Cartn_y".toList ((lookup data "Cartn_y".toList).getD [])) "Cartn_z".toList ((lookup data "Cartn_z".toList).getD [])

theorem reuseOriginal_rect (orig : Table) (n : Nat) (hr : Rect orig n) (oids : List Str)
    (hid : lookup orig "id".toList = some oids) (atoms : List Atom) (data : Table) :
    reuseOriginal orig atoms data =
      if ¬ oids.Nodup then none else
      match (atoms.map (fun a => a.serial - 1)).mapM (resolve n) with
      | none => none
      | some js =>
        if js.map (fun j => oids.getD j []) ≠ atoms.map (fun a => showInt a.serial) then none
        else some (reuseTable orig js data) := by
  have hne : orig ≠ [] := by
    intro e; rw [e] at hid; cases hid
  unfold reuseOriginal
  simp only [hid, Option.bind_eq_bind, Option.bind_some]
  by_cases hnd : oids.Nodup
  · simp only [hnd, not_true_eq_false, if_false]
    cases hjs : (atoms.map (fun a => a.serial - 1)).mapM (resolve n) with
    | none =>
      have := mapM_sel_none orig n hr _ hne hjs
      simp only [Option.bind_eq_bind] at this
      simp only [this, Option.bind_none]
    | some js =>
      have := mapM_sel_some orig n hr _ js hjs
      simp only [Option.bind_eq_bind] at this
      simp only [this, Option.bind_some, lookup_selRows, hid, Option.map_some]
      split <;> rfl
  · simp only [hnd, not_false_eq_true, if_true]
    rfl

/-- a column of the table, or the placeholder column `_load_mmcif` substitutes when it is absent -/
def colOr (t : Table) (n : Nat) (k : String) : List Str :=
  match lookup t k.toList with
  | some c => c
  | none => List.replicate n ['.']

theorem colOr_length {t : Table} {n : Nat} (hr : Rect t n) (k : String) : (colOr t n k).length = n := by
  unfold colOr
  cases h : lookup t k.toList with
  | none => simp
  | some c => exact lookup_length hr h

theorem lookup_getD_length_le {t : Table} {n : Nat} (hn : 0 < n) (hr : Rect t n) (k : String) :
    ((lookup t k.toList).getD [['.']]).length ≤ n := by
  cases h : lookup t k.toList with
  | none => simp; omega
  | some c => simp [lookup_length hr h]

theorem cifCol_eq {t : Table} {k : String} {c : List Str} {n : Nat} (h : lookup t k.toList = some c)
    (hn : c.length = n) : cifCol t n k = c := by
  unfold cifCol
  rw [h]
  simp only [Option.getD_some]
  split
  · rename_i h1
    cases c with
    | nil => simp at h1
    | cons x xs =>
      cases xs with
      | nil => subst hn; rfl
      | cons _ _ => simp at h1
  · rfl

theorem cifCol_rect {t : Table} {n : Nat} (hn : 0 < n) (hr : Rect t n) (k : String) :
    cifCol t n k = colOr t n k := by
  cases h : lookup t k.toList with
  | none => simp [cifCol, colOr, h]
  | some c => rw [cifCol_eq h (lookup_length hr h), colOr, h]

theorem foldl_max_le (l : List Nat) (a n : Nat) (ha : a ≤ n) (h : ∀ x ∈ l, x ≤ n) : l.foldl max a ≤ n := by
  induction l generalizing a with
  | nil => exact ha
  | cons x xs ih =>
    have := h x (List.mem_cons_self ..)
    exact ih (max a x) (by omega) (fun y hy => h y (List.mem_cons_of_mem _ hy))

theorem foldl_max_eq (l : List Nat) (n : Nat) (h : ∀ x ∈ l, x ≤ n) (hm : n ∈ l) : l.foldl max 0 = n :=
  Nat.le_antisymm (foldl_max_le l 0 n (Nat.zero_le _) h) ((foldl_max_ge l 0).2 n hm)

/-- **`_load_mmcif` on complete rows**: the typing of the rows made of the sixteen columns the reader asks
for, an absent column standing as "." in every row -/
theorem loadCifTable_rect (t : Table) (n : Nat) (hn : 0 < n) (hr : Rect t n) (ids xs ys zs : List Str)
    (hid : lookup t "id".toList = some ids) (hx : lookup t "Cartn_x".toList = some xs)
    (hy : lookup t "Cartn_y".toList = some ys) (hz : lookup t "Cartn_z".toList = some zs) :
    loadCifTable t = convert (zipRaw (colOr t n "group_PDB") (colOr t n "id") (colOr t n "label_atom_id")
      (colOr t n "label_alt_id") (colOr t n "label_comp_id") (colOr t n "label_asym_id") (colOr t n "label_seq_id")
      (colOr t n "pdbx_PDB_ins_code") xs ys zs (colOr t n "occupancy") (colOr t n "B_iso_or_equiv")
      (colOr t n "pdbx_PDB_model_num") (colOr t n "type_symbol") (colOr t n "pdbx_formal_charge")) := by
  have hxl := lookup_length hr hx
  have hyl := lookup_length hr hy
  have hzl := lookup_length hr hz
  have l := lookup_getD_length_le hn hr
  have h1 : ((lookup t "id".toList).getD [['.']]).length = n := by rw [hid]; exact lookup_length hr hid
  have hmax : List.foldl max 0 (["group_PDB", "id", "label_atom_id", "label_alt_id", "label_comp_id", "label_asym_id",
      "label_seq_id", "pdbx_PDB_ins_code", "occupancy", "B_iso_or_equiv", "pdbx_PDB_model_num", "type_symbol",
      "pdbx_formal_charge"].map (fun k => ((lookup t k.toList).getD [['.']]).length)) = n := by
    apply foldl_max_eq
    · intro x hx
      obtain ⟨k, _, rfl⟩ := List.mem_map.mp hx
      exact l k
    · exact List.mem_map.mpr ⟨"id", by simp, h1⟩
  have hall : (["group_PDB", "id", "label_atom_id", "label_alt_id", "label_comp_id", "label_asym_id",
      "label_seq_id", "pdbx_PDB_ins_code", "occupancy", "B_iso_or_equiv", "pdbx_PDB_model_num", "type_symbol",
      "pdbx_formal_charge"].map (cifCol t n)).all (fun col => col.length = xs.length) = true := by
    rw [List.all_eq_true]
    intro c hc
    obtain ⟨k, _, rfl⟩ := List.mem_map.mp hc
    rw [cifCol_rect hn hr, colOr_length hr, hxl]; simp
  unfold loadCifTable
  rw [hx, hy, hz]
  simp only [Option.bind_eq_bind, Option.bind_some]
  rw [hmax]
  rw [if_neg (by rw [hyl, hzl, hxl]; simp), if_neg (by rw [hall]; simp)]
  simp only [cifCol_rect hn hr]

theorem zipRaw_map {α : Type} (l : List α) (f0 f1 f2 f3 f4 f5 f6 f7 f8 f9 f10 f11 f12 f13 f14 f15 : α → Str) :
    zipRaw (l.map f0) (l.map f1) (l.map f2) (l.map f3) (l.map f4) (l.map f5) (l.map f6) (l.map f7)
      (l.map f8) (l.map f9) (l.map f10) (l.map f11) (l.map f12) (l.map f13) (l.map f14) (l.map f15)
    = l.map (fun a => ⟨f0 a, f1 a, f2 a, f3 a, f4 a, f5 a, f6 a, f7 a, f8 a, f9 a, f10 a, f11 a, f12 a,
        f13 a, f14 a, f15 a⟩) := by
  induction l with
  | nil => simp [zipRaw]
  | cons a rest ih => simp only [List.map_cons, zipRaw, ih]

/-- the atom `_load_pdb` / `_load_mmcif` build from the text fields of a row and its converted numbers -/
def mkAtom (r : Raw) (s q : Int) (x y z o b : Dec) : Atom :=
  { record := strip r.record, serial := s, name := strip r.name, alt := strip r.alt,
    resName := strip r.resName, chain := strip r.chain, resSeq := q, ins := strip r.ins,
    x := x, y := y, z := z, occ := o, b := b, seg := strip r.seg, elem := strip r.elem,
    charge := strip r.charge }

theorem zipAtoms_map {α : Type} (l : List α) (R : α → Raw) (fs fq : α → Int) (fx fy fz fo fb : α → Dec) :
    zipAtoms (l.map R) (l.map fs) (l.map fq) (l.map fx) (l.map fy) (l.map fz) (l.map fo) (l.map fb)
    = l.map (fun a => mkAtom (R a) (fs a) (fq a) (fx a) (fy a) (fz a) (fo a) (fb a)) := by
  induction l with
  | nil => simp [zipAtoms]
  | cons a rest ih => simp only [List.map_cons, zipAtoms, ih, mkAtom]

/-- `convert` row by row; the occupancy and B columns enter as whole columns, because one entry that is no
number sets the whole column to zero -/
theorem convert_map {α : Type} (l : List α) (R : α → Raw) (fs fq : α → Int) (fx fy fz fo fb : α → Dec)
    (hs : ∀ a ∈ l, intCell (R a).serial = some (fs a)) (hq : ∀ a ∈ l, intCell (R a).resSeq = some (fq a))
    (hx : ∀ a ∈ l, parseDec (strip (R a).x) = some (fx a)) (hy : ∀ a ∈ l, parseDec (strip (R a).y) = some (fy a))
    (hz : ∀ a ∈ l, parseDec (strip (R a).z) = some (fz a))
    (ho : floatColumn (l.map (fun a => (R a).occ)) = l.map fo)
    (hb : floatColumn (l.map (fun a => (R a).b)) = l.map fb) :
    convert (l.map R) = some (l.map (fun a => mkAtom (R a) (fs a) (fq a) (fx a) (fy a) (fz a) (fo a) (fb a))) := by
  have eo : (l.map R).map (·.occ) = l.map (fun a => (R a).occ) := List.map_map
  have eb : (l.map R).map (·.b) = l.map (fun a => (R a).b) := List.map_map
  unfold convert
  rw [mapM_map_some l R (fun r => intCell r.serial) fs hs, mapM_map_some l R (fun r => intCell r.resSeq) fq hq,
    mapM_map_some l R (fun r => parseDec (strip r.x)) fx hx, mapM_map_some l R (fun r => parseDec (strip r.y)) fy hy,
    mapM_map_some l R (fun r => parseDec (strip r.z)) fz hz, eo, eb, ho, hb]
  simp only [Option.bind_eq_bind, Option.bind_some, Option.pure_def, zipAtoms_map]

theorem zipAtoms_eq_range (raws : List Raw) (ss qs : List Int) (xs ys zs os bs : List Dec) (n : Nat)
    (h0 : raws.length = n) (h1 : ss.length = n) (h2 : qs.length = n) (h3 : xs.length = n) (h4 : ys.length = n)
    (h5 : zs.length = n) (h6 : os.length = n) (h7 : bs.length = n) :
    zipAtoms raws ss qs xs ys zs os bs = (List.range n).map (fun j =>
      mkAtom (raws.getD j default) (ss.getD j 0) (qs.getD j 0) (xs.getD j Dec.zero) (ys.getD j Dec.zero)
        (zs.getD j Dec.zero) (os.getD j Dec.zero) (bs.getD j Dec.zero)) := by
  conv_lhs =>
    rw [← map_getD_range raws default n h0, ← map_getD_range ss 0 n h1, ← map_getD_range qs 0 n h2,
      ← map_getD_range xs Dec.zero n h3, ← map_getD_range ys Dec.zero n h4, ← map_getD_range zs Dec.zero n h5,
      ← map_getD_range os Dec.zero n h6, ← map_getD_range bs Dec.zero n h7, zipAtoms_map]

theorem mapM_some_getD {α β : Type} {f : α → Option β} {l : List α} {r : List β} (h : l.mapM f = some r)
    (da : α) (db : β) : r.length = l.length ∧ ∀ j, j < l.length → f (l.getD j da) = some (r.getD j db) := by
  refine ⟨length_mapM f l r h, ?_⟩
  induction l generalizing r with
  | nil => exact fun j hj => absurd hj (Nat.not_lt_zero j)
  | cons a rest ih =>
    obtain ⟨b, r', hfa, hr, rfl⟩ := mapM_cons_eq_some h
    intro j hj
    cases j with
    | zero => exact hfa
    | succ j => exact ih hr j (Nat.lt_of_succ_lt_succ hj)

theorem floatColumn_length (l : List Str) : (floatColumn l).length = l.length := by
  unfold floatColumn
  cases h : l.mapM (fun s => parseDec (strip s)) with
  | none => simp
  | some ds => exact (mapM_some_getD h [] Dec.zero).1

theorem convert_some_pointwise {raws : List Raw} {os : List Atom} (h : convert raws = some os) :
    os.length = raws.length ∧ ∀ j, j < raws.length →
      intCell (raws.getD j default).serial = some (os.getD j default).serial ∧
      intCell (raws.getD j default).resSeq = some (os.getD j default).resSeq ∧
      parseDec (strip (raws.getD j default).x) = some (os.getD j default).x ∧
      parseDec (strip (raws.getD j default).y) = some (os.getD j default).y ∧
      parseDec (strip (raws.getD j default).z) = some (os.getD j default).z ∧
      os.getD j default = mkAtom (raws.getD j default) (os.getD j default).serial (os.getD j default).resSeq
        (os.getD j default).x (os.getD j default).y (os.getD j default).z
        ((floatColumn (raws.map (·.occ))).getD j Dec.zero) ((floatColumn (raws.map (·.b))).getD j Dec.zero) := by
  unfold convert at h
  simp only [Option.bind_eq_bind] at h
  obtain ⟨ss, hss, h⟩ := Option.bind_eq_some_iff.mp h
  obtain ⟨qs, hqs, h⟩ := Option.bind_eq_some_iff.mp h
  obtain ⟨xs, hxs, h⟩ := Option.bind_eq_some_iff.mp h
  obtain ⟨ys, hys, h⟩ := Option.bind_eq_some_iff.mp h
  obtain ⟨zs, hzs, h⟩ := Option.bind_eq_some_iff.mp h
  simp only [Option.pure_def, Option.some.injEq] at h
  obtain ⟨l1, p1⟩ := mapM_some_getD hss default 0
  obtain ⟨l2, p2⟩ := mapM_some_getD hqs default 0
  obtain ⟨l3, p3⟩ := mapM_some_getD hxs default Dec.zero
  obtain ⟨l4, p4⟩ := mapM_some_getD hys default Dec.zero
  obtain ⟨l5, p5⟩ := mapM_some_getD hzs default Dec.zero
  have l6 : (floatColumn (raws.map (·.occ))).length = raws.length := by rw [floatColumn_length]; simp
  have l7 : (floatColumn (raws.map (·.b))).length = raws.length := by rw [floatColumn_length]; simp
  subst h
  rw [zipAtoms_eq_range raws ss qs xs ys zs _ _ raws.length rfl l1 l2 l3 l4 l5 l6 l7]
  refine ⟨by rw [List.length_map, List.length_range], ?_⟩
  intro j hj
  have ho : ∀ (f : Nat → Atom), ((List.range raws.length).map f).getD j default = f j := fun f => by
    simp [List.getD_eq_getElem?_getD, hj]
  rw [ho]
  exact ⟨p1 j hj, p2 j hj, p3 j hj, p4 j hj, p5 j hj, rfl⟩

/-- `_load_mmcif` replaces a float column by zeros as soon as one entry is no number; a selection of rows
is typed like the whole file only if the column is uniform: every entry a number, or none -/
def Uniform (l : List Str) : Prop :=
  (∀ v ∈ l, (parseDec (strip v)).isSome = true) ∨ (∀ v ∈ l, parseDec (strip v) = none)

instance (l : List Str) : Decidable (Uniform l) := by unfold Uniform; infer_instance

theorem mapM_of_isSome {α β : Type} (f : α → Option β) (l : List α) (h : ∀ v ∈ l, (f v).isSome = true) :
    ∃ r, l.mapM f = some r := by
  induction l with
  | nil => exact ⟨[], rfl⟩
  | cons a rest ih =>
    obtain ⟨r, hr⟩ := ih (fun v hv => h v (List.mem_cons_of_mem _ hv))
    obtain ⟨b, hb⟩ := Option.isSome_iff_exists.mp (h a (List.mem_cons_self ..))
    exact ⟨b :: r, by simp [List.mapM_cons, hb, hr]⟩

theorem floatColumn_sel (l : List Str) (hu : Uniform l) {α : Type} (sel : List α) (hne : sel ≠ []) (g : α → Nat)
    (hg : ∀ p ∈ sel, g p < l.length) :
    floatColumn (sel.map (fun p => l.getD (g p) [])) = sel.map (fun p => (floatColumn l).getD (g p) Dec.zero) := by
  rcases hu with hu | hu
  · obtain ⟨ds, hds⟩ := mapM_of_isSome _ l hu
    obtain ⟨_, pw⟩ := mapM_some_getD hds [] Dec.zero
    have e : floatColumn l = ds := by unfold floatColumn; rw [hds]
    rw [e]
    exact floatColumn_map sel _ _ (fun p hp => pw (g p) (hg p hp))
  · have e : floatColumn l = l.map (fun _ => Dec.zero) := by
      unfold floatColumn
      cases hm : l.mapM (fun s => parseDec (strip s)) with
      | none => rfl
      | some ds =>
        obtain ⟨_, pw⟩ := mapM_some_getD hm [] Dec.zero
        cases sel with
        | nil => exact absurd rfl hne
        | cons p _ =>
          have hp := hg p (List.mem_cons_self ..)
          have := pw (g p) hp
          rw [hu _ (getD_mem l (g p) [] hp)] at this
          cases this
    rw [e]
    unfold floatColumn
    cases sel with
    | nil => exact absurd rfl hne
    | cons p rest =>
      have hp := hg p (List.mem_cons_self ..)
      have h1 : parseDec (strip (l.getD (g p) [])) = none := hu _ (getD_mem l (g p) [] hp)
      simp only [List.map_cons, List.mapM_cons, h1]
      simp only [Option.bind_eq_bind, Option.bind_none, List.map_map, List.cons.injEq]
      refine ⟨by simp [List.getD_eq_getElem?_getD, hp], ?_⟩
      apply List.map_congr_left
      intro q hq
      have := hg q (List.mem_cons_of_mem _ hq)
      simp [List.getD_eq_getElem?_getD, this]

/-- the atom `o` at the coordinates of `a` -/
def withCoords (o a : Atom) : Atom := { o with x := a.x, y := a.y, z := a.z }

/-- row `p.1` of the file with the coordinates of atom `p.2` written into it -/
def movedRaw (raws : List Raw) (p : Nat × Atom) : Raw :=
  { raws.getD p.1 default with x := showDec p.2.x, y := showDec p.2.y, z := showDec p.2.z }

theorem convert_sel (raws : List Raw) (os : List Atom) (h : convert raws = some os)
    (ho : Uniform (raws.map (·.occ))) (hb : Uniform (raws.map (·.b)))
    (sel : List (Nat × Atom)) (hne : sel ≠ []) (hlt : ∀ p ∈ sel, p.1 < raws.length)
    (hdec : ∀ p ∈ sel, DecOk p.2.x ∧ DecOk p.2.y ∧ DecOk p.2.z) :
    convert (sel.map (movedRaw raws)) = some (sel.map (fun p => withCoords (os.getD p.1 default) p.2)) := by
  obtain ⟨_, pw⟩ := convert_some_pointwise h
  have dec : ∀ d : Dec, DecOk d → parseDec (strip (showDec d)) = some d := by
    intro d hd; rw [strip_clean (showDec_clean d hd), parseDec_showDec d hd]
  have e1 : sel.map (fun p => (movedRaw raws p).occ) = sel.map (fun p => (raws.map (·.occ)).getD p.1 []) :=
    List.map_congr_left (fun p _ => (getD_map (·.occ) raws p.1 default).symm)
  have e2 : sel.map (fun p => (movedRaw raws p).b) = sel.map (fun p => (raws.map (·.b)).getD p.1 []) :=
    List.map_congr_left (fun p _ => (getD_map (·.b) raws p.1 default).symm)
  rw [convert_map sel (movedRaw raws) (fun p => (os.getD p.1 default).serial) (fun p => (os.getD p.1 default).resSeq)
    (fun p => p.2.x) (fun p => p.2.y) (fun p => p.2.z) _ _
    (fun p hp => (pw p.1 (hlt p hp)).1) (fun p hp => (pw p.1 (hlt p hp)).2.1)
    (fun p hp => dec _ (hdec p hp).1) (fun p hp => dec _ (hdec p hp).2.1) (fun p hp => dec _ (hdec p hp).2.2)
    ((congrArg floatColumn e1).trans (floatColumn_sel _ ho sel hne (·.1) (fun p hp => by rw [List.length_map]; exact hlt p hp)))
    ((congrArg floatColumn e2).trans (floatColumn_sel _ hb sel hne (·.1) (fun p hp => by rw [List.length_map]; exact hlt p hp)))]
  congr 1
  apply List.map_congr_left
  intro p hp
  rw [(pw p.1 (hlt p hp)).2.2.2.2.2]
  rfl

/-- the sixteen texts `_load_mmcif` types for each row of a table with complete rows -/
def rawsOf (t : Table) (n : Nat) : List Raw :=
  zipRaw (colOr t n "group_PDB") (colOr t n "id") (colOr t n "label_atom_id")
    (colOr t n "label_alt_id") (colOr t n "label_comp_id") (colOr t n "label_asym_id") (colOr t n "label_seq_id")
    (colOr t n "pdbx_PDB_ins_code") (colOr t n "Cartn_x") (colOr t n "Cartn_y") (colOr t n "Cartn_z")
    (colOr t n "occupancy") (colOr t n "B_iso_or_equiv")
    (colOr t n "pdbx_PDB_model_num") (colOr t n "type_symbol") (colOr t n "pdbx_formal_charge")

theorem loadCifTable_rawsOf (t : Table) (n : Nat) (hn : 0 < n) (hr : Rect t n) (ids xs ys zs : List Str)
    (hid : lookup t "id".toList = some ids) (hx : lookup t "Cartn_x".toList = some xs)
    (hy : lookup t "Cartn_y".toList = some ys) (hz : lookup t "Cartn_z".toList = some zs) :
    loadCifTable t = convert (rawsOf t n) := by
  rw [loadCifTable_rect t n hn hr ids xs ys zs hid hx hy hz]
  unfold rawsOf
  have e1 : colOr t n "Cartn_x" = xs := by unfold colOr; rw [hx]
  have e2 : colOr t n "Cartn_y" = ys := by unfold colOr; rw [hy]
  have e3 : colOr t n "Cartn_z" = zs := by unfold colOr; rw [hz]
  rw [e1, e2, e3]

/-- row `j` of `rawsOf` -/
def rawRow (t : Table) (n : Nat) (j : Nat) : Raw :=
  let g := fun (k : String) => (colOr t n k).getD j []
  ⟨g "group_PDB", g "id", g "label_atom_id", g "label_alt_id", g "label_comp_id", g "label_asym_id", g "label_seq_id",
   g "pdbx_PDB_ins_code", g "Cartn_x", g "Cartn_y", g "Cartn_z", g "occupancy", g "B_iso_or_equiv",
   g "pdbx_PDB_model_num", g "type_symbol", g "pdbx_formal_charge"⟩

theorem rawsOf_eq (t : Table) (n : Nat) (hr : Rect t n) : rawsOf t n = (List.range n).map (rawRow t n) := by
  unfold rawsOf
  have e := fun k => (map_getD_range (colOr t n k) [] n (colOr_length hr k)).symm
  rw [e "group_PDB", e "id", e "label_atom_id", e "label_alt_id", e "label_comp_id", e "label_asym_id",
    e "label_seq_id", e "pdbx_PDB_ins_code", e "Cartn_x", e "Cartn_y", e "Cartn_z", e "occupancy",
    e "B_iso_or_equiv", e "pdbx_PDB_model_num", e "type_symbol", e "pdbx_formal_charge", zipRaw_map]
  apply List.map_congr_left
  intro j hj
  have hj' := List.mem_range.mp hj
  simp only [rawRow]

theorem rawsOf_length (t : Table) (n : Nat) (hr : Rect t n) : (rawsOf t n).length = n := by
  rw [rawsOf_eq t n hr]; simp

theorem rawsOf_getD (t : Table) (n : Nat) (hr : Rect t n) (j : Nat) (hj : j < n) :
    (rawsOf t n).getD j default = rawRow t n j := by
  rw [rawsOf_eq t n hr]; exact getD_map_range _ _ _ _ hj

theorem rawsOf_occ (t : Table) (n : Nat) (hr : Rect t n) : (rawsOf t n).map (·.occ) = colOr t n "occupancy" := by
  rw [rawsOf_eq t n hr, List.map_map]
  exact map_getD_range (colOr t n "occupancy") [] n (colOr_length hr _)

theorem rawsOf_b (t : Table) (n : Nat) (hr : Rect t n) : (rawsOf t n).map (·.b) = colOr t n "B_iso_or_equiv" := by
  rw [rawsOf_eq t n hr, List.map_map]
  exact map_getD_range (colOr t n "B_iso_or_equiv") [] n (colOr_length hr _)

theorem lookup_reuseTable (orig : Table) (js : List Nat) (data : Table) (k : Str) :
    lookup (reuseTable orig js data) k =
      if k = "Cartn_z".toList then some ((lookup data "Cartn_z".toList).getD [])
      else if k = "Cartn_y".toList then some ((lookup data "Cartn_y".toList).getD [])
      else if k = "Cartn_x".toList then some ((lookup data "Cartn_x".toList).getD [])
      else (lookup orig k).map (fun c => js.map (fun j => c.getD j [])) := by
  unfold reuseTable
  rw [lookup_setCol, lookup_setCol, lookup_setCol, lookup_selRows]

theorem lookup_reuse_other (orig : Table) (js : List Nat) (data : Table) (k : String)
    (h1 : k ≠ "Cartn_x") (h2 : k ≠ "Cartn_y") (h3 : k ≠ "Cartn_z") :
    lookup (reuseTable orig js data) k.toList = (lookup orig k.toList).map (fun c => js.map (fun j => c.getD j [])) := by
  rw [lookup_reuseTable, if_neg (toList_ne h3), if_neg (toList_ne h2), if_neg (toList_ne h1)]

theorem lookup_reuse_xyz (orig : Table) (js : List Nat) (data : Table) :
    lookup (reuseTable orig js data) "Cartn_x".toList = some ((lookup data "Cartn_x".toList).getD []) ∧
    lookup (reuseTable orig js data) "Cartn_y".toList = some ((lookup data "Cartn_y".toList).getD []) ∧
    lookup (reuseTable orig js data) "Cartn_z".toList = some ((lookup data "Cartn_z".toList).getD []) := by
  have nxy : "Cartn_x".toList ≠ "Cartn_y".toList := toList_ne (by simp)
  have nxz : "Cartn_x".toList ≠ "Cartn_z".toList := toList_ne (by simp)
  have nyz : "Cartn_y".toList ≠ "Cartn_z".toList := toList_ne (by simp)
  refine ⟨?_, ?_, ?_⟩
  · rw [lookup_reuseTable, if_neg nxz, if_neg nxy, if_pos rfl]
  · rw [lookup_reuseTable, if_neg nyz, if_pos rfl]
  · rw [lookup_reuseTable, if_pos rfl]

theorem colOr_reuse_other (orig : Table) (n : Nat) (js : List Nat) (hjs : ∀ j ∈ js, j < n) (data : Table) (k : String)
    (h1 : k ≠ "Cartn_x") (h2 : k ≠ "Cartn_y") (h3 : k ≠ "Cartn_z") :
    colOr (reuseTable orig js data) js.length k = js.map (fun j => (colOr orig n k).getD j []) := by
  unfold colOr
  rw [lookup_reuse_other orig js data _ h1 h2 h3]
  cases lookup orig k.toList with
  | some c => rfl
  | none =>
    simp only [Option.map_none]
    apply List.ext_getElem
    · simp
    · intro i hi1 hi2
      have : js[i]'(by simpa using hi2) < n := hjs _ (List.getElem_mem _)
      simp [List.getD_eq_getElem?_getD, this]

theorem cifColumns_eq (atoms : List Atom) : cifColumns atoms =
    (List.range 21).map (fun j => ((cifNames.getD j "").toList, atoms.map (fun a => (cifRow a).getD j []))) := by
  simp only [cifColumns, nthCol, List.map_map]; rfl

theorem cifColumns_names (atoms : List Atom) : (cifColumns atoms).map (·.1) = cifNames.map String.toList := by
  unfold cifColumns
  rw [List.map_map]
  exact map_range_getD cifNames "" String.toList

/-- white space, the dot and the double quote all have character codes below 47 -/
theorem nameOk_of_codes {k : Str} (h : ∀ c ∈ k, 46 < c.toNat) : NameOk k := by
  refine ⟨fun c hc => ?_, fun hm => absurd (h _ hm) (by decide), fun hm => absurd (h _ hm) (by decide)⟩
  have := h c hc
  cases hw : isWs c with
  | false => rfl
  | true =>
    simp only [isWs, Bool.or_eq_true, decide_eq_true_eq] at hw
    rcases hw with ((((((((rfl | rfl) | rfl) | rfl) | rfl) | rfl) | rfl) | rfl) | rfl) | rfl <;>
      exact absurd this (by decide)

theorem cifNames_ok : (cifNames.map String.toList).Nodup ∧ ∀ k ∈ cifNames.map String.toList, NameOk k :=
  ⟨List.Nodup.map (fun _ _ h => String.toList_injective h) (by decide +kernel),
    fun k hk => nameOk_of_codes ((by decide +kernel : ∀ k ∈ cifNames.map String.toList, ∀ c ∈ k, 46 < c.toNat) k hk)⟩

theorem lookup_cifColumns (atoms : List Atom) (j : Nat) (hj : j < 21) :
    lookup (cifColumns atoms) (cifNames.getD j "").toList = some (atoms.map (fun a => (cifRow a).getD j [])) :=
  lookup_of_mem (by rw [cifColumns_names]; exact cifNames_ok.1)
    (by rw [cifColumns_eq]; exact List.mem_map.mpr ⟨j, List.mem_range.mpr hj, rfl⟩)

theorem lookup_cifColumns_xyz (atoms : List Atom) :
    lookup (cifColumns atoms) "Cartn_x".toList = some (atoms.map (fun a => showDec a.x)) ∧
    lookup (cifColumns atoms) "Cartn_y".toList = some (atoms.map (fun a => showDec a.y)) ∧
    lookup (cifColumns atoms) "Cartn_z".toList = some (atoms.map (fun a => showDec a.z)) :=
  ⟨lookup_cifColumns atoms 10 (by decide), lookup_cifColumns atoms 11 (by decide), lookup_cifColumns atoms 12 (by decide)⟩

theorem colOr_reuse_xyz (orig : Table) (js : List Nat) (atoms : List Atom) :
    colOr (reuseTable orig js (cifColumns atoms)) js.length "Cartn_x" = atoms.map (fun a => showDec a.x) ∧
    colOr (reuseTable orig js (cifColumns atoms)) js.length "Cartn_y" = atoms.map (fun a => showDec a.y) ∧
    colOr (reuseTable orig js (cifColumns atoms)) js.length "Cartn_z" = atoms.map (fun a => showDec a.z) := by
  obtain ⟨kx, ky, kz⟩ := lookup_cifColumns_xyz atoms
  obtain ⟨hx, hy, hz⟩ := lookup_reuse_xyz orig js (cifColumns atoms)
  unfold colOr
  rw [hx, hy, hz, kx, ky, kz]
  exact ⟨rfl, rfl, rfl⟩

theorem mem_setCol {t : Table} {k : Str} {v : List Str} {kv : Str × List Str} (h : kv ∈ setCol t k v) :
    kv = (k, v) ∨ kv ∈ t := by
  unfold setCol at h
  split at h
  · obtain ⟨x, hx, e⟩ := List.mem_map.mp h
    split at e
    · exact Or.inl e.symm
    · exact Or.inr (e ▸ hx)
  · rcases List.mem_append.mp h with h | h
    · exact Or.inr h
    · exact Or.inl (by simpa using h)

theorem rect_setCol {t : Table} {m : Nat} (hr : Rect t m) (k : Str) (v : List Str) (hv : v.length = m) :
    Rect (setCol t k v) m := by
  intro kv hkv
  rcases mem_setCol hkv with rfl | h
  · exact hv
  · exact hr kv h

theorem rect_selRows (js : List Nat) (t : Table) : Rect (selRows js t) js.length := by
  intro kv hkv
  obtain ⟨x, _, rfl⟩ := List.mem_map.mp hkv
  simp

theorem rect_reuseTable (orig : Table) (js : List Nat) (atoms : List Atom) (hl : js.length = atoms.length) :
    Rect (reuseTable orig js (cifColumns atoms)) js.length := by
  obtain ⟨kx, ky, kz⟩ := lookup_cifColumns_xyz atoms
  unfold reuseTable
  rw [kx, ky, kz]
  exact rect_setCol (rect_setCol (rect_setCol (rect_selRows js orig) _ _ (by simp [hl])) _ _ (by simp [hl])) _ _
    (by simp [hl])

theorem map_zip_left {α β γ : Type} (l1 : List α) (l2 : List β) (h : l1.length = l2.length) (g : α → γ) :
    l1.map g = (l1.zip l2).map (fun p => g p.1) := by
  conv_lhs => rw [← List.map_fst_zip (l₂ := l2) (le_of_eq h), List.map_map]
  rfl

theorem map_zip_right {α β γ : Type} (l1 : List α) (l2 : List β) (h : l1.length = l2.length) (g : β → γ) :
    l2.map g = (l1.zip l2).map (fun p => g p.2) := by
  conv_lhs => rw [← List.map_snd_zip (l₁ := l1) (le_of_eq h.symm), List.map_map]
  rfl

theorem rawsOf_reuse (orig : Table) (n : Nat) (hr : Rect orig n) (js : List Nat) (atoms : List Atom)
    (hl : js.length = atoms.length) (hjs : ∀ j ∈ js, j < n) :
    rawsOf (reuseTable orig js (cifColumns atoms)) js.length = (js.zip atoms).map (movedRaw (rawsOf orig n)) := by
  obtain ⟨ex, ey, ez⟩ := colOr_reuse_xyz orig js atoms
  have o := fun (k : String) h1 h2 h3 =>
    (colOr_reuse_other orig n js hjs (cifColumns atoms) k h1 h2 h3).trans
      (map_zip_left js atoms hl (fun j => (colOr orig n k).getD j []))
  conv_lhs => unfold rawsOf
  rw [ex, ey, ez, map_zip_right js atoms hl (fun a => showDec a.x), map_zip_right js atoms hl (fun a => showDec a.y),
    map_zip_right js atoms hl (fun a => showDec a.z),
    o "group_PDB" (by simp) (by simp) (by simp), o "id" (by simp) (by simp) (by simp),
    o "label_atom_id" (by simp) (by simp) (by simp), o "label_alt_id" (by simp) (by simp) (by simp),
    o "label_comp_id" (by simp) (by simp) (by simp), o "label_asym_id" (by simp) (by simp) (by simp),
    o "label_seq_id" (by simp) (by simp) (by simp), o "pdbx_PDB_ins_code" (by simp) (by simp) (by simp),
    o "occupancy" (by simp) (by simp) (by simp), o "B_iso_or_equiv" (by simp) (by simp) (by simp),
    o "pdbx_PDB_model_num" (by simp) (by simp) (by simp), o "type_symbol" (by simp) (by simp) (by simp),
    o "pdbx_formal_charge" (by simp) (by simp) (by simp), zipRaw_map]
  apply List.map_congr_left
  intro p hp
  have hp1 : p.1 < n := hjs _ (List.of_mem_zip hp).1
  unfold movedRaw
  rw [rawsOf_getD orig n hr p.1 hp1]
  rfl

theorem loadCifTable_reuse (orig : Table) (n : Nat) (hn : 0 < n) (hr : Rect orig n) (ids xs ys zs : List Str)
    (hid : lookup orig "id".toList = some ids) (hx : lookup orig "Cartn_x".toList = some xs)
    (hy : lookup orig "Cartn_y".toList = some ys) (hz : lookup orig "Cartn_z".toList = some zs)
    (os : List Atom) (hload : loadCifTable orig = some os)
    (ho : Uniform (colOr orig n "occupancy")) (hb : Uniform (colOr orig n "B_iso_or_equiv"))
    (js : List Nat) (atoms : List Atom) (hl : js.length = atoms.length) (hne : atoms ≠ []) (hjs : ∀ j ∈ js, j < n)
    (hdec : ∀ a ∈ atoms, DecOk a.x ∧ DecOk a.y ∧ DecOk a.z) :
    loadCifTable (reuseTable orig js (cifColumns atoms)) =
      some ((js.zip atoms).map (fun p => withCoords (os.getD p.1 default) p.2)) := by
  have hm : 0 < js.length := by rw [hl]; exact List.length_pos_iff.mpr hne
  obtain ⟨hcx, hcy, hcz⟩ := lookup_reuse_xyz orig js (cifColumns atoms)
  have hidT : lookup (reuseTable orig js (cifColumns atoms)) "id".toList = some (js.map (fun j => ids.getD j [])) := by
    rw [lookup_reuse_other orig js _ "id" (by simp) (by simp) (by simp), hid]; rfl
  rw [loadCifTable_rawsOf _ js.length hm (rect_reuseTable orig js atoms hl) _ _ _ _ hidT hcx hcy hcz,
    rawsOf_reuse orig n hr js atoms hl hjs]
  have hconv : convert (rawsOf orig n) = some os := by
    rw [← loadCifTable_rawsOf orig n hn hr ids xs ys zs hid hx hy hz]; exact hload
  apply convert_sel (rawsOf orig n) os hconv (by rw [rawsOf_occ orig n hr]; exact ho)
    (by rw [rawsOf_b orig n hr]; exact hb)
  · intro e
    have := congrArg List.length e
    simp [List.length_zip, hl] at this
    exact hne this
  · intro p hp
    rw [rawsOf_length orig n hr]
    exact hjs _ (List.of_mem_zip hp).1
  · intro p hp
    exact hdec _ (List.of_mem_zip hp).2

theorem tokOk_showInt (i : Int) : TokOk (showInt i) := ⟨showInt_clean i, by
  unfold showInt; split
  · intro hm; rcases List.mem_cons.mp hm with e | hm
    · exact absurd e (by decide)
    · exact dq_not_mem_showNat _ hm
  · exact dq_not_mem_showNat _⟩

theorem tokOk_showDec (d : Dec) (hd : DecOk d) : TokOk (showDec d) := ⟨showDec_clean d hd, by
  unfold showDec
  simp only [List.mem_append, List.mem_map, not_or]
  refine ⟨⟨⟨by split <;> simp, ?_⟩, by simp⟩, ?_⟩
  · exact dq_not_mem_showNat _
  · rintro ⟨x, hx, e⟩; exact digitChar_ne_dq x (hd x hx) e⟩

theorem lineStartOk_cons (c : Char) (rest : Str)
    (h : c ≠ '#' ∧ c ≠ ';' ∧ c ≠ '_' ∧ c ≠ 'd' ∧ c ≠ 'l') : lineStartOk (c :: rest) = true := by
  obtain ⟨h1, h2, h3, h4, h5⟩ := h
  simp [lineStartOk, startsWith, List.isPrefixOf, Ne.symm h1, Ne.symm h2, Ne.symm h3, Ne.symm h4, Ne.symm h5]

theorem showDec_head (d : Dec) : ∃ c rest, showDec d = c :: rest ∧ (c = '-' ∨ IsDigit c) := by
  unfold showDec
  obtain ⟨c, t, h, hc⟩ := showNat_head d.ip
  cases d.neg
  · exact ⟨c, t ++ ['.'] ++ d.frac.map digitChar, by simp [h], Or.inr hc⟩
  · exact ⟨'-', showNat d.ip ++ ['.'] ++ d.frac.map digitChar, by simp, Or.inl rfl⟩

theorem lineStartOk_showDec (d : Dec) : lineStartOk (showDec d) = true := by
  obtain ⟨c, rest, e, hc⟩ := showDec_head d
  rw [e]
  apply lineStartOk_cons
  rcases hc with rfl | ⟨k, hk, rfl⟩
  · decide
  · interval_cases k <;> decide

theorem showDec_ne_nil (d : Dec) : showDec d ≠ [] := by
  obtain ⟨c, rest, e, _⟩ := showDec_head d
  rw [e]; simp

theorem any_of_lookup {t : Table} {k : Str} {c : List Str} (h : lookup t k = some c) :
    t.any (·.1 == k) = true :=
  List.any_eq_true.mpr ⟨(k, c), lookup_mem h, by simp⟩

theorem setCol_present (t : Table) (k : Str) (v : List Str) (h : t.any (·.1 == k) = true) :
    setCol t k v = t.map (fun kv => if kv.1 == k then (k, v) else kv) := by
  unfold setCol; rw [if_pos h]

theorem setCol_names {t : Table} {k : Str} (hk : t.any (·.1 == k) = true) (v : List Str) :
    (setCol t k v).map (·.1) = t.map (·.1) := by
  rw [setCol_present t k v hk, List.map_map]
  apply List.map_congr_left
  intro kv _
  simp only [Function.comp]
  split
  · rename_i e; exact (beq_iff_eq.mp e).symm
  · rfl

theorem headD_setCol {t : Table} {k : Str} (hk : t.any (·.1 == k) = true) (v : List Str) :
    ((setCol t k v).headD default).2 = v ∨ ((setCol t k v).headD default).2 = (t.headD default).2 := by
  rw [setCol_present t k v hk]
  cases t with
  | nil => exact Or.inr rfl
  | cons kv rest =>
    simp only [List.map_cons, List.headD_cons]
    split
    · exact Or.inl rfl
    · exact Or.inr rfl

theorem loopOk_setCol {t : Table} {n : Nat} (h : LoopOk t n) {k : Str} {v : List Str}
    (hk : t.any (·.1 == k) = true) (hl : v.length = n) (hv : ∀ x ∈ v, TokOk x)
    (hs : ∀ x ∈ v, lineStartOk x = true) : LoopOk (setCol t k v) n := by
  have hmem : ∀ kv ∈ setCol t k v, kv.2 = v ∨ kv ∈ t := fun kv hkv => (mem_setCol hkv).imp (fun e => by rw [e]) id
  refine ⟨h.rows, ?_, ?_, ?_, ?_, ?_, ?_⟩
  · intro e
    have := congrArg (List.map (·.1)) e
    rw [setCol_names hk] at this
    exact h.cols (List.map_eq_nil_iff.mp this)
  · intro kv hkv
    have : kv.1 ∈ t.map (·.1) := setCol_names hk v ▸ List.mem_map_of_mem hkv
    obtain ⟨kv', hkv', e⟩ := List.mem_map.mp this
    exact e ▸ h.names kv' hkv'
  · rw [setCol_names hk]; exact h.nodup
  · intro kv hkv
    rcases hmem kv hkv with e | h'
    · rw [e]; exact hl
    · exact h.len kv h'
  · intro kv hkv
    rcases hmem kv hkv with e | h'
    · rw [e]; exact hv
    · exact h.vals kv h'
  · rcases headD_setCol hk v with e | e <;> rw [e]
    · exact hs
    · exact h.start

theorem loopOk_mapCols {t : Table} {n : Nat} (h : LoopOk t n) (f : List Str → List Str) {m : Nat} (hm : 0 < m)
    (hl : ∀ kv ∈ t, (f kv.2).length = m) (hv : ∀ kv ∈ t, ∀ v ∈ f kv.2, TokOk v)
    (hs : ∀ v ∈ f (t.headD default).2, lineStartOk v = true) : LoopOk (t.map (fun kv => (kv.1, f kv.2))) m := by
  refine ⟨hm, by simpa using h.cols, ?_, ?_, ?_, ?_, ?_⟩
  · intro kv' hkv'; obtain ⟨kv, hkv, rfl⟩ := List.mem_map.mp hkv'; exact h.names kv hkv
  · rw [List.map_map]; exact h.nodup
  · intro kv' hkv'; obtain ⟨kv, hkv, rfl⟩ := List.mem_map.mp hkv'; exact hl kv hkv
  · intro kv' hkv'; obtain ⟨kv, hkv, rfl⟩ := List.mem_map.mp hkv'; exact hv kv hkv
  · obtain ⟨kv0, rest, rfl⟩ := List.exists_cons_of_ne_nil h.cols
    exact hs

/-- the re-used table is again a loop table that survives the file syntax, with no empty value -/
theorem loopOk_reuse (orig : Table) (n : Nat) (h : LoopOk orig n) (hnev : ∀ kv ∈ orig, ∀ v ∈ kv.2, v ≠ [])
    (xs ys zs : List Str) (hx : lookup orig "Cartn_x".toList = some xs) (hy : lookup orig "Cartn_y".toList = some ys)
    (hz : lookup orig "Cartn_z".toList = some zs)
    (js : List Nat) (atoms : List Atom) (hl : js.length = atoms.length) (hne : atoms ≠ []) (hjs : ∀ j ∈ js, j < n)
    (hdec : ∀ a ∈ atoms, DecOk a.x ∧ DecOk a.y ∧ DecOk a.z) :
    LoopOk (reuseTable orig js (cifColumns atoms)) js.length ∧
    ∀ kv ∈ reuseTable orig js (cifColumns atoms), ∀ v ∈ kv.2, v ≠ [] := by
  obtain ⟨kx, ky, kz⟩ := lookup_cifColumns_xyz atoms
  have hlen : 0 < js.length := by rw [hl]; exact List.length_pos_iff.mpr hne
  have hsel : ∀ kv ∈ orig, ∀ v ∈ js.map (fun j => kv.2.getD j []), v ∈ kv.2 := by
    intro kv hkv v hv
    obtain ⟨j, hj, rfl⟩ := List.mem_map.mp hv
    exact getD_mem kv.2 j [] (by rw [h.len kv hkv]; exact hjs j hj)
  have hd : ∀ (f : Atom → Dec), (∀ a ∈ atoms, DecOk (f a)) →
      (atoms.map (fun a => showDec (f a))).length = js.length ∧
      ∀ v ∈ atoms.map (fun a => showDec (f a)), TokOk v ∧ lineStartOk v = true ∧ v ≠ [] := by
    intro f hf
    refine ⟨by rw [List.length_map, hl], ?_⟩
    intro v hv
    obtain ⟨a, ha, rfl⟩ := List.mem_map.mp hv
    exact ⟨tokOk_showDec _ (hf a ha), lineStartOk_showDec _, showDec_ne_nil _⟩
  obtain ⟨lx, vx⟩ := hd (·.x) (fun a ha => (hdec a ha).1)
  obtain ⟨ly, vy⟩ := hd (·.y) (fun a ha => (hdec a ha).2.1)
  obtain ⟨lz, vz⟩ := hd (·.z) (fun a ha => (hdec a ha).2.2)
  have nyx : "Cartn_y".toList ≠ "Cartn_x".toList := toList_ne (by simp)
  have nzx : "Cartn_z".toList ≠ "Cartn_x".toList := toList_ne (by simp)
  have nzy : "Cartn_z".toList ≠ "Cartn_y".toList := toList_ne (by simp)
  unfold reuseTable
  rw [kx, ky, kz]
  simp only [Option.getD_some]
  have s0 : LoopOk (selRows js orig) js.length :=
    loopOk_mapCols h (fun c => js.map (fun j => c.getD j [])) hlen (fun _ _ => List.length_map _) (fun kv hkv v hv => h.vals kv hkv v (hsel kv hkv v hv))
      (by
        obtain ⟨kv0, rest, rfl⟩ := List.exists_cons_of_ne_nil h.cols
        exact fun v hv => h.start v (hsel kv0 (List.mem_cons_self ..) v hv))
  have s1 := loopOk_setCol s0 (any_of_lookup (by rw [lookup_selRows, hx]; rfl)) lx (fun v hv => (vx v hv).1)
    (fun v hv => (vx v hv).2.1)
  have s2 := loopOk_setCol s1 (any_of_lookup (by rw [lookup_setCol, if_neg nyx, lookup_selRows, hy]; rfl)) ly
    (fun v hv => (vy v hv).1) (fun v hv => (vy v hv).2.1)
  have s3 := loopOk_setCol s2
    (any_of_lookup (by rw [lookup_setCol, if_neg nzy, lookup_setCol, if_neg nzx, lookup_selRows, hz]; rfl)) lz
    (fun v hv => (vz v hv).1) (fun v hv => (vz v hv).2.1)
  refine ⟨s3, ?_⟩
  intro kv hkv v hv
  rcases mem_setCol hkv with rfl | hkv
  · exact (vz v hv).2.2
  rcases mem_setCol hkv with rfl | hkv
  · exact (vy v hv).2.2
  rcases mem_setCol hkv with rfl | hkv
  · exact (vx v hv).2.2
  obtain ⟨kv', hkv', rfl⟩ := List.mem_map.mp hkv
  exact hnev kv' hkv' v (hsel kv' hkv' v hv)

theorem loadCifTable_some_xyz {t : Table} {os : List Atom} (h : loadCifTable t = some os) :
    ∃ xs ys zs, lookup t "Cartn_x".toList = some xs ∧ lookup t "Cartn_y".toList = some ys ∧
      lookup t "Cartn_z".toList = some zs := by
  simp only [loadCifTable, Option.bind_eq_bind, Option.bind_eq_some_iff] at h
  obtain ⟨xs, hx, ys, hy, zs, hz, _⟩ := h
  exact ⟨xs, ys, zs, hx, hy, hz⟩

theorem map_eq_zip {α β γ : Type} {l1 : List α} {l2 : List β} {f : α → γ} {g : β → γ}
    (h : l1.map f = l2.map g) : ∀ p ∈ l1.zip l2, f p.1 = g p.2 := by
  induction l1 generalizing l2 with
  | nil => simp
  | cons a l1 ih =>
    cases l2 with
    | nil => simp
    | cons b l2 =>
      simp only [List.map_cons, List.cons.injEq] at h
      intro p hp
      simp only [List.zip_cons_cons, List.mem_cons] at hp
      rcases hp with rfl | hp
      · exact h.1
      · exact ih h.2 p hp

theorem map_tok_id (t : Table) (h : ∀ kv ∈ t, ∀ v ∈ kv.2, v ≠ []) :
    t.map (fun kv => (kv.1, kv.2.map tok)) = t := by
  have : ∀ kv ∈ t, (fun kv : Str × List Str => (kv.1, kv.2.map tok)) kv = kv := by
    intro kv hkv
    have : kv.2.map tok = kv.2 := by
      have e : ∀ v ∈ kv.2, tok v = id v := by
        intro v hv
        unfold tok
        cases v with
        | nil => exact absurd rfl (h kv hkv _ hv)
        | cons _ _ => rfl
      rw [List.map_congr_left e, List.map_id]
    simp only [this]
  rw [List.map_congr_left this, List.map_id']

theorem withCoords_idem (o a : Atom) : withCoords (withCoords o a) a = withCoords o a := rfl

theorem writeCif_none {as : List Atom} (h : ∀ a ∈ as, a.chain ≠ []) :
    writeCif none as = some (writeLoop atomSite (cifColumns as)) := by
  unfold writeCif; rw [all_pdbWritable h]; rfl

theorem writeCif_reuse {orig t : Table} {as : List Atom} (h : ∀ a ∈ as, a.chain ≠ [])
    (ht : reuseOriginal orig as (cifColumns as) = some t) : writeCif (some orig) as = some (writeLoop atomSite t) := by
  unfold writeCif; rw [all_pdbWritable h]; simp only [ht]; rfl

theorem reuse_some {orig : Table} {n : Nat} (hr : Rect orig n) {oids : List Str}
    (hid : lookup orig "id".toList = some oids) {atoms : List Atom} {data t : Table}
    (h : reuseOriginal orig atoms data = some t) :
    oids.Nodup ∧ ∃ js, js.length = atoms.length ∧ (∀ j ∈ js, j < n) ∧
      js.map (fun j => oids.getD j []) = atoms.map (fun a => showInt a.serial) ∧ t = reuseTable orig js data := by
  rw [reuseOriginal_rect orig n hr oids hid] at h
  by_cases hnd : oids.Nodup
  · simp only [hnd, not_true_eq_false, if_false] at h
    cases hjs : (atoms.map (fun a => a.serial - 1)).mapM (resolve n) with
    | none => rw [hjs] at h; cases h
    | some js =>
      rw [hjs] at h
      simp only at h
      split at h
      · cases h
      · rename_i hids
        simp only [ne_eq, not_not] at hids
        refine ⟨hnd, js, ?_, ?_, hids, (Option.some.inj h).symm⟩
        · have := (mapM_some_getD hjs 0 0).1; simpa using this
        · intro j hj
          obtain ⟨i, hi, rfl⟩ := List.mem_iff_getElem.mp hj
          obtain ⟨hl, pw⟩ := mapM_some_getD hjs 0 0
          exact resolve_lt ((pw i (hl ▸ hi)).trans (by simp [List.getD_eq_getElem?_getD, hi]))
  · simp only [hnd, not_false_eq_true, if_true] at h; cases h

theorem loopOk_map_tok {t : Table} {n : Nat} (h : LoopOk t n) :
    LoopOk (t.map (fun kv => (kv.1, kv.2.map tok))) n ∧
    ∀ kv ∈ t.map (fun kv => (kv.1, kv.2.map tok)), ∀ v ∈ kv.2, v ≠ [] := by
  refine ⟨loopOk_mapCols h (List.map tok) h.rows (fun kv hkv => by rw [List.length_map]; exact h.len kv hkv)
    (fun kv hkv v hv => by obtain ⟨w, hw, rfl⟩ := List.mem_map.mp hv; exact tok_ok (h.vals kv hkv w hw))
    (fun v hv => by obtain ⟨w, hw, rfl⟩ := List.mem_map.mp hv; exact tok_lineStartOk (h.start w hw)), ?_⟩
  intro kv' hkv' v hv
  obtain ⟨kv, hkv, rfl⟩ := List.mem_map.mp hkv'
  obtain ⟨w, hw, rfl⟩ := List.mem_map.mp hv
  exact tok_ne_nil w

end Pm.C09
