import PytmeModel.Model.C11
import Mathlib.Tactic.Ring
import Mathlib.Tactic.Linarith

/-! C11: splitting / joining / stripping token lists and rendered lines, header-driven column selection and the name
lists of the text format, integer and boolean selection (`normIndex`, `takeIdx`, `maskSel`, `Orient.getIdx`), the Dynamo
row, and the block transpose of the STAR parser. -/
namespace Pm.C11

theorem length_eq_three {α : Type} {l : List α} (h : l.length = 3) : ∃ a b c, l = [a, b, c] :=
  match l, h with
  | [a, b, c], _ => ⟨a, b, c, rfl⟩

/-- the catch-all case of a recursion over two lists: one of them is empty -/
theorem nil_of_no_cons₂ {α β : Type} (a : List α) (b : List β)
    (h : ∀ x xs y ys, a = x :: xs → b = y :: ys → False) : a = [] ∨ b = [] := by
  cases a with
  | nil => exact .inl rfl
  | cons x xs => cases b with
    | nil => exact .inr rfl
    | cons y ys => exact (h x xs y ys rfl rfl).elim

theorem nil_of_no_cons₃ {α β γ : Type} (a : List α) (b : List β) (c : List γ)
    (h : ∀ x xs y ys z zs, a = x :: xs → b = y :: ys → c = z :: zs → False) : a = [] ∨ b = [] ∨ c = [] := by
  cases a with
  | nil => exact .inl rfl
  | cons x xs => cases b with
    | nil => exact .inr (.inl rfl)
    | cons y ys => cases c with
      | nil => exact .inr (.inr rfl)
      | cons z zs => exact (h x xs y ys z zs rfl rfl rfl).elim

theorem splitBy_none (p : Char → Bool) (t : Str) (h : ∀ c ∈ t, p c = false) : splitBy p t = [t] := by
  induction t with
  | nil => rfl
  | cons c cs ih =>
    have hc : p c = false := h c (by simp)
    have := ih (fun x hx => h x (by simp [hx]))
    simp [splitBy, hc, this]

theorem splitBy_append_sep (p : Char → Bool) (t : Str) (sep : Char) (rest : Str)
    (h : ∀ c ∈ t, p c = false) (hs : p sep = true) :
    splitBy p (t ++ sep :: rest) = t :: splitBy p rest := by
  induction t with
  | nil => simp [splitBy, hs]
  | cons c cs ih =>
    have hc : p c = false := h c (by simp)
    have := ih (fun x hx => h x (by simp [hx]))
    simp [splitBy, hc, this]

theorem splitBy_joinSep (p : Char → Bool) (sep : Char) (hs : p sep = true) (ts : List Str)
    (hne : ts ≠ []) (h : ∀ t ∈ ts, ∀ c ∈ t, p c = false) : splitBy p (joinSep sep ts) = ts := by
  induction ts with
  | nil => exact absurd rfl hne
  | cons t ts ih =>
    cases ts with
    | nil => simpa [joinSep] using splitBy_none p t (h t (by simp))
    | cons t' ts' =>
      simp only [joinSep]
      rw [splitBy_append_sep p t sep _ (h t (by simp)) hs]
      rw [ih (by simp) (fun x hx => h x (by simp [hx]))]

theorem dropWhile_eq_self {α} (p : α → Bool) (l : List α) (h : ∀ c, l.head? = some c → p c = false) :
    l.dropWhile p = l := by
  cases l with
  | nil => rfl
  | cons a as => simp [h a (by simp)]

theorem strip_eq_self (s : Str) (h1 : ∀ c, s.head? = some c → isWs c = false)
    (h2 : ∀ c, s.getLast? = some c → isWs c = false) : strip s = s := by
  unfold strip lstrip rstrip
  rw [dropWhile_eq_self isWs s h1]
  rw [dropWhile_eq_self isWs s.reverse (by simpa [List.head?_reverse] using h2)]
  simp

theorem joinSep_head? (sep : Char) (t : Str) (ts : List Str) (ht : t ≠ []) :
    (joinSep sep (t :: ts)).head? = t.head? := by
  cases ts with
  | nil => simp [joinSep]
  | cons t' ts' =>
    cases t with
    | nil => exact absurd rfl ht
    | cons c cs => simp [joinSep]

theorem joinSep_ne_nil (sep : Char) (t : Str) (ts : List Str) (ht : t ≠ []) : joinSep sep (t :: ts) ≠ [] := by
  cases t with
  | nil => exact absurd rfl ht
  | cons c cs => cases ts <;> simp [joinSep]

theorem joinSep_append (sep : Char) (a b : List Str) (ha : a ≠ []) (hb : b ≠ []) :
    joinSep sep (a ++ b) = joinSep sep a ++ sep :: joinSep sep b := by
  induction a with
  | nil => exact absurd rfl ha
  | cons t ts ih =>
    cases ts with
    | nil =>
      cases b with
      | nil => exact absurd rfl hb
      | cons u us => rfl
    | cons t' ts' =>
      have := ih (List.cons_ne_nil _ _)
      simp only [List.cons_append, joinSep] at this ⊢
      rw [this, List.append_assoc, List.cons_append]

theorem joinSep_append_opt (sep : Char) (a : List Str) (o : Option Str) (ha : a ≠ []) :
    joinSep sep (a ++ o.toList) = joinSep sep a ++ (match o with | some s => sep :: s | none => []) := by
  cases o with
  | none => simp only [Option.toList_none, List.append_nil]
  | some s => exact joinSep_append sep a [s] ha (List.cons_ne_nil _ _)

theorem joinSep_getLast_mem (sep : Char) (ts : List Str) (h : ∀ t ∈ ts, t ≠ []) :
    ∀ c, (joinSep sep ts).getLast? = some c → ∃ t ∈ ts, c ∈ t := by
  induction ts with
  | nil => intro c hc; simp [joinSep] at hc
  | cons t ts ih =>
    cases ts with
    | nil =>
      intro c hc
      simp only [joinSep] at hc
      exact ⟨t, by simp, List.mem_of_getLast? hc⟩
    | cons t' ts' =>
      intro c hc
      have hJ := joinSep_ne_nil sep t' ts' (h t' (by simp))
      have hc' : (t ++ sep :: joinSep sep (t' :: ts')).getLast? = some c := by simpa [joinSep] using hc
      rw [List.getLast?_append, List.getLast?_cons] at hc'
      cases hl : (joinSep sep (t' :: ts')).getLast? with
      | none => rw [List.getLast?_eq_none_iff] at hl; exact absurd hl hJ
      | some x =>
        rw [hl] at hc'
        simp at hc'
        obtain ⟨u, hu, hcu⟩ := ih (fun x hx => h x (by simp [hx])) x hl
        exact ⟨u, List.mem_cons_of_mem _ hu, hc' ▸ hcu⟩

def rowWf (toks : List Str) : Prop := toks ≠ [] ∧ ∀ t ∈ toks, t ≠ [] ∧ ∀ c ∈ t, isWs c = false

theorem rowWf_joinSep_ne_nil (sep : Char) (toks : List Str) (hw : rowWf toks) : joinSep sep toks ≠ [] := by
  cases toks with
  | nil => exact absurd rfl hw.1
  | cons t ts => exact joinSep_ne_nil sep t ts (hw.2 t List.mem_cons_self).1

theorem strip_joinSep (sep : Char) (toks : List Str) (h : rowWf toks) :
    strip (joinSep sep toks) = joinSep sep toks := by
  obtain ⟨hne, ht⟩ := h
  apply strip_eq_self
  · intro c hc
    cases toks with
    | nil => exact absurd rfl hne
    | cons t ts =>
      rw [joinSep_head? sep t ts (ht t (by simp)).1] at hc
      exact (ht t (by simp)).2 c (List.mem_of_mem_head? hc)
  · intro c hc
    obtain ⟨t, htm, hct⟩ := joinSep_getLast_mem sep toks (fun t h => (ht t h).1) c hc
    exact (ht t htm).2 c hct

theorem isWs_nl : isWs '\n' = true := by decide

theorem mem_joinSep (sep : Char) (ts : List Str) (c : Char) (h : c ∈ joinSep sep ts) :
    c = sep ∨ ∃ t ∈ ts, c ∈ t := by
  induction ts with
  | nil => simp [joinSep] at h
  | cons t ts ih =>
    cases ts with
    | nil => right; exact ⟨t, by simp, by simpa [joinSep] using h⟩
    | cons t' ts' =>
      simp only [joinSep, List.mem_append, List.mem_cons] at h
      rcases h with h | h | h
      · right; exact ⟨t, by simp, h⟩
      · left; exact h
      · rcases ih h with h | ⟨u, hu, hc⟩
        · left; exact h
        · right; exact ⟨u, List.mem_cons_of_mem _ hu, hc⟩

theorem renderLines_cons (sep : Char) (toks : List Str) (rest : List (List Str)) :
    renderLines sep (toks :: rest) = joinSep sep toks ++ '\n' :: renderLines sep rest := by
  simp [renderLines]

theorem rowWf_noSep (sep : Char) (hsep : isWs sep = true) (toks : List Str) (hw : rowWf toks) :
    ∀ t ∈ toks, ∀ c ∈ t, (c == sep) = false := by
  intro t ht c hct
  have := (hw.2 t ht).2 c hct
  cases hcn : c == sep with
  | false => rfl
  | true => rw [beq_iff_eq] at hcn; subst hcn; rw [hsep] at this; cases this

theorem joinSep_noNl (sep : Char) (hnl : sep ≠ '\n') (toks : List Str) (hw : rowWf toks) :
    ∀ c ∈ joinSep sep toks, (c == '\n') = false := by
  intro c hc
  rcases mem_joinSep sep toks c hc with rfl | ⟨t, ht, hct⟩
  · simpa using hnl
  · exact rowWf_noSep '\n' isWs_nl toks hw t ht c hct

theorem splitOn_nl_lines (L : List Str) (h : ∀ l ∈ L, ∀ c ∈ l, (c == '\n') = false) :
    splitOn '\n' (L.flatMap (fun l => l ++ ['\n'])) = L ++ [[]] := by
  induction L with
  | nil => simp [splitOn, splitBy]
  | cons l rest ih =>
    have ih' := ih (fun t ht => h t (by simp [ht]))
    unfold splitOn at ih' ⊢
    have : (l :: rest).flatMap (fun l => l ++ ['\n']) = l ++ '\n' :: rest.flatMap (fun l => l ++ ['\n']) := by simp
    rw [this, splitBy_append_sep _ _ _ _ (h l (by simp)) (by simp), ih']
    simp

theorem splitOn_nl_renderLines (sep : Char) (hnl : sep ≠ '\n') (table : List (List Str))
    (h : ∀ toks ∈ table, rowWf toks) :
    splitOn '\n' (renderLines sep table) = table.map (joinSep sep) ++ [[]] := by
  rw [← splitOn_nl_lines (table.map (joinSep sep)) (fun l hl => by
    obtain ⟨toks, ht, rfl⟩ := List.mem_map.mp hl
    exact joinSep_noNl sep hnl toks (h toks ht)), List.flatMap_map]
  rfl

theorem splitOn_joinSep (sep : Char) (hsep : isWs sep = true) (toks : List Str) (hw : rowWf toks) :
    splitOn sep (strip (joinSep sep toks)) = toks := by
  unfold splitOn
  rw [strip_joinSep sep toks hw, splitBy_joinSep (· == sep) sep (by simp) toks hw.1 (rowWf_noSep sep hsep toks hw)]

theorem mem_zip_iff_getElem? {α β : Type} {l₁ : List α} {l₂ : List β} {a : α} {b : β} :
    (a, b) ∈ l₁.zip l₂ ↔ ∃ k : Nat, l₁[k]? = some a ∧ l₂[k]? = some b := by
  rw [List.mem_iff_getElem?]
  exact exists_congr fun _ => List.getElem?_zip_eq_some

theorem map_map_cancel {α β : Type} (f : α → β) (g : β → α) (l : List α) (h : ∀ x ∈ l, g (f x) = x) :
    (l.map f).map g = l := by
  rw [List.map_map]
  exact (List.map_congr_left h).trans (List.map_id l)

theorem parseLines_renderLines (sep : Char) (hsep : isWs sep = true) (hnl : sep ≠ '\n') (table : List (List Str))
    (h : ∀ toks ∈ table, rowWf toks) :
    parseLines sep (renderLines sep table) = table ++ [[[]]] := by
  rw [parseLines, splitOn_nl_renderLines sep hnl table h, List.map_append,
    map_map_cancel (joinSep sep) (fun l => splitOn sep (strip l)) table
      (fun toks ht => splitOn_joinSep sep hsep toks (h toks ht))]
  rfl

theorem selectCols_append (pred : Str → Bool) (hs cs hs' cs' : List Str) (hl : hs.length = cs.length) :
    selectCols pred (hs ++ hs') (cs ++ cs') =
      (selectCols pred hs cs).bind fun a => (selectCols pred hs' cs').map (a ++ ·) := by
  induction hs generalizing cs with
  | nil =>
    cases List.eq_nil_of_length_eq_zero hl.symm
    cases h : selectCols pred hs' cs' <;> simp [selectCols, Except.bind, Except.map, h, pure, Except.pure]
  | cons x xs ih =>
    cases cs with
    | nil => cases hl
    | cons c cs =>
      have := ih cs (Nat.succ.inj hl)
      simp only [List.cons_append, selectCols, this]
      split
      · cases selectCols pred xs cs <;> cases selectCols pred hs' cs' <;> rfl
      · rfl

theorem selectCols_none_nil (pred : Str → Bool) (hs cs : List Str)
    (h : ∀ x ∈ hs, pred x = false) : selectCols pred hs cs = .ok [] := by
  induction hs generalizing cs with
  | nil => cases cs <;> rfl
  | cons x xs ih =>
    have hx := h x (by simp)
    cases cs with
    | nil => simp [selectCols, hx]; exact ih [] (fun y hy => h y (by simp [hy]))
    | cons c cs => simp [selectCols, hx]; exact ih cs (fun y hy => h y (by simp [hy]))

theorem naming_isTransName : ∀ c ∈ naming, isTransName [c] = true := by decide +kernel

theorem isEulerName_single (c : Char) : isEulerName [c] = false := by
  simp [isEulerName, isInfix, eulerS, List.isPrefixOf]

theorem removeAll_eulerPrefix (c : Char) : removeAll eulerPrefix (eulerPrefix ++ [c]) = [c] := by
  simp [removeAll, removeAux, eulerPrefix, List.isPrefixOf]

theorem naming_trans : ∀ c ∈ naming, isTransName [c] = true ∧ isEulerName [c] = false :=
  fun c hc => ⟨naming_isTransName c hc, isEulerName_single c⟩

/-- `euler_c` is never a translation name (no two letters of `euler_` are neighbours in the alphabet), always
contains `euler`, and sorts as an angle name when `c`, what is left after removing the prefix, is a letter -/
theorem naming_euler : ∀ c ∈ naming, isTransName (eulerPrefix ++ [c]) = false ∧ isEulerName (eulerPrefix ++ [c]) = true
    ∧ isSortedEulerName (eulerPrefix ++ [c]) = true := by
  intro c hc
  refine ⟨rfl, rfl, ?_⟩
  rw [isSortedEulerName, removeAll_eulerPrefix, naming_isTransName c hc]
  rfl
theorem tail_notTrans : ∀ x ∈ [scoreS, detailS], isTransName x = false := by decide
theorem tail_notEuler : ∀ x ∈ [scoreS, detailS], isEulerName x = false := by decide
theorem tail_notSorted : ∀ x ∈ [scoreS, detailS], isSortedEulerName x = false := by decide


theorem namingMap_length (f : Char → Str) (n : Nat) (hn : n ≤ 26) : ((naming.take n).map f).length = n := by
  rw [List.length_map, List.length_take]
  exact Nat.min_eq_left hn

theorem namingMap_getD (f : Char → Str) (n k : Nat) (hn : n ≤ 26) (hk : k < n) :
    ((naming.take n).map f).getD k [] = f (naming.getD k 'a') := by
  have h1 : k < naming.length := Nat.lt_of_lt_of_le hk hn
  rw [List.getD_eq_getElem?_getD, List.getD_eq_getElem?_getD, List.getElem?_map, List.getElem?_take_of_lt hk,
    List.getElem?_eq_getElem h1]
  rfl

theorem transNames_length (d : Nat) (hd : d ≤ 26) : (transNames d).length = d := namingMap_length _ d hd
theorem eulerNames_length (r : Nat) (hr : r ≤ 26) : (eulerNames r).length = r := namingMap_length _ r hr

theorem mem_transNames {d : Nat} {h : Str} (hm : h ∈ transNames d) : ∃ c ∈ naming, h = [c] := by
  simp only [transNames, List.mem_map] at hm
  obtain ⟨c, hc, rfl⟩ := hm
  exact ⟨c, List.mem_of_mem_take hc, rfl⟩
theorem mem_eulerNames {r : Nat} {h : Str} (hm : h ∈ eulerNames r) : ∃ c ∈ naming, h = eulerPrefix ++ [c] := by
  simp only [eulerNames, List.mem_map] at hm
  obtain ⟨c, hc, rfl⟩ := hm
  exact ⟨c, List.mem_of_mem_take hc, rfl⟩

theorem mapM_ok {α β : Type} (f : α → Except Err β) (g : α → β) (l : List α)
    (h : ∀ x ∈ l, f x = .ok (g x)) : l.mapM f = .ok (l.map g) := by
  induction l with
  | nil => rfl
  | cons x xs ih =>
    rw [List.mapM_cons, h x (by simp), ih (fun y hy => h y (by simp [hy]))]
    rfl

structure RowOk (d r : Nat) (row : Row) : Prop where
  lt : row.trans.length = d
  lr : row.rot.length = r

theorem getD_append_pair (l : List Str) (s t : Str) :
    (l ++ [s, t]).getD l.length [] = s ∧ (l ++ [s, t]).getD (l.length + 1) [] = t := by
  rw [List.getD_eq_getElem?_getD, List.getD_eq_getElem?_getD, List.getElem?_append_right (Nat.le_refl _),
    List.getElem?_append_right (Nat.le_add_right _ _), Nat.sub_self, Nat.add_sub_cancel_left]
  exact ⟨rfl, rfl⟩

theorem pick_range (row : List Str) : pick row (List.range row.length) = .ok row := by
  unfold pick
  rw [mapM_ok _ (fun i => row.getD i []) _ ?_]
  · congr 1
    apply List.ext_getElem
    · simp
    · intro i h1 h2; simp at h1 h2 ⊢; simp [List.getD_eq_getElem?_getD, h2]
  · intro i hi
    simp only [List.mem_range] at hi
    simp [List.getElem?_eq_getElem hi, List.getD_eq_getElem?_getD, pure, Except.pure]

theorem normIndex_spec (n : Nat) (i : Int) (j : Nat) (h : normIndex n i = .ok j) :
    j < n ∧ ((0 ≤ i ∧ (j : Int) = i) ∨ (i < 0 ∧ (j : Int) = i + n)) := by
  unfold normIndex at h
  split at h
  · injection h with h; subst h; omega
  · split at h
    · injection h with h; subst h; omega
    · cases h

theorem normIndex_ok (n : Nat) (i : Int) (h : -(n : Int) ≤ i ∧ i < n) : ∃ j, normIndex n i = .ok j := by
  unfold normIndex
  by_cases h0 : 0 ≤ i ∧ i < n
  · exact ⟨_, by rw [if_pos h0]; rfl⟩
  · rw [if_neg h0]
    have : i < 0 ∧ -(n : Int) ≤ i := by omega
    exact ⟨_, by rw [if_pos this]; rfl⟩

theorem takeIdx_cons {α : Type} (l : List α) (i : Int) (is : List Int) :
    takeIdx l (i :: is) = (do
      let k ← normIndex l.length i
      let x ← (match l[k]? with | some x => pure x | Option.none => throw Err.indexError : Except Err α)
      let rest ← takeIdx l is
      pure (x :: rest)) := by
  unfold takeIdx
  rw [List.mapM_cons]
  simp only [bind_assoc, map_eq_pure_bind]
  rfl

theorem takeIdx_cons_ok {α : Type} {l : List α} {i : Int} {is : List Int} {out : List α}
    (h : takeIdx l (i :: is) = .ok out) :
    ∃ j rest, normIndex l.length i = .ok j ∧ ∃ hj : j < l.length, takeIdx l is = .ok rest ∧ out = l[j] :: rest := by
  rw [takeIdx_cons] at h
  cases hn : normIndex l.length i with
  | error e => rw [hn] at h; cases h
  | ok j =>
    have hj := (normIndex_spec _ _ _ hn).1
    cases hr : takeIdx l is with
    | error e => rw [hn, hr] at h; simp only [bind, Except.bind, List.getElem?_eq_getElem hj, pure, Except.pure] at h; cases h
    | ok rest =>
      rw [hn, hr] at h
      simp only [bind, Except.bind, List.getElem?_eq_getElem hj, pure, Except.pure] at h
      injection h with h
      exact ⟨j, rest, rfl, hj, rfl, h.symm⟩

theorem takeIdx_cons_of {α : Type} {l : List α} {i : Int} {is : List Int} {j : Nat} {rest : List α}
    (hn : normIndex l.length i = .ok j) (hj : j < l.length) (hr : takeIdx l is = .ok rest) :
    takeIdx l (i :: is) = .ok (l[j] :: rest) := by
  rw [takeIdx_cons, hn, hr]
  simp only [bind, Except.bind, List.getElem?_eq_getElem hj, pure, Except.pure]

theorem takeIdx_spec {α : Type} (l : List α) (idx : List Int) (out : List α) (h : takeIdx l idx = .ok out) :
    out.length = idx.length ∧
    ∀ k (hk : k < idx.length), ∃ j, normIndex l.length idx[k] = .ok j ∧ j < l.length ∧ out[k]? = l[j]? := by
  induction idx generalizing out with
  | nil => cases h; exact ⟨rfl, fun k hk => absurd hk (Nat.not_lt_zero k)⟩
  | cons i is ih =>
    obtain ⟨j, rest, hn, hj, hr, rfl⟩ := takeIdx_cons_ok h
    obtain ⟨hl, hk⟩ := ih rest hr
    refine ⟨congrArg (· + 1) hl, fun k hk' => ?_⟩
    cases k with
    | zero => exact ⟨j, hn, hj, (List.getElem?_eq_getElem hj).symm⟩
    | succ k => exact hk k (Nat.lt_of_succ_lt_succ hk')

theorem takeIdx_ok {α : Type} (l : List α) (idx : List Int) (h : ∀ i ∈ idx, -(l.length : Int) ≤ i ∧ i < l.length) :
    ∃ out, takeIdx l idx = .ok out := by
  induction idx with
  | nil => exact ⟨[], rfl⟩
  | cons i is ih =>
    obtain ⟨rest, hr⟩ := ih (fun x hx => h x (List.mem_cons_of_mem _ hx))
    obtain ⟨j, hj⟩ := normIndex_ok l.length i (h i List.mem_cons_self)
    exact ⟨_, takeIdx_cons_of hj (normIndex_spec _ _ _ hj).1 hr⟩

theorem Orient.getIdx_ok {τ ρ σ δ : Type} {o o' : Orient τ ρ σ δ} {idx : List Int} (h : o.getIdx idx = .ok o') :
    takeIdx o.translations idx = .ok o'.translations ∧ takeIdx o.rotations idx = .ok o'.rotations ∧
    takeIdx o.scores idx = .ok o'.scores ∧ takeIdx o.details idx = .ok o'.details := by
  unfold Orient.getIdx at h
  cases h1 : takeIdx o.translations idx with
  | error e => rw [h1] at h; cases h
  | ok a =>
    cases h2 : takeIdx o.rotations idx with
    | error e => rw [h1, h2] at h; cases h
    | ok b =>
      cases h3 : takeIdx o.scores idx with
      | error e => rw [h1, h2, h3] at h; cases h
      | ok c =>
        cases h4 : takeIdx o.details idx with
        | error e => rw [h1, h2, h3, h4] at h; cases h
        | ok d =>
          rw [h1, h2, h3, h4] at h
          cases h
          exact ⟨rfl, rfl, rfl, rfl⟩

theorem takeMask_ok {α : Type} (l : List α) (mask : List Bool) (h : mask.length = l.length) :
    takeMask l mask = .ok (maskSel l mask) := by
  simp [takeMask, h, pure, Except.pure]

theorem Orient.getMask_ok {τ ρ σ δ : Type} (o : Orient τ ρ σ δ) (m : List Bool)
    (ht : o.translations.length = m.length) (hr : o.rotations.length = m.length)
    (hs : o.scores.length = m.length) (hd : o.details.length = m.length) :
    o.getMask m = .ok ⟨maskSel o.translations m, maskSel o.rotations m, maskSel o.scores m, maskSel o.details m⟩ := by
  rw [Orient.getMask, takeMask_ok _ m ht.symm, takeMask_ok _ m hr.symm, takeMask_ok _ m hs.symm, takeMask_ok _ m hd.symm]
  rfl

theorem maskSel_eq_filter {α : Type} (l : List α) (mask : List Bool) :
    maskSel l mask = ((l.zip mask).filter (·.2)).map (·.1) := by
  fun_induction maskSel l mask with
  | case1 x xs bs ih => rw [ih]; rfl
  | case2 x xs b bs hb ih => rw [ih, List.zip_cons_cons, List.filter_cons_of_neg (by simpa using hb)]
  | case3 l m h => rcases nil_of_no_cons₂ l m h with rfl | rfl <;> simp

theorem takeMask_spec {α : Type} (l : List α) (mask : List Bool) (h : mask.length = l.length) :
    takeMask l mask = .ok (((l.zip mask).filter (·.2)).map (·.1)) := by
  rw [takeMask_ok l mask h, maskSel_eq_filter]

theorem maskSel_sublist {α : Type} (l : List α) (mask : List Bool) : (maskSel l mask).Sublist l := by
  fun_induction maskSel l mask with
  | case1 x xs bs ih => exact ih.cons_cons x
  | case2 x xs b bs hb ih => exact ih.cons x
  | case3 l m h => exact List.nil_sublist _

theorem maskSel_all {α : Type} (l : List α) (m : List Bool) (hl : m.length = l.length) (h : ∀ b ∈ m, b = true) :
    maskSel l m = l := by
  fun_induction maskSel l m with
  | case1 x xs bs ih => rw [ih (by simpa using hl) (fun b hb => h b (List.mem_cons_of_mem _ hb))]
  | case2 x xs b bs hb ih => exact absurd (h b List.mem_cons_self) hb
  | case3 l m hc =>
    rcases nil_of_no_cons₂ l m hc with rfl | rfl
    · rfl
    · exact (List.eq_nil_of_length_eq_zero hl.symm).symm

theorem maskSel_length {α : Type} (l : List α) (m : List Bool) (h : l.length = m.length) :
    (maskSel l m).length = (m.filter id).length := by
  fun_induction maskSel l m with
  | case1 x xs bs ih => simp [ih (by simpa using h)]
  | case2 x xs b bs hb ih => simp [ih (by simpa using h), hb]
  | case3 l m hc =>
    rcases nil_of_no_cons₂ l m hc with rfl | rfl
    · rw [List.eq_nil_of_length_eq_zero h.symm]; rfl
    · rfl

theorem maskSel_nil_right {α : Type} (l : List α) : maskSel l [] = [] := by cases l <;> rfl

theorem maskSel_map {α β : Type} (f : α → β) (l : List α) (m : List Bool) :
    maskSel (l.map f) m = (maskSel l m).map f := by
  fun_induction maskSel l m with
  | case1 x xs bs ih => simp only [List.map_cons, maskSel, if_true, ih]
  | case2 x xs b bs hb ih => simp only [List.map_cons, maskSel, hb, Bool.false_eq_true, if_false, ih]
  | case3 l m hc =>
    rcases nil_of_no_cons₂ l m hc with rfl | rfl
    · rfl
    · simp only [maskSel_nil_right, List.map_nil]

theorem maskSel_zip {α β : Type} (a : List α) (b : List β) (m : List Bool) :
    maskSel (a.zip b) m = (maskSel a m).zip (maskSel b m) := by
  fun_induction maskSel a m generalizing b with
  | case1 x xs bs ih => cases b with
    | nil => rfl
    | cons y ys => simp only [List.zip_cons_cons, maskSel, if_true, ih]
  | case2 x xs c bs hc ih => cases b with
    | nil => exact (List.zip_nil_right).symm
    | cons y ys => simp only [List.zip_cons_cons, maskSel, hc, Bool.false_eq_true, if_false, ih]
  | case3 a m hc =>
    rcases nil_of_no_cons₂ a m hc with rfl | rfl
    · rfl
    · simp only [maskSel_nil_right, List.zip_nil_left]

theorem mem_range_zip {α : Type} (l : List α) (i : Nat) (x : α) :
    (i, x) ∈ (List.range l.length).zip l ↔ l[i]? = some x := by
  rw [mem_zip_iff_getElem?]
  constructor
  · rintro ⟨k, h1, h2⟩
    obtain ⟨_, rfl⟩ := List.getElem?_eq_some_iff.mp h1
    rwa [List.getElem_range]
  · intro h
    exact ⟨i, by simp [(List.getElem?_eq_some_iff.mp h).1], h⟩

theorem maskSel_getElem?_of_range {α : Type} (l : List α) (m : List Bool) (hl : l.length = m.length) (k i : Nat)
    (h : (maskSel (List.range l.length) m)[k]? = some i) : (maskSel l m)[k]? = l[i]? := by
  have hk : k < (maskSel l m).length := by
    rw [maskSel_length l m hl, ← maskSel_length (List.range l.length) m (by simpa using hl)]
    exact (List.getElem?_eq_some_iff.mp h).1
  have hz : (maskSel ((List.range l.length).zip l) m)[k]? = some (i, (maskSel l m)[k]) := by
    rw [maskSel_zip, List.getElem?_zip_eq_some]
    exact ⟨h, List.getElem?_eq_getElem hk⟩
  have hmem := (maskSel_sublist _ m).subset (List.mem_of_getElem? hz)
  rw [List.getElem?_eq_getElem hk, (mem_range_zip l i _).mp hmem]

/-- a token: non-empty, no whitespace (what numpy prints for a number; also asked of names and of `ctf_image`) -/
def tokWf (t : Str) : Prop := t ≠ [] ∧ ∀ c ∈ t, isWs c = false

instance : DecidablePred tokWf := fun t => by unfold tokWf; infer_instance

theorem naming_tokWf : ∀ c ∈ naming, tokWf [c] := by decide
theorem fixed_tokWf : tokWf eulerPrefix ∧ tokWf scoreS ∧ tokWf detailS := by decide

theorem tokWf_append {a b : Str} (ha : tokWf a) (hb : tokWf b) : tokWf (a ++ b) :=
  ⟨fun h => ha.1 (List.append_eq_nil_iff.mp h).1, fun c hc => (List.mem_append.mp hc).elim (ha.2 c) (hb.2 c)⟩

theorem header_rowWf (d r : Nat) : rowWf (textHeader d r) := by
  refine ⟨by simp [textHeader], fun t ht => ?_⟩
  simp only [textHeader, List.mem_append, List.mem_cons, List.mem_nil_iff, or_false] at ht
  rcases ht with (ht | ht) | rfl | rfl
  · obtain ⟨c, hc, rfl⟩ := mem_transNames ht
    exact naming_tokWf c hc
  · obtain ⟨c, hc, rfl⟩ := mem_eulerNames ht
    exact tokWf_append fixed_tokWf.1 (naming_tokWf c hc)
  · exact fixed_tokWf.2.1
  · exact fixed_tokWf.2.2

structure TblWf (r : TblRow) : Prop where
  ang : r.ang.length = 3
  trans : r.trans.length = 3
  toks : ∀ t ∈ r.index :: r.score :: (r.ang ++ r.trans), tokWf t

def TblRow.out (r : TblRow) : TblOut := ⟨r.trans, r.ang, r.score⟩

theorem readTblRow_written (r : TblRow) (sampling : Str) (h : TblWf r) :
    readTblRow (r.tokens sampling) = .ok r.out := by
  obtain ⟨i, ang, trans, sc⟩ := r
  obtain ⟨a0, a1, a2, rfl⟩ := length_eq_three h.ang
  obtain ⟨z, y, x, rfl⟩ := length_eq_three h.trans
  simp only [TblRow.tokens, tblTokens, List.cons_append, List.nil_append, List.reverse_cons, List.reverse_nil, readTblRow,
    getTok, List.getElem?_cons_succ, List.getElem?_cons_zero, bind, Except.bind, pure, Except.pure, TblRow.out]

theorem tblTokens_length (r : TblRow) (sampling : Str) (h : TblWf r) : (r.tokens sampling).length = 38 := by
  have ha := h.ang
  have ht := h.trans
  simp only [TblRow.tokens, tblTokens, List.length_append, List.length_cons, List.length_nil, List.length_reverse]
  omega

/-- boolean form of `tokWf`, so that a whole row is checked by `List.all` -/
def tokOk (t : Str) : Bool := !t.isEmpty && t.all (fun c => !isWs c)

theorem tokOk_iff (t : Str) : tokOk t = true ↔ tokWf t := by
  unfold tokOk tokWf
  cases t with
  | nil => simp
  | cons c cs => simp

theorem rowWf_of_all (toks : List Str) (hne : toks ≠ []) (h : toks.all tokOk = true) : rowWf toks := by
  refine ⟨hne, ?_⟩
  intro t ht
  exact (tokOk_iff t).mp (List.all_eq_true.mp h t ht)

theorem tblTokens_consts_tokOk : tokOk t0 = true ∧ tokOk t1 = true ∧ tokOk t3 = true ∧ tokOk ['-','9','0'] = true ∧
    tokOk ['9','0'] = true ∧ tokOk ['-','6','0'] = true ∧ tokOk ['6','0'] = true := by decide

theorem tblTokens_rowWf (r : TblRow) (sampling : Str) (h : TblWf r) (hs : tokWf sampling) :
    rowWf (r.tokens sampling) := by
  unfold TblRow.tokens
  apply rowWf_of_all
  · simp [tblTokens]
  · have hall : ∀ t ∈ r.index :: r.score :: (r.ang ++ r.trans), tokOk t = true :=
      fun t ht => (tokOk_iff t).mpr (h.toks t ht)
    have hi := hall r.index (by simp)
    have hsc := hall r.score (by simp)
    have ha : r.ang.all tokOk = true := List.all_eq_true.mpr (fun t ht => hall t (by simp [ht]))
    have ht : r.trans.all tokOk = true := List.all_eq_true.mpr (fun t ht => hall t (by simp [ht]))
    have hsa := (tokOk_iff sampling).mpr hs
    obtain ⟨c0, c1, c3, c4, c5, c6, c7⟩ := tblTokens_consts_tokOk
    simp only [tblTokens, List.all_append, List.all_cons, List.all_nil, List.all_reverse, hi, hsc, ha, ht, hsa, c0, c1, c3, c4,
      c5, c6, c7, Bool.and_self]

theorem splitWs_joinSep (sep : Char) (hsep : isWs sep = true) (toks : List Str) (hw : rowWf toks) :
    splitWs (joinSep sep toks) = toks := by
  unfold splitWs
  rw [splitBy_joinSep isWs sep hsep toks hw.1 (fun t ht => (hw.2 t ht).2)]
  rw [List.filter_eq_self]
  intro t ht
  have := (hw.2 t ht).1
  cases t with
  | nil => exact absurd rfl this
  | cons => rfl

/-- a line that `_parse_star` appends to the current block -/
def isDataLine (l : Str) : Bool :=
  !startsWith ['d','a','t','a'] l && !startsWith ['_'] l && !startsWith ['l','o','o','p'] l && !(splitWs l).isEmpty

theorem foldl_min_const (block : List (List Str)) (m : Nat) (h : ∀ r ∈ block, r.length = m) :
    block.foldl (fun a r => min a r.length) m = m := by
  induction block with
  | nil => rfl
  | cons r rs ih =>
    simp only [List.foldl_cons, h r (by simp), Nat.min_self]
    exact ih (fun x hx => h x (by simp [hx]))

theorem transpose_uniform (block : List (List Str)) (m : Nat) (hne : block ≠ []) (h : ∀ r ∈ block, r.length = m) :
    transpose block = (List.range m).map (fun j => block.map (fun r => r.getD j [])) := by
  cases block with
  | nil => exact absurd rfl hne
  | cons r rs =>
    simp only [transpose, List.headD_cons, h r (by simp)]
    rw [foldl_min_const (r :: rs) m h]

end Pm.C11
