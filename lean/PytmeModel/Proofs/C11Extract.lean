import PytmeModel.Model.C11
import PytmeModel.Proofs.C11

/-! C11 — `get_extraction_slices`: the per-axis window arithmetic, the n-D functions read axis by axis, `extraction` as a
boolean selection; truncating division for `truncPick`; `takeIdx` on `arange` for `copy`. -/
namespace Pm.C11

/-- all that the window arithmetic needs to know about `⌈e/2⌉` and `⌊e/2⌋` -/
theorem pads (e : Nat) : 0 ≤ rightPad e ∧ rightPad e ≤ leftPad e ∧ leftPad e ≤ rightPad e + 1 ∧
    leftPad e + rightPad e = e := by
  unfold leftPad rightPad; omega

theorem keep_iff_fits (T e : Nat) (p : Int) :
    keepAxis T e p = true ↔ (leftPad e ≤ p ∧ p + rightPad e ≤ T) := by
  have := pads e
  unfold keepAxis candBeg candEnd obsBeg obsEnd
  simp only [Bool.and_eq_true, beq_iff_eq]
  omega

theorem kept_window (T e : Nat) (p : Int) (h : keepAxis T e p = true) :
    obsBeg e p = p - leftPad e ∧ obsEnd T e p = p + rightPad e ∧ candBeg e p = 0 ∧ candEnd T e p = e := by
  rw [keep_iff_fits] at h
  have := pads e
  unfold candBeg candEnd obsBeg obsEnd; omega

/-- the window of axis `k` is the per-axis window of the `k`-th extents and coordinate (axes beyond the
shortest of the three lists do not exist: `zip`) -/
theorem windowAxes_getElem? (T e : List Nat) (p : List Int) (k : Nat) (w : Int × Int × Int × Int) :
    (windowAxes T e p)[k]? = some w ↔
      ∃ Tk ek pk, T[k]? = some Tk ∧ e[k]? = some ek ∧ p[k]? = some pk ∧
        w = (candBeg ek pk, candEnd Tk ek pk, obsBeg ek pk, obsEnd Tk ek pk) := by
  fun_induction windowAxes T e p generalizing k with
  | case1 T Ts e es p ps ih =>
    cases k with
    | zero => simp only [List.getElem?_cons_zero, Option.some.injEq, exists_and_left, exists_eq_left', eq_comm]
    | succ k => simp only [List.getElem?_cons_succ, ih]
  | case2 T e p h => rcases nil_of_no_cons₃ T e p h with rfl | rfl | rfl <;> simp

theorem windowAxes_length (T e : List Nat) (p : List Int) :
    (windowAxes T e p).length = min T.length (min e.length p.length) := by
  fun_induction windowAxes T e p with
  | case1 T Ts e es p ps ih => simp only [List.length_cons, ih, Nat.succ_min_succ]
  | case2 T e p h =>
    rcases nil_of_no_cons₃ T e p h with rfl | rfl | rfl
    · exact (Nat.zero_min _).symm
    · simp only [List.length_nil, Nat.zero_min, Nat.min_zero]
    · simp only [List.length_nil, Nat.min_zero]

theorem keepPick_iff_axes (T e : List Nat) (p : List Int) :
    keepPick T e p = true ↔
      ∀ (k : Nat) Tk ek pk, T[k]? = some Tk → e[k]? = some ek → p[k]? = some pk → keepAxis Tk ek pk = true := by
  fun_induction keepPick T e p with
  | case1 T Ts e es p ps ih =>
    rw [Bool.and_eq_true, ih]
    constructor
    · rintro ⟨h0, hs⟩ k Tk ek pk hT he hp
      cases k with
      | zero =>
        simp only [List.getElem?_cons_zero, Option.some.injEq] at hT he hp
        subst hT he hp; exact h0
      | succ k => exact hs k Tk ek pk hT he hp
    · intro h
      exact ⟨h 0 T e p rfl rfl rfl, fun k Tk ek pk hT he hp => h (k + 1) Tk ek pk hT he hp⟩
  | case2 T e p h => rcases nil_of_no_cons₃ T e p h with rfl | rfl | rfl <;> simp

/-- `extraction` with the pair pattern of its step function written through projections -/
theorem extraction_eq (T e : List Nat) (peaks : List (List Int)) (drop : Bool) :
    extraction T e peaks drop = ((List.range peaks.length).zip peaks).filterMap
      (fun ip => if !drop || keepPick T e ip.2 then some (ip.1, windowAxes T e ip.2) else none) := rfl

theorem filterMap_ite_eq_maskSel {α β : Type} (c : α → Bool) (f : α → β) (l : List α) :
    l.filterMap (fun x => if c x then some (f x) else none) = maskSel (l.map f) (l.map c) := by
  induction l with
  | nil => rfl
  | cons x l ih =>
    cases hc : c x
    · simp only [List.filterMap_cons, List.map_cons, maskSel, hc, ih, Bool.false_eq_true, if_false]
    · simp only [List.filterMap_cons, List.map_cons, maskSel, hc, ih, if_true]

theorem extraction_eq_maskSel (T e : List Nat) (peaks : List (List Int)) (drop : Bool) :
    extraction T e peaks drop =
      maskSel ((List.range peaks.length).zip (peaks.map (windowAxes T e))) (keepMask T e peaks drop) := by
  rw [extraction_eq]
  refine (filterMap_ite_eq_maskSel ((fun p => !drop || keepPick T e p) ∘ Prod.snd) (Prod.map id (windowAxes T e)) _).trans ?_
  rw [← List.zip_map_right, ← List.map_map, List.map_snd_zip (by simp)]
  rfl

theorem extraction_fst_snd (T e : List Nat) (peaks : List (List Int)) (drop : Bool) :
    (extraction T e peaks drop).map (·.1) = maskSel (List.range peaks.length) (keepMask T e peaks drop) ∧
    (extraction T e peaks drop).map (·.2) = (maskSel peaks (keepMask T e peaks drop)).map (windowAxes T e) := by
  have hm : (keepMask T e peaks drop).length = peaks.length := by simp [keepMask]
  have hlen : (maskSel (List.range peaks.length) (keepMask T e peaks drop)).length =
      (maskSel (peaks.map (windowAxes T e)) (keepMask T e peaks drop)).length := by
    rw [maskSel_length _ _ (by simp [hm]), maskSel_length _ _ (by simp [hm])]
  rw [extraction_eq_maskSel, maskSel_zip, List.map_fst_zip (Nat.le_of_eq hlen), List.map_snd_zip (Nat.le_of_eq hlen.symm),
    maskSel_map]
  exact ⟨rfl, rfl⟩

theorem mem_extraction (T e : List Nat) (peaks : List (List Int)) (drop : Bool) (i : Nat)
    (w : List (Int × Int × Int × Int)) :
    (i, w) ∈ extraction T e peaks drop ↔
      ∃ p, peaks[i]? = some p ∧ (drop = false ∨ keepPick T e p = true) ∧ w = windowAxes T e p := by
  rw [extraction_eq, List.mem_filterMap]
  constructor
  · rintro ⟨⟨j, p⟩, hm, hs⟩
    obtain ⟨hc, h⟩ := Option.ite_none_right_eq_some.mp hs
    cases h
    exact ⟨p, (mem_range_zip _ _ _).mp hm, by simpa using hc, rfl⟩
  · rintro ⟨p, hp, hk, rfl⟩
    exact ⟨(i, p), (mem_range_zip _ _ _).mpr hp, Option.ite_none_right_eq_some.mpr ⟨by simpa using hk, rfl⟩⟩

theorem tdiv_bounds (m q : Int) (hq : 0 < q) :
    (0 ≤ m → Int.tdiv m q * q ≤ m ∧ m < (Int.tdiv m q + 1) * q ∧ 0 ≤ Int.tdiv m q) ∧
    (m ≤ 0 → (Int.tdiv m q - 1) * q < m ∧ m ≤ Int.tdiv m q * q ∧ Int.tdiv m q ≤ 0) := by
  constructor
  · intro hm
    rw [Int.tdiv_eq_ediv_of_nonneg hm]
    have h1 := Int.ediv_mul_le m (Int.ne_of_gt hq)
    have h2 := Int.lt_ediv_add_one_mul_self m hq
    exact ⟨h1, h2, Int.ediv_nonneg hm (Int.le_of_lt hq)⟩
  · intro hm
    have hn : 0 ≤ -m := by omega
    have e1 : Int.tdiv m q = -(Int.tdiv (-m) q) := by rw [Int.neg_tdiv]; omega
    rw [e1, Int.tdiv_eq_ediv_of_nonneg hn]
    have h1 := Int.ediv_mul_le (-m) (Int.ne_of_gt hq)
    have h2 := Int.lt_ediv_add_one_mul_self (-m) hq
    have h3 := Int.ediv_nonneg hn (Int.le_of_lt hq)
    refine ⟨?_, ?_, by omega⟩
    · have : (-(-m / q) - 1) * q = -((-m / q + 1) * q) := by ring
      rw [this]; omega
    · have : -(-m / q) * q = -((-m / q) * q) := by ring
      rw [this]; omega

theorem takeIdx_range'_append {α : Type} (pre l : List α) :
    takeIdx (pre ++ l) ((List.range' pre.length l.length).map Int.ofNat) = .ok l := by
  induction l generalizing pre with
  | nil => simp [takeIdx, pure, Except.pure]
  | cons x xs ih =>
    have hn : normIndex (pre ++ x :: xs).length pre.length = .ok pre.length := by
      unfold normIndex; rw [if_pos (by simp)]; rfl
    have ih' := ih (pre ++ [x])
    rw [List.append_assoc] at ih'
    have := takeIdx_cons_of hn (by simp) ih'
    simpa [List.range'_succ] using this

theorem takeIdx_arange {α : Type} (l : List α) : takeIdx l (arange l.length) = .ok l := by
  have h := takeIdx_range'_append [] l
  simpa [arange, List.range_eq_range'] using h

end Pm.C11
