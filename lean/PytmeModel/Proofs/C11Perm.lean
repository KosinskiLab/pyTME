import PytmeModel.Model.C11
import PytmeModel.Proofs.C11
import PytmeModel.Proofs.Common

/-! Helper lemmas for C11: the header-driven column order of the text reader (`sorted(zip(names, range), reverse=True)`)
on files whose named columns are written in an arbitrary order. -/
namespace Pm.C11

/-- `insertDesc` / `sortDesc` with the comparison as a parameter -/
def insertDescBy {κ α : Type} (lt : κ → κ → Bool) (x : κ × α) : List (κ × α) → List (κ × α)
  | [] => [x]
  | y :: ys => if lt x.1 y.1 then y :: insertDescBy lt x ys else x :: y :: ys

def sortDescBy {κ α : Type} (lt : κ → κ → Bool) (l : List (κ × α)) : List (κ × α) := l.foldr (insertDescBy lt) []

theorem insertDesc_eq (x : Str × Nat) (l : List (Str × Nat)) : insertDesc x l = insertDescBy strLt x l := by
  induction l with
  | nil => rfl
  | cons y ys ih => simp only [insertDesc, insertDescBy, ih]

theorem sortDesc_eq (l : List (Str × Nat)) : sortDesc l = sortDescBy strLt l := by
  induction l with
  | nil => rfl
  | cons x xs ih =>
    simp only [sortDesc, sortDescBy, List.foldr_cons] at ih ⊢
    rw [ih, insertDesc_eq]

theorem insertDescBy_perm {κ α : Type} (lt : κ → κ → Bool) (x : κ × α) (l : List (κ × α)) : (insertDescBy lt x l).Perm (x :: l) := by
  induction l with
  | nil => exact List.Perm.refl _
  | cons y ys ih =>
    simp only [insertDescBy]
    split
    · exact ((List.Perm.cons y ih).trans (List.Perm.swap x y ys))
    · exact List.Perm.refl _

theorem sortDescBy_perm {κ α : Type} (lt : κ → κ → Bool) (l : List (κ × α)) : (sortDescBy lt l).Perm l := by
  induction l with
  | nil => exact List.Perm.refl _
  | cons x xs ih =>
    simp only [sortDescBy, List.foldr_cons] at ih ⊢
    exact (insertDescBy_perm lt x _).trans (List.Perm.cons x ih)

theorem insertDescBy_map_key {κ κ' α : Type} (lt : κ → κ → Bool) (lt' : κ' → κ' → Bool) (f : κ → κ') (x : κ × α)
    (l : List (κ × α)) (h : ∀ y ∈ l, lt' (f x.1) (f y.1) = lt x.1 y.1) :
    (insertDescBy lt x l).map (Prod.map f id) = insertDescBy lt' (Prod.map f id x) (l.map (Prod.map f id)) := by
  induction l with
  | nil => rfl
  | cons y ys ih =>
    have hy := h y (by simp)
    have := ih (fun z hz => h z (by simp [hz]))
    simp only [insertDescBy, List.map_cons, Prod.map_fst, hy]
    split
    · simp only [List.map_cons, this]
    · simp only [List.map_cons]

theorem sortDescBy_map_key {κ κ' α : Type} (lt : κ → κ → Bool) (lt' : κ' → κ' → Bool) (f : κ → κ')
    (l : List (κ × α)) (h : ∀ x ∈ l, ∀ y ∈ l, lt' (f x.1) (f y.1) = lt x.1 y.1) :
    (sortDescBy lt l).map (Prod.map f id) = sortDescBy lt' (l.map (Prod.map f id)) := by
  induction l with
  | nil => rfl
  | cons x xs ih =>
    have ih' := ih (fun a ha b hb => h a (by simp [ha]) b (by simp [hb]))
    simp only [sortDescBy, List.foldr_cons, List.map_cons] at ih' ⊢
    rw [← ih']
    apply insertDescBy_map_key
    intro y hy
    have : y ∈ xs := (sortDescBy_perm lt xs).subset hy
    exact h x (by simp) y (by simp [this])

/-- `ltN a b` says `b < a`: the reversed position order, which is what `strLt` gives on names that run from `z` down the
alphabet -/
def ltN (a b : Nat) : Bool := decide (b < a)

theorem insertDescBy_sorted {α : Type} (x : Nat × α) (l : List (Nat × α)) (h : l.Pairwise (fun p q => p.1 ≤ q.1)) :
    (insertDescBy ltN x l).Pairwise (fun p q => p.1 ≤ q.1) := by
  induction l with
  | nil => simp [insertDescBy]
  | cons y ys ih =>
    rw [List.pairwise_cons] at h
    by_cases hlt : y.1 < x.1
    · have e : insertDescBy ltN x (y :: ys) = y :: insertDescBy ltN x ys := by simp [insertDescBy, ltN, hlt]
      rw [e, List.pairwise_cons]
      refine ⟨?_, ih h.2⟩
      intro z hz
      have := (insertDescBy_perm ltN x ys).subset hz
      rcases List.mem_cons.mp this with rfl | hz'
      · omega
      · exact h.1 z hz'
    · have e : insertDescBy ltN x (y :: ys) = x :: y :: ys := by simp [insertDescBy, ltN, hlt]
      have hle : x.1 ≤ y.1 := by omega
      rw [e, List.pairwise_cons, List.pairwise_cons]
      refine ⟨?_, h.1, h.2⟩
      intro z hz
      rcases List.mem_cons.mp hz with rfl | hz'
      · exact hle
      · exact Nat.le_trans hle (h.1 z hz')

theorem sortDescBy_sorted {α : Type} (l : List (Nat × α)) : (sortDescBy ltN l).Pairwise (fun p q => p.1 ≤ q.1) := by
  induction l with
  | nil => simp [sortDescBy]
  | cons x xs ih =>
    simp only [sortDescBy, List.foldr_cons] at ih ⊢
    exact insertDescBy_sorted x _ ih

theorem sortDescBy_keys_eq {α : Type} (l : List (Nat × α)) (tgt : List Nat) (h : (l.map (·.1)).Perm tgt)
    (hs : tgt.Pairwise (· ≤ ·)) : (sortDescBy ltN l).map (·.1) = tgt := by
  apply List.Perm.eq_of_pairwise (le := fun a b : Nat => a ≤ b)
  · intro a b _ _ h1 h2; omega
  · rw [List.pairwise_map]
    exact sortDescBy_sorted l
  · exact hs
  · exact ((sortDescBy_perm ltN l).map _).trans h

theorem mem_zip_range (ks : List Nat) (p : Nat × Nat) (h : p ∈ ks.zip (List.range ks.length)) :
    ks[p.2]? = some p.1 := by
  obtain ⟨k, h1, h2⟩ := (mem_zip_iff_getElem? (a := p.1) (b := p.2)).mp h
  obtain ⟨_, hk⟩ := List.getElem?_eq_some_iff.mp h2
  rwa [← hk, List.getElem_range]

/-- for names that compare in reverse key order the reader's order is read off the sort of the (key, position) pairs -/
theorem sortOrder_eq_sortDescBy (ks : List Nat) (nm : Nat → Str)
    (hnm : ∀ a ∈ ks, ∀ b ∈ ks, strLt (nm a) (nm b) = ltN a b) :
    sortOrder (ks.map nm) = (sortDescBy ltN (ks.zip (List.range ks.length))).map (·.2) := by
  unfold sortOrder withPos
  rw [List.length_map, List.zip_map_left, sortDesc_eq,
    ← sortDescBy_map_key ltN strLt nm _ (fun x hx y hy => hnm x.1 (List.of_mem_zip hx).1 y.1 (List.of_mem_zip hy).1),
    List.map_map]
  rfl

theorem sortOrder_bounds (ks : List Nat) (nm : Nat → Str) (hnm : ∀ a ∈ ks, ∀ b ∈ ks, strLt (nm a) (nm b) = ltN a b) :
    (sortOrder (ks.map nm)).length = ks.length ∧ ∀ i ∈ sortOrder (ks.map nm), i < ks.length := by
  have hS := sortDescBy_perm ltN (ks.zip (List.range ks.length))
  rw [sortOrder_eq_sortDescBy ks nm hnm]
  refine ⟨by rw [List.length_map, hS.length_eq]; simp, fun i hi => ?_⟩
  obtain ⟨p, hp', rfl⟩ := List.mem_map.mp hi
  exact List.mem_range.mp (List.of_mem_zip (hS.subset hp')).2

theorem sortOrder_sorts (ks tgt : List Nat) (hp : ks.Perm tgt) (hs : tgt.Pairwise (· ≤ ·)) (nm : Nat → Str)
    (hnm : ∀ a ∈ ks, ∀ b ∈ ks, strLt (nm a) (nm b) = ltN a b) (v : Nat → Str) :
    pick (ks.map v) (sortOrder (ks.map nm)) = .ok (tgt.map v) := by
  have hS := sortDescBy_perm ltN (ks.zip (List.range ks.length))
  have hkeys : (sortDescBy ltN (ks.zip (List.range ks.length))).map (·.1) = tgt :=
    sortDescBy_keys_eq _ tgt (by rw [List.map_fst_zip (by simp)]; exact hp) hs
  rw [sortOrder_eq_sortDescBy ks nm hnm, pick, List.mapM_map, mapM_ok _ (fun p : Nat × Nat => v p.1), ← hkeys,
    List.map_map]
  · rfl
  · intro p hp'
    simp [List.getElem?_map, mem_zip_range ks p (hS.subset hp'), pure, Except.pure]

/-- **header-driven order**: names that are the images of a permutation `ks` of `0..n-1` under a key map on which
Python's string order is the reverse index order (`z > y > x > …`) are sorted so that picking the row's values in
the computed order restores the canonical order `0..n-1`, whatever the order in the file -/
theorem sortOrder_restores (ks : List Nat) (n : Nat) (hp : ks.Perm (List.range n)) (nm : Nat → Str)
    (hnm : ∀ a, a < n → ∀ b, b < n → strLt (nm a) (nm b) = ltN a b) (v : Nat → Str) :
    pick (ks.map v) (sortOrder (ks.map nm)) = .ok ((List.range n).map v) ∧
    (sortOrder (ks.map nm)).length = n ∧ ∀ i ∈ sortOrder (ks.map nm), i < n := by
  have hlen : ks.length = n := by simpa using hp.length_eq
  have hks : ∀ k ∈ ks, k < n := fun k hk => List.mem_range.mp (hp.subset hk)
  have hnm' : ∀ a ∈ ks, ∀ b ∈ ks, strLt (nm a) (nm b) = ltN a b := fun a ha b hb => hnm a (hks a ha) b (hks b hb)
  rw [← hlen]
  exact ⟨sortOrder_sorts ks _ (hlen ▸ hp) List.pairwise_le_range nm hnm' v, sortOrder_bounds ks nm hnm'⟩

theorem map_getD_range (l : List Str) : (List.range l.length).map (fun k => l.getD k []) = l := by
  apply List.ext_getElem
  · simp
  · intro i h1 h2
    simp at h1
    simp [List.getD_eq_getElem?_getD, List.getElem?_eq_getElem h1]

theorem map_getD_append (a b : List Str) :
    (List.range a.length).map (fun k => (a ++ b).getD k []) = a ∧
    (List.range' a.length b.length).map (fun k => (a ++ b).getD k []) = b := by
  constructor
  · refine (List.map_congr_left fun k hk => ?_).trans (map_getD_range a)
    rw [List.getD_eq_getElem?_getD, List.getD_eq_getElem?_getD, List.getElem?_append_left (List.mem_range.mp hk)]
  · rw [List.range'_eq_map_range, List.map_map]
    refine (List.map_congr_left fun j _ => ?_).trans (map_getD_range b)
    simp only [Function.comp, List.getD_eq_getElem?_getD]
    rw [List.getElem?_append_right (Nat.le_add_right _ _), Nat.add_sub_cancel_left]

/-- the writer's d + r column names: z y x …, euler_z euler_y euler_x … -/
def colNames (d r : Nat) : List Str := transNames d ++ eulerNames r
/-- the tokens of a row that belong to those columns -/
def Row.colToks (row : Row) : List Str := row.trans ++ row.rot

/-- header with the named columns in the order `perm` (score and detail stay last, as the reader requires) -/
def permHeader (d r : Nat) (perm : List Nat) : List Str :=
  perm.map (fun k => (colNames d r).getD k []) ++ [scoreS, detailS]
def permTokens (perm : List Nat) (row : Row) : List Str :=
  perm.map (fun k => row.colToks.getD k []) ++ [row.score, row.detail]
/-- the file: same lines as `_to_text` would write, columns permuted -/
def writeTextPerm (d r : Nat) (perm : List Nat) (rows : List Row) : Str :=
  renderLines '\t' (permHeader d r perm :: rows.map (permTokens perm))

def tnF (k : Nat) : Str := [naming.getD k 'a']
def enF (k : Nat) : Str := eulerPrefix ++ [naming.getD k 'a']

theorem strLt_single (x y : Char) : strLt [x] [y] = decide (x.toNat < y.toNat) := by
  simp [strLt]

theorem strLt_append_left (p s t : Str) : strLt (p ++ s) (p ++ t) = strLt s t := by
  induction p with
  | nil => rfl
  | cons c cs ih => cases s <;> cases t <;> simp_all [strLt]

/-- the letters of `naming` run down the alphabet from `z` (code point 122) -/
theorem naming_toNat : ∀ k, k < 26 → (naming.getD k 'a').toNat = 122 - k := by decide +kernel

theorem naming_order (a : Nat) (ha : a < 26) (b : Nat) (hb : b < 26) :
    strLt (tnF a) (tnF b) = ltN a b ∧ strLt (enF a) (enF b) = ltN a b := by
  simp only [tnF, enF, strLt_append_left, strLt_single, naming_toNat a ha, naming_toNat b hb, ltN, and_self]
  exact decide_eq_decide.mpr (by omega)

theorem naming_getD_mem (k : Nat) (hk : k < 26) : naming.getD k 'a' ∈ naming := by
  have : k < naming.length := hk
  simp [List.getD_eq_getElem?_getD, List.getElem?_eq_getElem this]

theorem colNames_getD (d r k : Nat) (hd : d ≤ 26) (hr : r ≤ 26) :
    (k < d → (colNames d r).getD k [] = tnF k) ∧ (d ≤ k → k < d + r → (colNames d r).getD k [] = enF (k - d)) := by
  have hl := transNames_length d hd
  constructor
  · intro hk
    rw [← show (transNames d).getD k [] = tnF k from namingMap_getD _ d k hd hk, colNames, List.getD_eq_getElem?_getD, List.getD_eq_getElem?_getD,
      List.getElem?_append_left (hl.symm ▸ hk)]
  · intro h1 h2
    rw [← show (eulerNames r).getD (k - d) [] = enF (k - d) from namingMap_getD _ r _ hr (by omega), colNames, List.getD_eq_getElem?_getD, List.getD_eq_getElem?_getD,
      List.getElem?_append_right (hl.symm ▸ h1), hl]

theorem selectCols_map_append (pred : Str → Bool) (ks : List Nat) (h c : Nat → Str) (q : Nat → Bool)
    (hq : ∀ k ∈ ks, pred (h k) = q k) (htl ctl : List Str) (hn : ∀ x ∈ htl, pred x = false) :
    selectCols pred (ks.map h ++ htl) (ks.map c ++ ctl) = .ok ((ks.filter q).map c) := by
  induction ks with
  | nil => simpa using selectCols_none_nil pred htl ctl hn
  | cons k ks ih =>
    have hk := hq k (by simp)
    have := ih (fun x hx => hq x (by simp [hx]))
    cases hqk : q k with
    | true =>
      rw [hqk] at hk
      simp [selectCols, hk, this, hqk, bind, Except.bind, pure, Except.pure]
    | false =>
      rw [hqk] at hk
      simp [selectCols, hk, this, hqk]

theorem filter_map_append (pred : Str → Bool) (ks : List Nat) (h : Nat → Str) (q : Nat → Bool)
    (hq : ∀ k ∈ ks, pred (h k) = q k) (htl : List Str) (hn : ∀ x ∈ htl, pred x = false) :
    (ks.map h ++ htl).filter pred = (ks.filter q).map h := by
  have e : htl.filter pred = [] := List.filter_eq_nil_iff.mpr (fun x hx => by simp [hn x hx])
  rw [List.filter_append, e, List.append_nil, List.filter_map]
  congr 1
  apply List.filter_congr
  intro k hk
  exact hq k hk

theorem filter_lt_range (d r : Nat) :
    (List.range (d + r)).filter (fun k => decide (k < d)) = List.range d ∧
    (List.range (d + r)).filter (fun k => !decide (k < d)) = List.range' d r := by
  have e : List.range (d + r) = List.range d ++ List.range' d r := by
    rw [List.range_eq_range', List.range_eq_range', ← List.range'_append_1, Nat.zero_add]
  have h1 : ∀ k ∈ List.range d, decide (k < d) = true := fun k hk => by simpa using hk
  have h2 : ∀ k ∈ List.range' d r, decide (k < d) = false := fun k hk => by
    have := (List.mem_range'_1.mp hk).1
    simpa using this
  rw [e, List.filter_append, List.filter_append, List.filter_eq_self.mpr h1,
    List.filter_eq_nil_iff.mpr (fun k hk => by simp [h2 k hk]),
    List.filter_eq_nil_iff.mpr (fun k hk => by simp [h1 k hk]),
    List.filter_eq_self.mpr (fun k hk => by simp [h2 k hk])]
  exact ⟨List.append_nil _, List.nil_append _⟩

theorem colNames_pred (d r k : Nat) (hd : d ≤ 26) (hr : r ≤ 26) (hk : k < d + r) :
    isTransName ((colNames d r).getD k []) = decide (k < d) ∧
    isEulerName ((colNames d r).getD k []) = !decide (k < d) ∧
    isSortedEulerName ((colNames d r).getD k []) = !decide (k < d) := by
  by_cases h : k < d
  · rw [(colNames_getD d r k hd hr).1 h]
    have := naming_trans _ (naming_getD_mem k (Nat.lt_of_lt_of_le h hd))
    have hdk : decide (k < d) = true := by simpa using h
    rw [hdk]
    refine ⟨this.1, this.2, ?_⟩
    unfold isSortedEulerName
    rw [show isEulerName (tnF k) = false from this.2]; rfl
  · have hdk := Nat.le_of_not_lt h
    rw [(colNames_getD d r k hd hr).2 hdk hk]
    have := naming_euler _ (naming_getD_mem (k - d) (Nat.lt_of_lt_of_le (Nat.sub_lt_left_of_lt_add hdk hk) hr))
    have hdk : decide (k < d) = false := by simpa using h
    rw [hdk]
    exact ⟨this.1, this.2.1, this.2.2⟩

theorem filter_written_perm (perm : List Nat) (rows : List Row) :
    (rows.map (permTokens perm) ++ [[[]]]).filter (fun c => decide (1 < c.length)) = rows.map (permTokens perm) := by
  rw [List.filter_append, List.filter_eq_self.mpr]
  · exact List.append_nil _
  · intro c hc
    obtain ⟨row, _, rfl⟩ := List.mem_map.mp hc
    simp only [permTokens, List.length_append, List.length_cons, List.length_nil, decide_eq_true_eq]
    omega

theorem colToks_range (d r : Nat) (row : Row) (ok : RowOk d r row) :
    (List.range d).map (fun k => row.colToks.getD k []) = row.trans ∧
    (List.range' d r).map (fun k => row.colToks.getD k []) = row.rot := by
  obtain ⟨trans, rot, _, _⟩ := row
  obtain ⟨rfl, rfl⟩ := ok
  exact map_getD_append trans rot

theorem readRow_permuted (d r : Nat) (hd : d ≤ 26) (hr : r ≤ 26) (perm : List Nat) (hperm : ∀ k ∈ perm, k < d + r)
    (row : Row) :
    readRow (permHeader d r perm) (permTokens perm row) =
      .ok ⟨(perm.filter (fun k => decide (k < d))).map (fun k => row.colToks.getD k []),
           (perm.filter (fun k => !decide (k < d))).map (fun k => row.colToks.getD k []), row.score, row.detail⟩ := by
  have hl : (permTokens perm row).length = (perm.map (fun k => row.colToks.getD k [])).length + 2 := by
    simp [permTokens]
  have hs := getD_append_pair (perm.map (fun k => row.colToks.getD k [])) row.score row.detail
  unfold readRow
  rw [show selectCols isTransName (permHeader d r perm) (permTokens perm row) = _ from
      selectCols_map_append _ perm _ _ _ (fun k hk => (colNames_pred d r k hd hr (hperm k hk)).1) _ _ tail_notTrans,
    show selectCols isEulerName (permHeader d r perm) (permTokens perm row) = _ from
      selectCols_map_append _ perm _ _ _ (fun k hk => (colNames_pred d r k hd hr (hperm k hk)).2.1) _ _ tail_notEuler, hl]
  simp only [bind, Except.bind, pure, Except.pure, Nat.add_sub_cancel, Nat.add_succ_sub_one]
  unfold permTokens
  rw [hs.1, hs.2]

/-- when there is at least one angle column the all-zero default rotation is never substituted -/
theorem rot_default_unused (n r : Nat) (hr : 1 ≤ r) : (n * r == 0 && n != 0) = false := by
  cases n with
  | zero => simp
  | succ k =>
    have : (k + 1) * r ≠ 0 := Nat.mul_ne_zero (by omega) (by omega)
    simp [this]

theorem colNames_strLt (d r : Nat) (hd : d ≤ 26) (hr : r ≤ 26) (a b : Nat) :
    (a < d → b < d → strLt ((colNames d r).getD a []) ((colNames d r).getD b []) = ltN a b) ∧
    (d ≤ a → a < d + r → d ≤ b → b < d + r →
      strLt ((colNames d r).getD a []) ((colNames d r).getD b []) = ltN a b) := by
  constructor
  · intro ha hb
    rw [(colNames_getD d r a hd hr).1 ha, (colNames_getD d r b hd hr).1 hb]
    exact (naming_order a (Nat.lt_of_lt_of_le ha hd) b (Nat.lt_of_lt_of_le hb hd)).1
  · intro ha ha' hb hb'
    rw [(colNames_getD d r a hd hr).2 ha ha', (colNames_getD d r b hd hr).2 hb hb',
      (naming_order (a - d) (Nat.lt_of_lt_of_le (Nat.sub_lt_left_of_lt_add ha ha') hr)
        (b - d) (Nat.lt_of_lt_of_le (Nat.sub_lt_left_of_lt_add hb hb') hr)).2]
    exact decide_eq_decide.mpr (by omega)

theorem readTable_permuted (d r : Nat) (hd : d ≤ 26) (hr1 : 1 ≤ r) (hr : r ≤ 26) (perm : List Nat)
    (hp : perm.Perm (List.range (d + r))) (rows : List Row) (ok : ∀ row ∈ rows, RowOk d r row) :
    readTable (permHeader d r perm) (rows.map (permTokens perm) ++ [[[]]]) = .ok (Table.ofRows d r rows) := by
  have hperm : ∀ k ∈ perm, k < d + r := fun k hk => List.mem_range.mp (hp.subset hk)
  let cn : Nat → Str := fun k => (colNames d r).getD k []
  let pT := perm.filter (fun k => decide (k < d))
  let pR := perm.filter (fun k => !decide (k < d))
  have hpT : pT.Perm (List.range d) := (filter_lt_range d r).1 ▸ hp.filter _
  have hpR : pR.Perm (List.range' d r) := (filter_lt_range d r).2 ▸ hp.filter _
  have hlT : pT.length = d := by simpa using hpT.length_eq
  have hlR : pR.length = r := by simpa using hpR.length_eq
  have hfT : (permHeader d r perm).filter isTransName = pT.map cn :=
    filter_map_append _ perm cn _ (fun k hk => (colNames_pred d r k hd hr (hperm k hk)).1) _ tail_notTrans
  have hfE : (permHeader d r perm).filter isEulerName = pR.map cn :=
    filter_map_append _ perm cn _ (fun k hk => (colNames_pred d r k hd hr (hperm k hk)).2.1) _ tail_notEuler
  have hfS : (permHeader d r perm).filter isSortedEulerName = pR.map cn :=
    filter_map_append _ perm cn _ (fun k hk => (colNames_pred d r k hd hr (hperm k hk)).2.2) _ tail_notSorted
  have hlen : (permHeader d r perm).length = d + r + 2 := by
    rw [permHeader, List.length_append, List.length_map, hp.length_eq, List.length_range]
    rfl
  have hnmT : ∀ a ∈ pT, ∀ b ∈ pT, strLt (cn a) (cn b) = ltN a b := fun a ha b hb =>
    (colNames_strLt d r hd hr a b).1 (List.mem_range.mp (hpT.subset ha)) (List.mem_range.mp (hpT.subset hb))
  have hnmR : ∀ a ∈ pR, ∀ b ∈ pR, strLt (cn a) (cn b) = ltN a b := fun a ha b hb =>
    have ha := List.mem_range'_1.mp (hpR.subset ha)
    have hb := List.mem_range'_1.mp (hpR.subset hb)
    (colNames_strLt d r hd hr a b).2 ha.1 ha.2 hb.1 hb.2
  have hbT := sortOrder_bounds pT cn hnmT
  have hbR := sortOrder_bounds pR cn hnmR
  rw [hlT] at hbT
  rw [hlR] at hbR
  let rd : Row → Row := fun row =>
    ⟨pT.map (fun k => row.colToks.getD k []), pR.map (fun k => row.colToks.getD k []), row.score, row.detail⟩
  have hrows : (rows.map (permTokens perm)).mapM (readRow (permHeader d r perm)) = .ok (rows.map rd) := by
    rw [List.mapM_map]
    exact mapM_ok _ rd rows (fun row _ => readRow_permuted d r hd hr perm hperm row)
  have hmT : (List.map (fun x : Row => x.trans) (rows.map rd)).mapM (fun x => pick x (sortOrder (pT.map cn)))
      = .ok (rows.map (fun x => x.trans)) := by
    rw [List.mapM_map, List.mapM_map]
    exact mapM_ok _ (fun x : Row => x.trans) rows
      (fun row hm => (sortOrder_sorts pT _ hpT List.pairwise_le_range cn hnmT _).trans
        (congrArg _ (colToks_range d r row (ok row hm)).1))
  have hmR : (List.map (fun x : Row => x.rot) (rows.map rd)).mapM (fun x => pick x (sortOrder (pR.map cn)))
      = .ok (rows.map (fun x => x.rot)) := by
    rw [List.mapM_map, List.mapM_map]
    exact mapM_ok _ (fun x : Row => x.rot) rows
      (fun row hm => (sortOrder_sorts pR _ hpR List.pairwise_le_range' cn hnmR _).trans
        (congrArg _ (colToks_range d r row (ok row hm)).2))
  have hany : ((sortOrder (pR.map cn)).any fun i => decide (r ≤ i)) = false := by
    rw [List.any_eq_false]
    intro i hi
    simpa using hbR.2 i hi
  have hne : (d == d + r + 2) = false := beq_eq_false_iff_ne.mpr (by omega)
  have hz := rot_default_unused (rows.map rd).length r hr1
  have hsc : (rows.map rd).map (fun x => x.score) = rows.map (fun x => x.score) := by rw [List.map_map]; rfl
  have hde : (rows.map rd).map (fun x => x.detail) = rows.map (fun x => x.detail) := by rw [List.map_map]; rfl
  unfold readTable
  rw [filter_written_perm, hrows, hfT, hfE, hfS, hlen, List.length_map, List.length_map, hlT, hlR]
  simp only [hne, hz, hmT, hmR, hany, bind, Except.bind, pure, Except.pure, Bool.false_eq_true, if_false,
    hbT.1, hbR.1, Table.ofRows, hsc, hde]

theorem colNames_length (d r : Nat) (hd : d ≤ 26) (hr : r ≤ 26) : (colNames d r).length = d + r := by
  simp [colNames, transNames_length d hd, eulerNames_length r hr]

theorem rowWf_gather (l tail : List Str) (perm : List Nat) (hp : ∀ k ∈ perm, k < l.length)
    (hw : ∀ t ∈ l ++ tail, tokWf t) (hne : tail ≠ []) : rowWf (perm.map (fun k => l.getD k []) ++ tail) := by
  refine ⟨by simp [hne], fun t ht => hw t ?_⟩
  rcases List.mem_append.mp ht with h | h
  · obtain ⟨k, hk, rfl⟩ := List.mem_map.mp h
    exact List.mem_append_left _ (getD_mem l k [] (hp k hk))
  · exact List.mem_append_right _ h

theorem writeTextPerm_id (d r : Nat) (hd : d ≤ 26) (hr : r ≤ 26) (rows : List Row) (ok : ∀ row ∈ rows, RowOk d r row) :
    writeTextPerm d r (List.range (d + r)) rows = writeText d r rows := by
  unfold writeTextPerm writeText
  congr 2
  · unfold permHeader textHeader
    have := map_getD_range (colNames d r)
    rw [colNames_length d r hd hr] at this
    rw [this]; simp [colNames]
  · apply List.map_congr_left
    intro row hm
    unfold permTokens Row.tokens
    have := map_getD_range row.colToks
    have hl : row.colToks.length = d + r := by simp [Row.colToks, (ok row hm).lt, (ok row hm).lr]
    rw [hl] at this
    rw [this]; simp [Row.colToks]

theorem readText_writeTextPerm (d r : Nat) (hd : d ≤ 26) (hr1 : 1 ≤ r) (hr : r ≤ 26) (perm : List Nat)
    (hp : perm.Perm (List.range (d + r))) (rows : List Row) (ok : ∀ row ∈ rows, RowOk d r row)
    (hw : ∀ row ∈ rows, ∀ t ∈ row.tokens, tokWf t) :
    readText (writeTextPerm d r perm rows) = .ok (Table.ofRows d r rows) := by
  have hperm : ∀ k ∈ perm, k < d + r := fun k hk => List.mem_range.mp (hp.subset hk)
  have hwf : ∀ toks ∈ permHeader d r perm :: rows.map (permTokens perm), rowWf toks := by
    intro toks ht
    rcases List.mem_cons.mp ht with rfl | ht
    · exact rowWf_gather (colNames d r) _ perm (colNames_length d r hd hr ▸ hperm) (header_rowWf d r).2
        (List.cons_ne_nil _ _)
    · obtain ⟨row, hrow, rfl⟩ := List.mem_map.mp ht
      have hl : row.colToks.length = d + r := by simp [Row.colToks, (ok row hrow).lt, (ok row hrow).lr]
      exact rowWf_gather row.colToks _ perm (hl ▸ hperm) (hw row hrow) (List.cons_ne_nil _ _)
  unfold readText writeTextPerm
  rw [parseLines_renderLines '\t' (by decide) (by decide) _ hwf]
  exact readTable_permuted d r hd hr1 hr perm hp rows ok

end Pm.C11
