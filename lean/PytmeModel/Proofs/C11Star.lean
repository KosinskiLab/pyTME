import PytmeModel.Model.C11
import PytmeModel.Proofs.C11

/-! Helper lemmas for C11: the RELION STAR writer evaluated symbolically through `_parse_star`. -/
namespace Pm.C11

/-- no entry of an association list has the key `k` -/
abbrev Fresh {α : Type} (c : List (Str × α)) (k : Str) : Prop := c.all (fun e => !(e.1 == k)) = true

theorem fresh_mem {α : Type} {c : List (Str × α)} {k : Str} (h : Fresh c k) :
    ∀ e ∈ c, (e.1 == k) = false :=
  fun e he => by simpa using List.all_eq_true.mp h e he

theorem Cats.get?_none (c : Cats) (k : Str) (h : Fresh c k) : c.get? k = none := by
  rw [Cats.get?, List.find?_eq_none.mpr (fun e he => by simp [fresh_mem h e he])]
  rfl

theorem any_false_of_all {α : Type} (c : List (Str × α)) (k : Str) (h : Fresh c k) :
    c.any (fun e => e.1 == k) = false :=
  List.any_eq_false.mpr (fun e he => by simp [fresh_mem h e he])

theorem Cats.set_new (c : Cats) (k : Str) (v : Dict) (h : Fresh c k) :
    c.set k v = c ++ [(k, v)] := by
  unfold Cats.set
  rw [any_false_of_all c k h]; rfl

theorem Dict.set_new (d : Dict) (k : Str) (v : List Str) (h : Fresh d k) :
    d.set k v = d ++ [(k, v)] := by
  unfold Dict.set
  rw [any_false_of_all d k h]; rfl

theorem Cats.get?_snoc (pre : Cats) (k : Str) (d : Dict) (h : Fresh pre k) :
    Cats.get? (pre ++ [(k, d)]) k = some d := by
  rw [Cats.get?, List.find?_append, List.find?_eq_none.mpr (fun e he => by simp [fresh_mem h e he])]
  simp

theorem Cats.set_snoc (pre : Cats) (k : Str) (d v : Dict) (h : Fresh pre k) :
    Cats.set (pre ++ [(k, d)]) k v = pre ++ [(k, v)] := by
  unfold Cats.set
  have : (pre ++ [(k, d)]).any (fun e => e.1 == k) = true := by simp
  rw [this, if_pos rfl, List.map_append,
    (List.map_congr_left fun e he => by simp [fresh_mem h e he]).trans (List.map_id pre)]
  simp

/-- a line the loop appends to the current block (for the given delimiter) -/
def isDataLineD (delim : Option Char) (l : Str) : Bool :=
  !startsWith ['d','a','t','a'] l && !startsWith ['_'] l && !startsWith ['l','o','o','p'] l &&
    !(splitLine delim l).isEmpty

theorem parseStep_data (delim : Option Char) (ret : Cats) (cat : Option Str) (blk : List (List Str)) (l : Str)
    (h : isDataLineD delim l = true) :
    parseStep delim ⟨ret, cat, blk⟩ l = .ok ⟨ret, cat, blk ++ [splitLine delim l]⟩ := by
  simp only [isDataLineD, Bool.and_eq_true, Bool.not_eq_true'] at h
  obtain ⟨⟨⟨h1, h2⟩, h3⟩, h4⟩ := h
  simp [parseStep, h1, h2, h3, h4, pure, Except.pure]

theorem parseFold_dataD (delim : Option Char) (ret : Cats) (cat : Option Str) (blk : List (List Str)) (lines : List Str)
    (h : ∀ l ∈ lines, isDataLineD delim l = true) :
    parseFold delim ⟨ret, cat, blk⟩ lines = .ok ⟨ret, cat, blk ++ lines.map (splitLine delim)⟩ := by
  induction lines generalizing blk with
  | nil => simp [parseFold, pure, Except.pure]
  | cons l ls ih =>
    simp only [parseFold, parseStep_data delim ret cat blk l (h l (by simp)), bind, Except.bind]
    rw [ih (blk ++ [splitLine delim l]) (fun x hx => h x (by simp [hx]))]
    simp

theorem parseStep_column (delim : Option Char) (ret : Cats) (cat : Str) (blk : List (List Str)) (l : Str) (d : Dict)
    (h1 : startsWith ['d','a','t','a'] l = false) (h2 : startsWith ['_'] l = true) (hg : ret.get? cat = some d) :
    parseStep delim ⟨ret, some cat, blk⟩ l = .ok ⟨ret.set cat (Dict.set d l []), some cat, blk⟩ := by
  simp [parseStep, h1, h2, hg, pure, Except.pure]

theorem parseStep_loop (delim : Option Char) (st : PState) (l : Str)
    (h1 : startsWith ['d','a','t','a'] l = false) (h2 : startsWith ['_'] l = false)
    (h3 : startsWith ['l','o','o','p'] l = true) : parseStep delim st l = .ok st := by
  simp [parseStep, h1, h2, h3, pure, Except.pure]

theorem parseFold_columns (delim : Option Char) (pre : Cats) (cat : Str) (blk : List (List Str)) (hs : List Str) (d : Dict)
    (hpre : Fresh pre cat)
    (h : ∀ l ∈ hs, startsWith ['d','a','t','a'] l = false ∧ startsWith ['_'] l = true) :
    parseFold delim ⟨pre ++ [(cat, d)], some cat, blk⟩ hs =
      .ok ⟨pre ++ [(cat, hs.foldl (fun d h => Dict.set d h []) d)], some cat, blk⟩ := by
  induction hs generalizing d with
  | nil => rfl
  | cons l ls ih =>
    obtain ⟨h1, h2⟩ := h l (by simp)
    simp only [parseFold, parseStep_column delim _ cat blk l d h1 h2 (Cats.get?_snoc pre cat d hpre), bind, Except.bind,
      Cats.set_snoc pre cat d _ hpre, List.foldl_cons]
    exact ih _ (fun x hx => h x (by simp [hx]))

theorem parseFold_append (delim : Option Char) (st : PState) (a b : List Str) :
    parseFold delim st (a ++ b) = (parseFold delim st a).bind (fun st' => parseFold delim st' b) := by
  induction a generalizing st with
  | nil => rfl
  | cons l ls ih =>
    simp only [List.cons_append, parseFold, bind]
    cases parseStep delim st l with
    | error e => rfl
    | ok st' => simp only [Except.bind]; exact ih st'

theorem parseStep_first (delim : Option Char) (blk : List (List Str)) (l : Str)
    (h : startsWith ['d','a','t','a'] l = true) :
    parseStep delim ⟨[], none, blk⟩ l = .ok ⟨[(l, [])], some l, blk⟩ := by
  simp [parseStep, h, Cats.get?, Cats.set, pure, Except.pure]

/-- a `data_…` line that opens a new category: the columns of the previous one are filled from the
block, the block is cleared -/
theorem parseStep_next (delim : Option Char) (pre : Cats) (cat : Str) (d : Dict) (blk : List (List Str)) (l : Str)
    (h : startsWith ['d','a','t','a'] l = true) (hne : (cat != l) = true)
    (hpre : Fresh pre cat)
    (hnew : Fresh (pre ++ [(cat, flushMid d blk)]) l) :
    parseStep delim ⟨pre ++ [(cat, d)], some cat, blk⟩ l =
      .ok ⟨pre ++ [(cat, flushMid d blk)] ++ [(l, [])], some l, []⟩ := by
  simp only [parseStep, h, if_true, hne, Cats.get?_snoc pre cat d hpre, Cats.set_snoc pre cat d _ hpre,
    Cats.get?_none _ l hnew, Cats.set_new _ l [] hnew, Option.isSome_none, Bool.false_eq_true, if_false]
  rfl

def loopS : Str := ['l','o','o','p','_']

theorem parseFold_open_first (delim : Option Char) (cat : Str) (cols : List Str)
    (hcat : startsWith ['d','a','t','a'] cat = true)
    (hcols : ∀ l ∈ cols, startsWith ['d','a','t','a'] l = false ∧ startsWith ['_'] l = true) :
    parseFold delim ⟨[], none, []⟩ (cat :: loopS :: cols) =
      .ok ⟨[(cat, cols.foldl (fun d h => Dict.set d h []) [])], some cat, []⟩ := by
  have a := parseStep_first delim [] cat hcat
  have b := parseStep_loop delim ⟨[(cat, [])], some cat, []⟩ loopS (by decide) (by decide) (by decide)
  simp only [parseFold, a, b, bind, Except.bind]
  exact parseFold_columns delim [] cat [] cols [] rfl hcols

theorem parseFold_open_next (delim : Option Char) (pre : Cats) (prev : Str) (d : Dict) (blk : List (List Str))
    (cat : Str) (cols : List Str) (hcat : startsWith ['d','a','t','a'] cat = true) (hne : (prev != cat) = true)
    (hpre : Fresh pre prev)
    (hnew : Fresh (pre ++ [(prev, flushMid d blk)]) cat)
    (hcols : ∀ l ∈ cols, startsWith ['d','a','t','a'] l = false ∧ startsWith ['_'] l = true) :
    parseFold delim ⟨pre ++ [(prev, d)], some prev, blk⟩ (cat :: loopS :: cols) =
      .ok ⟨pre ++ [(prev, flushMid d blk)] ++ [(cat, cols.foldl (fun d h => Dict.set d h []) [])], some cat, []⟩ := by
  have a := parseStep_next delim pre prev d blk cat hcat hne hpre hnew
  have b := parseStep_loop delim ⟨pre ++ [(prev, flushMid d blk)] ++ [(cat, [])], some cat, []⟩ loopS
    (by decide) (by decide) (by decide)
  simp only [parseFold, a, b, bind, Except.bind]
  exact parseFold_columns delim (pre ++ [(prev, flushMid d blk)]) cat [] cols [] hnew hcols

theorem isPrefixOf_append_sep (p t : Str) (sep : Char) (rest : Str) (h : ∀ c ∈ p, (c == sep) = false) :
    p.isPrefixOf (t ++ sep :: rest) = p.isPrefixOf t := by
  induction p generalizing t with
  | nil => simp
  | cons a p' ih =>
    have ha := h a (by simp)
    cases t with
    | nil => simp [List.isPrefixOf, ha]
    | cons b t' =>
      simp only [List.cons_append, List.isPrefixOf]
      rw [ih t' (fun c hc => h c (by simp [hc]))]

theorem startsWith_joinSep (p : Str) (sep : Char) (h : ∀ c ∈ p, (c == sep) = false) (t : Str) (ts : List Str) :
    startsWith p (joinSep sep (t :: ts)) = startsWith p t := by
  cases ts with
  | nil => rfl
  | cons t' ts' => exact isPrefixOf_append_sep p t sep _ h

/-- first token of a particle line: not a keyword of the STAR parser, not a comment -/
def startOk (t : Str) : Bool :=
  !startsWith ['d','a','t','a'] t && !startsWith ['_'] t && !startsWith ['l','o','o','p'] t && !startsWith ['#'] t

/-- the filter `line and line[0] != "#"` -/
def keepLine (l : Str) : Bool := match l with | [] => false | c :: _ => c != '#'

theorem keepLine_of (l : Str) (hne : l ≠ []) (h : startsWith ['#'] l = false) : keepLine l = true := by
  cases l with
  | nil => exact absurd rfl hne
  | cons c cs =>
    simp only [startsWith, List.isPrefixOf, Bool.and_true] at h
    simp only [keepLine, bne, Bool.not_eq_true']
    cases hc : (c == '#') with
    | false => rfl
    | true => rw [beq_iff_eq] at hc; subst hc; simp at h

/-- the two ways the reader is called on RELION files: `delimiter=None` and `delimiter="\t"` -/
def DelimOk (delim : Option Char) : Prop := delim = none ∨ delim = some '\t'

theorem splitLine_joinSep (delim : Option Char) (hd : DelimOk delim) (toks : List Str) (hw : rowWf toks) :
    splitLine delim (joinSep '\t' toks) = toks := by
  rcases hd with rfl | rfl
  · exact splitWs_joinSep '\t' (by decide) toks hw
  · exact splitBy_joinSep (· == '\t') '\t' (by simp) toks hw.1 (rowWf_noSep '\t' (by decide) toks hw)

theorem dataLine_joinSep (delim : Option Char) (hd : DelimOk delim) (t : Str) (ts : List Str) (hw : rowWf (t :: ts))
    (hs : startOk t = true) :
    isDataLineD delim (joinSep '\t' (t :: ts)) = true ∧ keepLine (joinSep '\t' (t :: ts)) = true ∧
      ∀ c ∈ joinSep '\t' (t :: ts), (c == '\n') = false := by
  simp only [startOk, Bool.and_eq_true, Bool.not_eq_true'] at hs
  obtain ⟨⟨⟨h1, h2⟩, h3⟩, h4⟩ := hs
  refine ⟨?_, ?_, ?_⟩
  · simp only [isDataLineD, splitLine_joinSep delim hd _ hw, Bool.and_eq_true, Bool.not_eq_true']
    rw [startsWith_joinSep _ '\t' (by decide), startsWith_joinSep _ '\t' (by decide), startsWith_joinSep _ '\t' (by decide)]
    exact ⟨⟨⟨h1, h2⟩, h3⟩, rfl⟩
  · apply keepLine_of _ (rowWf_joinSep_ne_nil '\t' _ hw)
    rw [startsWith_joinSep _ '\t' (by decide)]; exact h4
  · exact joinSep_noNl '\t' (by decide) _ hw

theorem Dict.foldl_set_new (hs : List Str) (cs : List (List Str)) (acc : Dict)
    (hnd : (acc.map (·.1) ++ hs).Nodup) :
    (hs.zip cs).foldl (fun d hc => Dict.set d hc.1 hc.2) acc = acc ++ hs.zip cs := by
  induction hs generalizing cs acc with
  | nil => simp
  | cons h hs ih =>
    cases cs with
    | nil => simp
    | cons c cs =>
      have hfresh : Fresh acc h := by
        rw [Fresh, List.all_eq_true]
        intro e he
        have hn := (List.nodup_append.mp hnd).2.2 e.1 (List.mem_map_of_mem he) h (by simp)
        simpa using hn
      simp only [List.zip_cons_cons, List.foldl_cons, Dict.set_new acc h c hfresh]
      rw [ih cs (acc ++ [(h, c)]) (by
        simpa [List.map_append, List.append_assoc] using hnd)]
      simp

theorem buildDict_nodup (hs : List Str) (cs : List (List Str)) (h : hs.Nodup) : buildDict hs cs = hs.zip cs := by
  unfold buildDict
  rw [Dict.foldl_set_new hs cs [] (by simpa using h)]
  rfl

theorem Dict.col_zip (hs : List Str) (cs : List (List Str)) (k : Str) (j : Nat)
    (hj : hs.idxOf k = j) (h1 : j < hs.length) (h2 : j < cs.length) :
    Dict.col (hs.zip cs) k = .ok (cs.getD j []) := by
  induction hs generalizing cs j with
  | nil => exact absurd h1 (Nat.not_lt_zero j)
  | cons h hs ih =>
    cases cs with
    | nil => exact absurd h2 (Nat.not_lt_zero j)
    | cons c cs =>
      rw [List.idxOf_cons] at hj
      cases hk : (h == k) with
      | true =>
        rw [hk, cond_true] at hj
        subst hj
        simp only [Dict.col, List.zip_cons_cons, List.find?_cons, hk, List.getD_cons_zero]
        rfl
      | false =>
        rw [hk, cond_false] at hj
        subst hj
        have := ih cs (hs.idxOf k) rfl (Nat.lt_of_succ_lt_succ h1) (Nat.lt_of_succ_lt_succ h2)
        simp only [Dict.col, List.zip_cons_cons, List.find?_cons, hk, List.getD_cons_succ] at this ⊢
        exact this

/-- `list(zip(*block)) if len(block) else [()] * len(headers)` for a block of `m`-column rows -/
theorem flush_columns (block : List (List Str)) (m : Nat) (h : ∀ r ∈ block, r.length = m) :
    (if block.isEmpty then List.replicate m [] else transpose block) =
      (List.range m).map (fun j => block.map (fun r => r.getD j [])) := by
  cases block with
  | nil =>
    simp only [List.isEmpty_nil, if_true, List.map_nil]
    apply List.ext_getElem <;> simp
  | cons r rs =>
    simp only [List.isEmpty_cons, Bool.false_eq_true, if_false]
    exact transpose_uniform (r :: rs) m (by simp) h

theorem Dict.foldl_set_nil (hs : List Str) (h : hs.Nodup) :
    hs.foldl (fun d h => Dict.set d h []) [] = hs.map (fun h => (h, [])) := by
  have := Dict.foldl_set_new hs (hs.map fun _ => []) [] (by simpa using h)
  rwa [← List.map_prod_left_eq_zip, List.foldl_map, List.nil_append] at this

theorem flushEnd_fresh (hs : List Str) (block : List (List Str)) (m : Nat) (hnd : hs.Nodup)
    (hsc : hs.map stripComment = hs) (hm : hs.length = m) (hb : ∀ r ∈ block, r.length = m) :
    flushEnd (hs.map (fun h => (h, []))) block =
      hs.zip ((List.range m).map (fun j => block.map (fun r => r.getD j []))) := by
  have hh : (hs.map (fun h => (h, ([] : List Str)))).map (fun e => stripComment e.1) = hs := by
    rw [List.map_map]; exact hsc
  unfold flushEnd
  simp only [hh]
  rw [hm, flush_columns block m hb, buildDict_nodup _ _ hnd]

def dataOptics : Str := ['d','a','t','a','_','o','p','t','i','c','s']
def verS : Str := ['#',' ','v','e','r','s','i','o','n',' ','3','0','0','0','1']
def cCtf : Str := ['_','r','l','n','C','t','f','I','m','a','g','e']

/-- the seven optics column names -/
def opticsCols : List Str := opticsHeader.drop 4
def opticsDict : Dict := opticsCols.map (fun h => (h, []))

/-- the particle column names, in file order -/
def pcols (name : NameArg) (ctf : Option Str) : List Str :=
  [cX, cY, cZ] ++ name.column.toList ++ [cRot, cTilt, cPsi, cOptics] ++
  (match ctf with | some _ => [cCtf] | Option.none => [])

/-- tokens of the one optics data line -/
def opticsToks (size sampling : Str) : List Str :=
  [t1, ['o','p','t','i','c','s','G','r','o','u','p','1'], ['2','.','7','0','0','0','0','0'],
   ['3','0','0','.','0','0','0','0','0','0'], size, t3, sampling]

/-- all lines of the file for given particle lines -/
def starFileLines (size sampling : Str) (name : NameArg) (ctf : Option Str) (body : List Str) : List Str :=
  opticsHeader ++ [joinSep '\t' (opticsToks size sampling)] ++ [[], verS] ++ particleHeader name ctf ++ body

theorem writeStar_eq (size sampling : Str) (name : NameArg) (ctf : Option Str) (rows : List StarRow) :
    writeStar size sampling name ctf rows =
      (starLines name ctf 0 rows).map (fun body =>
        (starFileLines size sampling name ctf body).flatMap (fun l => l ++ ['\n'])) := by
  unfold writeStar
  cases starLines name ctf 0 rows <;> rfl

def noNl (l : Str) : Bool := l.all (fun c => !(c == '\n'))

theorem noNl_iff (l : Str) : noNl l = true ↔ ∀ c ∈ l, (c == '\n') = false := by
  simp [noNl, List.all_eq_true]

theorem opticsHeader_noNl : opticsHeader.all noNl = true := by decide
theorem particleHeader_noNl (name : NameArg) (ctf : Option Str) : (particleHeader name ctf).all noNl = true := by
  cases name <;> cases ctf <;> simp only [particleHeader, NameArg.column] <;> decide

theorem opticsHeader_kept : opticsHeader.filter keepLine = dataOptics :: loopS :: opticsCols := by decide
theorem particleHeader_kept (name : NameArg) (ctf : Option Str) :
    (particleHeader name ctf).filter keepLine = dataParticles :: loopS :: pcols name ctf := by
  cases name <;> cases ctf <;> simp only [particleHeader, pcols, NameArg.column] <;> decide

theorem opticsCols_lines : ∀ l ∈ opticsCols, startsWith ['d','a','t','a'] l = false ∧ startsWith ['_'] l = true := by decide
theorem pcols_lines (name : NameArg) (ctf : Option Str) :
    ∀ l ∈ pcols name ctf, startsWith ['d','a','t','a'] l = false ∧ startsWith ['_'] l = true := by
  cases name <;> cases ctf <;> simp only [pcols, NameArg.column] <;> decide

theorem opticsCols_fold : opticsCols.foldl (fun d h => Dict.set d h []) [] = opticsDict := by decide
theorem pcols_nodup (name : NameArg) (ctf : Option Str) : (pcols name ctf).Nodup := by
  cases name <;> cases ctf <;> simp only [pcols, NameArg.column] <;> decide

theorem pcols_stripComment (name : NameArg) (ctf : Option Str) :
    (pcols name ctf).map stripComment = pcols name ctf := by
  cases name <;> cases ctf <;> simp only [pcols, NameArg.column] <;> decide

def ncols (name : NameArg) (ctf : Option Str) : Nat :=
  7 + (if name.column.isSome then 1 else 0) + (if ctf.isSome then 1 else 0)

theorem pcols_length (name : NameArg) (ctf : Option Str) : (pcols name ctf).length = ncols name ctf := by
  cases name <;> cases ctf <;> rfl

/-- position of the first angle column -/
def angAt (name : NameArg) : Nat := if name.column.isSome then 4 else 3

theorem pcols_idx (name : NameArg) (ctf : Option Str) :
    (pcols name ctf).idxOf cX = 0 ∧ (pcols name ctf).idxOf cY = 1 ∧ (pcols name ctf).idxOf cZ = 2 ∧
    (pcols name ctf).idxOf cRot = angAt name ∧ (pcols name ctf).idxOf cTilt = angAt name + 1 ∧
    (pcols name ctf).idxOf cPsi = angAt name + 2 ∧ angAt name + 2 < ncols name ctf := by
  cases name <;> cases ctf <;> simp only [pcols, NameArg.column, angAt, ncols, Option.isSome_some, Option.isSome_none] <;> decide

/-- a particle line as tokens: whitespace-free, first token not a keyword, one token per column -/
structure LineOk (m : Nat) (toks : List Str) : Prop where
  wf : rowWf toks
  first : startOk (toks.headD []) = true
  len : toks.length = m

theorem LineOk.facts (delim : Option Char) (hd : DelimOk delim) {m : Nat} {toks : List Str} (h : LineOk m toks) :
    isDataLineD delim (joinSep '\t' toks) = true ∧ keepLine (joinSep '\t' toks) = true ∧
      ∀ c ∈ joinSep '\t' toks, (c == '\n') = false := by
  obtain ⟨hw, hf, _⟩ := h
  cases toks with
  | nil => exact absurd rfl hw.1
  | cons t ts => exact dataLine_joinSep delim hd t ts hw hf

theorem opticsToks_ok (size sampling : Str) (hsz : tokWf size) (hsa : tokWf sampling) :
    LineOk 7 (opticsToks size sampling) := by
  refine ⟨rowWf_of_all _ (by simp [opticsToks]) ?_, (by decide : startOk t1 = true), rfl⟩
  have h1 := (tokOk_iff size).mpr hsz
  have h2 := (tokOk_iff sampling).mpr hsa
  have c : tokOk t1 = true ∧ tokOk ['o','p','t','i','c','s','G','r','o','u','p','1'] = true ∧
    tokOk ['2','.','7','0','0','0','0','0'] = true ∧ tokOk ['3','0','0','.','0','0','0','0','0','0'] = true ∧
    tokOk t3 = true := by decide
  simp [opticsToks, List.all_cons, h1, h2, c.1, c.2.1, c.2.2.1, c.2.2.2.1, c.2.2.2.2]

/-- **the parser on a written file**: for any particle lines given as token rows (one token per column,
whitespace-free, not starting like a keyword), `_parse_star` returns the optics category (its columns filled from
the one optics line) and the particle category whose dictionary pairs every column name, in file order, with the
list of the tokens of that column in row order -/
theorem parseStar_written (delim : Option Char) (hd : DelimOk delim) (size sampling : Str) (name : NameArg)
    (ctf : Option Str) (body : List (List Str)) (hsz : tokWf size) (hsa : tokWf sampling)
    (hb : ∀ toks ∈ body, LineOk (ncols name ctf) toks) :
    parseStar delim ((starFileLines size sampling name ctf (body.map (joinSep '\t'))).flatMap (fun l => l ++ ['\n'])) =
      .ok [(dataOptics, flushMid opticsDict [opticsToks size sampling]),
           (dataParticles, (pcols name ctf).zip
              ((List.range (ncols name ctf)).map (fun j => body.map (fun r => r.getD j []))))] := by
  have ho := opticsToks_ok size sampling hsz hsa
  obtain ⟨ho1, ho2, ho3⟩ := ho.facts delim hd
  have hbody : ∀ l ∈ body.map (joinSep '\t'), isDataLineD delim l = true ∧ keepLine l = true ∧
      ∀ c ∈ l, (c == '\n') = false := by
    intro l hl
    obtain ⟨toks, ht, rfl⟩ := List.mem_map.mp hl
    exact (hb toks ht).facts delim hd
  have hnl : ∀ l ∈ starFileLines size sampling name ctf (body.map (joinSep '\t')), ∀ c ∈ l, (c == '\n') = false := by
    intro l hl
    simp only [starFileLines, List.mem_append, List.mem_cons, List.mem_nil_iff, or_false] at hl
    rcases hl with (((hl | rfl) | hl) | hl) | hl
    · exact (noNl_iff l).mp (List.all_eq_true.mp opticsHeader_noNl l hl)
    · exact ho3
    · rcases hl with rfl | rfl <;> decide
    · exact (noNl_iff l).mp (List.all_eq_true.mp (particleHeader_noNl name ctf) l hl)
    · exact (hbody l hl).2.2
  have hfilter : (starFileLines size sampling name ctf (body.map (joinSep '\t')) ++ [[]]).filter keepLine =
      (dataOptics :: loopS :: opticsCols) ++ [joinSep '\t' (opticsToks size sampling)] ++
        (dataParticles :: loopS :: pcols name ctf) ++ body.map (joinSep '\t') := by
    simp only [starFileLines, List.filter_append, opticsHeader_kept, particleHeader_kept]
    rw [List.filter_eq_self.mpr (fun l hl => (hbody l hl).2.1)]
    have e1 : [joinSep '\t' (opticsToks size sampling)].filter keepLine = [joinSep '\t' (opticsToks size sampling)] := by
      simp [List.filter, ho2]
    have e2 : [[], verS].filter keepLine = [] := by decide
    have e3 : [([] : Str)].filter keepLine = [] := by decide
    rw [e1, e2, e3]
    simp
  -- the four stretches of kept lines: optics header, optics line, particle header, particle lines
  have s1 : parseFold delim ⟨[], none, []⟩ (dataOptics :: loopS :: opticsCols) =
      .ok ⟨[(dataOptics, opticsDict)], some dataOptics, []⟩ := by
    rw [← opticsCols_fold]
    exact parseFold_open_first delim dataOptics opticsCols (by decide) opticsCols_lines
  have s2 := parseFold_dataD delim [(dataOptics, opticsDict)] (some dataOptics) [] [joinSep '\t' (opticsToks size sampling)]
    (by intro l hl; rw [List.mem_singleton.mp hl]; exact ho1)
  rw [List.map_singleton, splitLine_joinSep delim hd _ ho.wf, List.nil_append] at s2
  have s3 : parseFold delim ⟨[(dataOptics, opticsDict)], some dataOptics, [opticsToks size sampling]⟩
      (dataParticles :: loopS :: pcols name ctf) =
      .ok ⟨[(dataOptics, flushMid opticsDict [opticsToks size sampling]),
            (dataParticles, (pcols name ctf).map (fun h => (h, [])))], some dataParticles, []⟩ := by
    rw [← Dict.foldl_set_nil _ (pcols_nodup name ctf)]
    exact parseFold_open_next delim [] dataOptics opticsDict [opticsToks size sampling] dataParticles (pcols name ctf)
      (by decide) (by decide) rfl (by simp only [Fresh, List.nil_append, List.all_cons, List.all_nil, Bool.and_true]; decide)
      (pcols_lines name ctf)
  have s4 := parseFold_dataD delim [(dataOptics, flushMid opticsDict [opticsToks size sampling]),
      (dataParticles, (pcols name ctf).map (fun h => (h, [])))] (some dataParticles) [] (body.map (joinSep '\t'))
      (fun l hl => (hbody l hl).1)
  rw [map_map_cancel _ _ body (fun toks ht => splitLine_joinSep delim hd toks (hb toks ht).wf), List.nil_append] at s4
  have hfresh : Fresh [(dataOptics, flushMid opticsDict [opticsToks size sampling])] dataParticles := by
    simp only [Fresh, List.all_cons, List.all_nil, Bool.and_true]; decide
  have hget := Cats.get?_snoc [(dataOptics, flushMid opticsDict [opticsToks size sampling])] dataParticles
    ((pcols name ctf).map (fun h => (h, []))) hfresh
  have hflush := flushEnd_fresh _ body _ (pcols_nodup name ctf) (pcols_stripComment name ctf) (pcols_length name ctf)
    (fun r hr => (hb r hr).len)
  have hset := Cats.set_snoc [(dataOptics, flushMid opticsDict [opticsToks size sampling])] dataParticles
    ((pcols name ctf).map (fun h => (h, [])))
    ((pcols name ctf).zip ((List.range (ncols name ctf)).map (fun j => body.map (fun r => r.getD j [])))) hfresh
  simp only [List.cons_append, List.nil_append] at hget hset
  unfold parseStar
  rw [splitOn_nl_lines _ hnl]
  change (do
    let st ← parseFold delim ⟨[], none, []⟩ ((starFileLines size sampling name ctf (body.map (joinSep '\t')) ++ [[]]).filter keepLine)
    _) = _
  rw [hfilter, parseFold_append, parseFold_append, parseFold_append, s1]
  simp only [Except.bind, s2, s3, s4, bind, hget, hflush, hset, pure, Except.pure]

/-- the tokens of one particle line: x y z [name] rot tilt psi 1 [ctf] -/
def starToks (r : StarRow) (nm ctf : Option Str) : List Str :=
  r.trans.reverse ++ nm.toList ++ r.ang ++ [t1] ++ ctf.toList

/-- a particle as the writer receives it: three coordinates (stored z, y, x), three angles, all printed as
non-empty whitespace-free tokens; the x coordinate (first on the line) does not look like a STAR keyword or a
comment (no number does) -/
structure StarWf (r : StarRow) : Prop where
  trans : r.trans.length = 3
  ang : r.ang.length = 3
  toks : ∀ t ∈ r.trans ++ r.ang, tokWf t
  first : startOk (r.trans.getD 2 []) = true

/-- the `name` argument for `n` particles: nothing, one token, or a list with (at least) one token per particle -/
def NameOk (name : NameArg) (n : Nat) : Prop :=
  match name with
  | .none => True
  | .single s => tokWf s
  | .many l => ∀ k, k < n → ∃ s, l[k]? = some s ∧ tokWf s

/-- the name written on one line: present iff the header has a name column, and a proper token -/
def LineNameOk (name : NameArg) (nm : Option Str) : Prop :=
  nm.isSome = name.column.isSome ∧ ∀ s, nm = some s → tokWf s

theorem name_at (name : NameArg) (n i : Nat) (h : NameOk name n) (hi : i < n) :
    ∃ nm, name.at i = .ok nm ∧ LineNameOk name nm := by
  cases name with
  | none => exact ⟨Option.none, rfl, rfl, by intro s hs; cases hs⟩
  | single s => exact ⟨some s, rfl, rfl, by intro s' hs; cases hs; exact h⟩
  | many l =>
    obtain ⟨s, hs, hw⟩ := h i hi
    refine ⟨some s, by simp [NameArg.at, hs, pure, Except.pure], rfl, ?_⟩
    intro s' hs'; cases hs'; exact hw

theorem starLines_ok (name : NameArg) (ctf : Option Str) (rows : List StarRow) (i : Nat)
    (h : NameOk name (i + rows.length)) :
    ∃ nms : List (Option Str), nms.length = rows.length ∧ (∀ nm ∈ nms, LineNameOk name nm) ∧
      starLines name ctf i rows = .ok ((rows.zip nms).map (fun p => starLine p.1 p.2 ctf)) := by
  induction rows generalizing i with
  | nil => exact ⟨[], rfl, by simp, rfl⟩
  | cons r rs ih =>
    obtain ⟨nm, hnm, hok⟩ := name_at name _ i h (by simp)
    obtain ⟨nms, hl, hall, hrest⟩ := ih (i + 1) (by
      have : i + 1 + rs.length = i + (r :: rs).length := by rw [List.length_cons]; omega
      rw [this]; exact h)
    refine ⟨nm :: nms, by simp [hl], ?_, ?_⟩
    · intro x hx
      rcases List.mem_cons.mp hx with rfl | hx
      · exact hok
      · exact hall x hx
    · simp only [starLines, hnm, hrest, bind, Except.bind, pure, Except.pure, List.zip_cons_cons, List.map_cons]

theorem starLine_eq (r : StarRow) (nm ctf : Option Str) (ht : r.trans ≠ []) (ha : r.ang ≠ []) :
    starLine r nm ctf = joinSep '\t' (starToks r nm ctf) := by
  have h0 : r.trans.reverse ≠ [] := by simpa using ht
  unfold starLine starToks
  rw [joinSep_append_opt _ _ ctf (by simp), joinSep_append _ _ [t1] (by simp [ha]) (List.cons_ne_nil _ _),
    joinSep_append _ _ r.ang (by simp [h0]) ha, joinSep_append_opt _ _ nm h0]
  simp only [List.append_assoc, List.cons_append, List.nil_append, joinSep, t1]
  rfl

theorem starToks_lineOk (name : NameArg) (ctf : Option Str) (r : StarRow) (nm : Option Str) (hr : StarWf r)
    (hnm : LineNameOk name nm) (hc : ∀ s, ctf = some s → tokWf s) : LineOk (ncols name ctf) (starToks r nm ctf) := by
  refine ⟨⟨?_, ?_⟩, ?_, ?_⟩
  · have : r.trans ≠ [] := fun h => by simpa [h] using hr.trans
    simp [starToks, this]
  · intro t ht
    simp only [starToks, List.mem_append, List.mem_reverse, Option.mem_toList, List.mem_singleton] at ht
    rcases ht with (((h | h) | h) | h) | h
    · exact hr.toks t (List.mem_append_left _ h)
    · exact hnm.2 t h
    · exact hr.toks t (List.mem_append_right _ h)
    · subst h; decide
    · exact hc t h
  · obtain ⟨trans, ang⟩ := r
    obtain ⟨z, y, x, rfl⟩ := length_eq_three hr.trans
    exact hr.first
  · simp only [starToks, List.length_append, List.length_reverse, hr.trans, hr.ang, ncols, ← hnm.1]
    cases nm <;> cases ctf <;> rfl

theorem starToks_getD (name : NameArg) (ctf : Option Str) (r : StarRow) (nm : Option Str) (hr : StarWf r)
    (hnm : LineNameOk name nm) :
    (starToks r nm ctf).getD 0 [] = r.trans.getD 2 [] ∧ (starToks r nm ctf).getD 1 [] = r.trans.getD 1 [] ∧
    (starToks r nm ctf).getD 2 [] = r.trans.getD 0 [] ∧
    (starToks r nm ctf).getD (angAt name) [] = r.ang.getD 0 [] ∧
    (starToks r nm ctf).getD (angAt name + 1) [] = r.ang.getD 1 [] ∧
    (starToks r nm ctf).getD (angAt name + 2) [] = r.ang.getD 2 [] := by
  obtain ⟨trans, ang⟩ := r
  obtain ⟨z, y, x, rfl⟩ := length_eq_three hr.trans
  obtain ⟨a, b, c, rfl⟩ := length_eq_three hr.ang
  rw [angAt, ← hnm.1]
  cases nm with
  | none =>
    have e : starToks ⟨[z, y, x], [a, b, c]⟩ none ctf = x :: y :: z :: a :: b :: c :: t1 :: ctf.toList := rfl
    simp only [e, Option.isSome_none, Bool.false_eq_true, if_false, List.getD_cons_succ, List.getD_cons_zero, and_self]
  | some s =>
    have e : starToks ⟨[z, y, x], [a, b, c]⟩ (some s) ctf = x :: y :: z :: s :: a :: b :: c :: t1 :: ctf.toList := rfl
    simp only [e, Option.isSome_some, if_true, List.getD_cons_succ, List.getD_cons_zero, and_self]

/-- what `_from_relion_star` is expected to see for written particles: the coordinate columns in the stored
z, y, x order and the three angle columns, rows in order -/
def StarOut.ofRows (rows : List StarRow) : StarOut :=
  ⟨[rows.map (fun r => r.trans.getD 0 []), rows.map (fun r => r.trans.getD 1 []), rows.map (fun r => r.trans.getD 2 [])],
   [rows.map (fun r => r.ang.getD 0 []), rows.map (fun r => r.ang.getD 1 []), rows.map (fun r => r.ang.getD 2 [])]⟩

theorem zip_map_fst {α β γ : Type} (l : List α) (m : List β) (f : α × β → γ) (g : α → γ) (hl : m.length = l.length)
    (h : ∀ p ∈ l.zip m, f p = g p.1) : (l.zip m).map f = l.map g := by
  rw [List.map_congr_left h]
  rw [show (fun p : α × β => g p.1) = g ∘ Prod.fst from rfl, ← List.map_map, List.map_fst_zip (by omega)]

theorem Dict.col_zip_range (hs : List Str) (n : Nat) (f : Nat → List Str) (k : Str) (j : Nat) (hn : hs.length = n)
    (hk : hs.idxOf k = j) (hj : j < n) : Dict.col (hs.zip ((List.range n).map f)) k = .ok (f j) := by
  rw [Dict.col_zip hs _ k j hk (hn ▸ hj) (by simpa using hj)]
  simp [List.getD_eq_getElem?_getD, hj]

section
variable (delim : Option Char) (hd : DelimOk delim) (size sampling : Str) (name : NameArg) (ctf : Option Str)
  (hsz : tokWf size) (hsa : tokWf sampling)
include hd hsz hsa

theorem particles_written (body : List (List Str)) (hb : ∀ toks ∈ body, LineOk (ncols name ctf) toks) :
    particles delim ((starFileLines size sampling name ctf (body.map (joinSep '\t'))).flatMap (fun l => l ++ ['\n'])) =
      .ok ((pcols name ctf).zip ((List.range (ncols name ctf)).map (fun j => body.map (fun r => r.getD j [])))) := by
  unfold particles
  rw [parseStar_written delim hd size sampling name ctf body hsz hsa hb]
  have := Cats.get?_snoc [(dataOptics, flushMid opticsDict [opticsToks size sampling])] dataParticles
    ((pcols name ctf).zip ((List.range (ncols name ctf)).map (fun j => body.map (fun r => r.getD j []))))
    (by simp only [Fresh, List.all_cons, List.all_nil, Bool.and_true]; decide)
  simp only [List.cons_append, List.nil_append] at this
  simp only [bind, Except.bind, this]
  rfl

theorem readStar_written (body : List (List Str)) (hb : ∀ toks ∈ body, LineOk (ncols name ctf) toks) :
    readStar delim ((starFileLines size sampling name ctf (body.map (joinSep '\t'))).flatMap (fun l => l ++ ['\n'])) =
      .ok ⟨[body.map (fun r => r.getD 2 []), body.map (fun r => r.getD 1 []), body.map (fun r => r.getD 0 [])],
           [body.map (fun r => r.getD (angAt name) []), body.map (fun r => r.getD (angAt name + 1) []),
            body.map (fun r => r.getD (angAt name + 2) [])]⟩ := by
  obtain ⟨iX, iY, iZ, iR, iT, iP, hlt⟩ := pcols_idx name ctf
  have col := fun k j hk hj => Dict.col_zip_range (pcols name ctf) (ncols name ctf)
    (fun j => body.map (fun r => r.getD j [])) k j (pcols_length name ctf) hk hj
  have lt : ∀ j, j ≤ angAt name + 2 → j < ncols name ctf := fun j hj => Nat.lt_of_le_of_lt hj hlt
  unfold readStar
  rw [particles_written delim hd size sampling name ctf hsz hsa body hb]
  simp only [bind, Except.bind, Dict.transCols, Dict.angCols,
    col cZ 2 iZ (lt 2 (Nat.le_add_left _ _)), col cY 1 iY (lt 1 (Nat.le_trans (Nat.le_succ 1) (Nat.le_add_left _ _))),
    col cX 0 iX (lt 0 (Nat.zero_le _)), col cRot _ iR (lt _ (Nat.le_add_right _ _)),
    col cTilt _ iT (lt _ (Nat.add_le_add_left (Nat.le_succ 1) _)), col cPsi _ iP hlt]
  rfl

theorem star_written_read (rows : List StarRow) (hn : NameOk name rows.length) (hc : ∀ s, ctf = some s → tokWf s)
    (hr : ∀ r ∈ rows, StarWf r) :
    ∃ text, writeStar size sampling name ctf rows = .ok text ∧ readStar delim text = .ok (StarOut.ofRows rows) ∧
      ∃ cols : List (List Str), cols.length = ncols name ctf ∧ (∀ c ∈ cols, c.length = rows.length) ∧
        particles delim text = .ok ((pcols name ctf).zip cols) := by
  obtain ⟨nms, hl, hnms, hlines⟩ := starLines_ok name ctf rows 0 (by simpa using hn)
  have hrow : ∀ p ∈ rows.zip nms, StarWf p.1 ∧ LineNameOk name p.2 :=
    fun p hp => ⟨hr p.1 (List.of_mem_zip hp).1, hnms p.2 (List.of_mem_zip hp).2⟩
  have hbody : (rows.zip nms).map (fun p => starLine p.1 p.2 ctf) =
      ((rows.zip nms).map (fun p => starToks p.1 p.2 ctf)).map (joinSep '\t') := by
    rw [List.map_map]
    refine List.map_congr_left (fun p hp => starLine_eq p.1 p.2 ctf ?_ ?_)
    · intro h; simpa [h] using (hrow p hp).1.trans
    · intro h; simpa [h] using (hrow p hp).1.ang
  have hb : ∀ toks ∈ (rows.zip nms).map (fun p => starToks p.1 p.2 ctf), LineOk (ncols name ctf) toks := by
    intro toks ht
    obtain ⟨p, hp, rfl⟩ := List.mem_map.mp ht
    exact starToks_lineOk name ctf p.1 p.2 (hrow p hp).1 (hrow p hp).2 hc
  have hcol : ∀ (j : Nat) (g : StarRow → Str), (∀ p ∈ rows.zip nms, (starToks p.1 p.2 ctf).getD j [] = g p.1) →
      ((rows.zip nms).map (fun p => starToks p.1 p.2 ctf)).map (fun r => r.getD j []) = rows.map g := by
    intro j g hg
    rw [List.map_map]
    exact zip_map_fst rows nms _ g hl hg
  have hpos := fun p hp => starToks_getD name ctf p.1 p.2 (hrow p hp).1 (hrow p hp).2
  refine ⟨_, by rw [writeStar_eq, hlines, hbody]; rfl, ?_, _, ?_, ?_,
    particles_written delim hd size sampling name ctf hsz hsa _ hb⟩
  · rw [readStar_written delim hd size sampling name ctf hsz hsa _ hb, StarOut.ofRows,
      hcol 2 (fun r => r.trans.getD 0 []) (fun p hp => (hpos p hp).2.2.1),
      hcol 1 (fun r => r.trans.getD 1 []) (fun p hp => (hpos p hp).2.1),
      hcol 0 (fun r => r.trans.getD 2 []) (fun p hp => (hpos p hp).1),
      hcol (angAt name) (fun r => r.ang.getD 0 []) (fun p hp => (hpos p hp).2.2.2.1),
      hcol (angAt name + 1) (fun r => r.ang.getD 1 []) (fun p hp => (hpos p hp).2.2.2.2.1),
      hcol (angAt name + 2) (fun r => r.ang.getD 2 []) (fun p hp => (hpos p hp).2.2.2.2.2)]
  · simp
  · intro c hc'
    obtain ⟨j, _, rfl⟩ := List.mem_map.mp hc'
    simp [hl]

end

end Pm.C11
