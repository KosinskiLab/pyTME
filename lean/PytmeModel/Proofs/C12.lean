import PytmeModel.Model.C12
import PytmeModel.Proofs.Common
import Mathlib.Algebra.Order.Field.Rat

/-! Helper lemmas for C12: per-axis frequency index arithmetic, the laws assumed of the scalar
operations, and the list plumbing that lifts per-axis facts to n-D masks. -/
namespace Pm.C12

/-- the roll of `shift_fourier` places at `j` the centred position `j + ⌊n/2⌋ (mod n)`:
rolling back by `⌈n/2⌉` and forward by `⌊n/2⌋` differ by a full turn -/
theorem shiftSrc_eq_mod (n j : Nat) : shiftSrc n j = (j + n / 2) % n := by
  unfold shiftSrc rollSrc shiftAmt
  have h : (j : Int) - ((n / 2 + n % 2 : Nat) : Int) = ((j + n / 2 : Nat) : Int) - (n : Int) := by omega
  rw [h, Int.sub_emod_right, ← Int.natCast_mod, Int.toNat_natCast]

theorem shiftSrc_lt (n j : Nat) (hn : 0 < n) : shiftSrc n j < n := by
  rw [shiftSrc_eq_mod]; exact Nat.mod_lt _ hn

theorem shiftSrc_zero (n : Nat) (h : 0 < n) : shiftSrc n 0 = n / 2 := by
  rw [shiftSrc_eq_mod, Nat.zero_add, Nat.mod_eq_of_lt (Nat.div_lt_self h (by decide))]

theorem k_shiftSrc (n j : Nat) :
    ((shiftSrc n j : Nat) : Int) - ((center n : Nat) : Int) = freqIndex n j := by
  rw [shiftSrc_eq_mod]; rfl

theorem freqIndex_zero (n : Nat) (h : 0 < n) : freqIndex n 0 = 0 := by
  unfold freqIndex
  rw [Nat.zero_add, Nat.mod_eq_of_lt (Nat.div_lt_self h (by decide))]
  exact Int.sub_self _

theorem freqIndex_of_lt (n j : Nat) (h : 2 * j < n) : freqIndex n j = j := by
  unfold freqIndex
  rw [Nat.mod_eq_of_lt (by omega), Int.natCast_add, Int.add_sub_cancel]

theorem freqIndex_of_ge (n j : Nat) (hj : j < n) (h : n ≤ 2 * j) : freqIndex n j = (j : Int) - n := by
  unfold freqIndex
  have h1 : n ≤ j + n / 2 ∧ j + n / 2 - n < n := by omega
  rw [Nat.mod_eq_sub_mod h1.1, Nat.mod_eq_of_lt h1.2, Int.natCast_sub h1.1, Int.natCast_add,
    sub_right_comm, add_sub_cancel_right]

theorem freqIndex_cases (n j : Nat) (hj : j < n) :
    (2 * j < n ∧ freqIndex n j = j) ∨ (n ≤ 2 * j ∧ freqIndex n j = (j : Int) - n) :=
  (Nat.lt_or_ge (2 * j) n).imp (fun h => ⟨h, freqIndex_of_lt n j h⟩) (fun h => ⟨h, freqIndex_of_ge n j hj h⟩)

theorem negPos_of_pos (n j : Nat) (h0 : 0 < j) (hj : j < n) : negPos n j = n - j :=
  Nat.mod_eq_of_lt (Nat.sub_lt (Nat.zero_lt_of_lt hj) h0)

theorem negPos_cases (n j : Nat) (hj : j < n) : (j = 0 ∧ negPos n j = 0) ∨ (0 < j ∧ negPos n j = n - j) :=
  (Nat.eq_zero_or_pos j).imp (fun h => ⟨h, by rw [h]; exact Nat.mod_self n⟩) (fun h => ⟨h, negPos_of_pos n j h hj⟩)

theorem negPos_lt (n j : Nat) (hj : j < n) : negPos n j < n :=
  Nat.mod_lt _ (Nat.zero_lt_of_lt hj)

theorem freqIndex_negPos_exact (n j : Nat) (hj : j < n) (hny : 2 * j ≠ n) :
    freqIndex n (negPos n j) = -(freqIndex n j) := by
  rcases Nat.eq_zero_or_pos j with h0 | h0
  · subst h0
    rw [show negPos n 0 = 0 from Nat.mod_self n, freqIndex_zero n hj]; rfl
  · have hlt : n - j < n := Nat.sub_lt (Nat.zero_lt_of_lt hj) h0
    rw [negPos_of_pos n j h0 hj]
    rcases Nat.lt_or_gt_of_ne hny with h | h
    · rw [freqIndex_of_lt n j h, freqIndex_of_ge n _ hlt (by omega)]; omega
    · rw [freqIndex_of_ge n j hj (Nat.le_of_lt h), freqIndex_of_lt n _ (by omega)]; omega

theorem k_shiftSrc_negPos (n j : Nat) (hj : j < n) (hny : 2 * j ≠ n) :
    ((shiftSrc n (negPos n j) : Nat) : Int) - ((center n : Nat) : Int) =
      -(((shiftSrc n j : Nat) : Int) - ((center n : Nat) : Int)) := by
  rw [k_shiftSrc, k_shiftSrc, freqIndex_negPos_exact n j hj hny]

theorem freqIndex_negPos (n j : Nat) (hj : j < n) :
    freqIndex n (negPos n j) = freqIndex n j ∨ freqIndex n (negPos n j) = -(freqIndex n j) := by
  by_cases hny : 2 * j = n
  · have : negPos n j = j := by rw [negPos_of_pos n j (by omega) hj]; omega
    exact Or.inl (by rw [this])
  · exact Or.inr (freqIndex_negPos_exact n j hj hny)

/-- sign symmetry of division and squaring (true of IEEE-754 arithmetic and of every field) -/
structure SignLaws {α : Type} (o : Ops α) : Prop where
  sq_neg : ∀ (k : Int) (d : α),
    o.mul (o.div (o.ofInt (-k)) d) (o.div (o.ofInt (-k)) d) = o.mul (o.div (o.ofInt k) d) (o.div (o.ofInt k) d)
  div_neg_neg : ∀ a b : Int, o.div (o.ofInt (-a)) (o.ofInt (-b)) = o.div (o.ofInt a) (o.ofInt b)

/-- what is needed at the zero frequency -/
structure ZeroLaws {α : Type} (o : Ops α) : Prop where
  zero_div : ∀ m : Nat, 0 < m → o.div (o.ofInt 0) (o.ofNat m) = o.zero
  mul_zero : o.mul o.zero o.zero = o.zero
  add_zero : o.add o.zero o.zero = o.zero
  sqrt_zero : o.sqrt o.zero = o.zero

theorem ratOps_signLaws : SignLaws ratOps where
  sq_neg := by
    intro k d
    show ((((-k : Int) : Rat)) / d) * ((((-k : Int) : Rat)) / d) = ((k : Rat) / d) * ((k : Rat) / d)
    rw [Int.cast_neg, neg_div, neg_mul_neg]
  div_neg_neg := by
    intro a b
    show (((-a : Int) : Rat)) / (((-b : Int) : Rat)) = (a : Rat) / (b : Rat)
    rw [Int.cast_neg, Int.cast_neg, neg_div_neg_eq]

theorem ratOps_zeroLaws : ZeroLaws ratOps where
  zero_div := fun m _ => show (((0 : Int) : Rat)) / ((m : Nat) : Rat) = 0 by rw [Int.cast_zero, zero_div]
  mul_zero := mul_zero (0 : Rat)
  add_zero := add_zero (0 : Rat)
  sqrt_zero := rfl

section
variable {α : Type} (o : Ops α)

theorem term_of_k (L : SignLaws o) (a a' : Ax) (i i' : Nat) (hn : a.norm = a'.norm)
    (hk : a.k i = a'.k i' ∨ a.k i = -(a'.k i')) : term o a i = term o a' i' := by
  unfold term
  rcases hk with h | h
  · simp only [h, hn]
  · simp only [h, hn]; exact L.sq_neg _ _

theorem k_src (a : Ax) (j : Nat) (hrf : a.rf = false) : a.k (a.src j) = freqIndex a.n j := by
  unfold Ax.k Ax.src
  rw [hrf, if_neg Bool.false_ne_true, if_neg Bool.false_ne_true]
  exact k_shiftSrc a.n j

theorem term_src (a : Ax) (j : Nat) (hrf : a.rf = false) :
    term o a (a.src j) =
      o.mul (o.div (o.ofInt (freqIndex a.n j)) (o.ofNat a.norm)) (o.div (o.ofInt (freqIndex a.n j)) (o.ofNat a.norm)) := by
  unfold term
  rw [k_src a j hrf]

theorem term_src_neg (L : SignLaws o) (a : Ax) (j : Nat) (hj : j < a.n) (hrf : a.rf = false) :
    term o a (a.src (negPos a.n j)) = term o a (a.src j) := by
  rw [term_src o a _ hrf, term_src o a j hrf]
  rcases freqIndex_negPos a.n j hj with h | h
  · rw [h]
  · rw [h]; exact L.sq_neg _ _

theorem term_src_zero (Z : ZeroLaws o) (a : Ax) (hn : 0 < a.n) (hnorm : 0 < a.norm) :
    term o a (a.src 0) = o.zero := by
  have hk : a.k (a.src 0) = 0 := by
    cases hrf : a.rf
    · rw [k_src a 0 hrf]; exact freqIndex_zero a.n hn
    · unfold Ax.k Ax.src; rw [hrf, if_pos rfl, if_pos rfl]; rfl
  unfold term
  rw [hk, Z.zero_div a.norm hnorm, Z.mul_zero]

theorem inShape_rec {P : List Nat → List Nat → Prop} (nil : P [] [])
    (cons : ∀ n ns i is, i < n → inShape ns is = true → P ns is → P (n :: ns) (i :: is)) :
    ∀ shape idx, inShape shape idx = true → P shape idx
  | [], [], _ => nil
  | [], _ :: _, h => nomatch h
  | _ :: _, [], h => nomatch h
  | n :: ns, i :: is, h =>
      have h' := inShape_cons.mp h
      cons n ns i is h'.1 h'.2 (inShape_rec nil cons ns is h'.2)

theorem axes_flags_rec {P : List Ax → List Bool → List Nat → Prop} (nil : P [] [] [])
    (cons : ∀ a as f fs i is, i < a.n → (a.rf && f) = false → P as fs is → P (a :: as) (f :: fs) (i :: is)) :
    ∀ axs flags idx, inShape (axs.map Ax.n) idx = true → flagsOk axs flags = true → P axs flags idx
  | [], [], [], _, _ => nil
  | [], _, _ :: _, h, _ => nomatch h
  | [], _ :: _, [], _, h => nomatch h
  | _ :: _, _, [], h, _ => nomatch h
  | _ :: _, [], _ :: _, _, h => nomatch h
  | a :: as, f :: fs, i :: is, h, hf =>
      have h' := inShape_cons.mp h
      have hf' : (!(a.rf && f)) = true ∧ flagsOk as fs = true := Bool.and_eq_true_iff.mp hf
      cons a as f fs i is h'.1 ((Bool.not_eq_true' _).mp hf'.1) (axes_flags_rec nil cons as fs is h'.2 hf'.2)

theorem inShape_srcIdx {axs : List Ax} {shape idx : List Nat} (hn : axs.map Ax.n = shape)
    (h : inShape shape idx = true) : inShape shape (srcIdx axs idx) = true := by
  subst hn
  induction axs generalizing idx with
  | nil => cases idx with
    | nil => rfl
    | cons _ _ => exact nomatch h
  | cons a as ih => cases idx with
    | nil => exact nomatch h
    | cons i is =>
      have h' : i < a.n ∧ inShape (as.map Ax.n) is = true := inShape_cons.mp h
      refine inShape_cons.mpr ⟨?_, ih h'.2⟩
      unfold Ax.src
      cases a.rf
      · exact shiftSrc_lt _ _ (Nat.zero_lt_of_lt h'.1)
      · exact h'.1

theorem inShape_negIdx {axs : List Ax} {flags : List Bool} {shape idx : List Nat} (hn : axs.map Ax.n = shape)
    (h : inShape shape idx = true) (hf : flagsOk axs flags = true) :
    inShape shape (negIdx flags shape idx) = true := by
  subst hn
  refine axes_flags_rec (P := fun axs flags idx => inShape (axs.map Ax.n) (negIdx flags (axs.map Ax.n) idx) = true)
    rfl (fun a as f fs i is hi _ ih => inShape_cons.mpr ⟨?_, ih⟩) axs flags idx h hf
  cases f
  · exact hi
  · exact negPos_lt _ _ hi

theorem terms_neg (L : SignLaws o) : ∀ (axs : List Ax) (flags : List Bool) (idx : List Nat),
    inShape (axs.map Ax.n) idx = true → flagsOk axs flags = true →
    List.zipWith (term o) axs (srcIdx axs (negIdx flags (axs.map Ax.n) idx)) = List.zipWith (term o) axs (srcIdx axs idx) :=
  axes_flags_rec rfl fun a _ f _ i _ hi hrf ih => List.cons_eq_cons.mpr ⟨by
    cases f
    · rfl
    · exact term_src_neg o L a i hi ((Bool.and_true _).symm.trans hrf), ih⟩

theorem radial_neg (L : SignLaws o) {axs : List Ax} {flags : List Bool} {shape idx : List Nat}
    (hn : axs.map Ax.n = shape) (h : inShape shape idx = true) (hf : flagsOk axs flags = true) :
    radial o axs (srcIdx axs (negIdx flags shape idx)) = radial o axs (srcIdx axs idx) := by
  subst hn
  unfold radial radial2; rw [terms_neg o L axs flags idx h hf]

theorem axesHalf_n : ∀ (shape : List Nat) (rf : Bool), (axesHalf shape rf).map Ax.n = shape
  | [], _ => rfl
  | n :: ns, rf => by
      simp only [axesHalf, List.map_cons, axesHalf_n ns rf]
      split <;> rfl

theorem axesOne_n (shape : List Nat) : (axesOne shape).map Ax.n = shape := by
  unfold axesOne
  induction shape with
  | nil => rfl
  | cons n ns ih => simp only [List.map_cons, ih]

theorem shiftFourier_getD (m : Arr α) (axs : List Ax) (d d' : α) (idx : List Nat)
    (h : inShape m.shape idx = true) :
    (shiftFourier m axs d).getD idx d' = m.getD (srcIdx axs idx) d := by
  unfold shiftFourier
  rw [Arr.getD_ofFn _ _ _ _ h]

end

end Pm.C12
