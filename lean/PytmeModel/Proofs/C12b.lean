import PytmeModel.Proofs.C12
import Mathlib.Algebra.BigOperators.Group.List.Basic

/-! Helper lemmas for C12: the layout every mask shares (centred function, `shift_fourier`, optional
`crop_real_fourier`), the zero frequency, the last axis of a half-spectrum shape, the running product of
`Compose`, and the laws of the scalar operations used by the wedge tail and the tilted planes. -/
namespace Pm.C12

theorem srcIdx_negIdx_getD : ∀ (axs : List Ax) (flags : List Bool) (idx : List Nat),
    inShape (axs.map Ax.n) idx = true → flagsOk axs flags = true → ∀ t, flags.getD t true = false →
    (srcIdx axs (negIdx flags (axs.map Ax.n) idx)).getD t 0 = (srcIdx axs idx).getD t 0 :=
  axes_flags_rec (fun _ _ => rfl) fun _ _ f _ _ _ _ _ ih t hft => by
    cases t with
    | zero => cases f with
      | false => rfl
      | true => exact nomatch hft
    | succ t => exact ih t hft

theorem inShape_zeros : ∀ (shape : List Nat), (∀ n ∈ shape, 1 ≤ n) → inShape shape (shape.map (fun _ => 0)) = true
  | [], _ => rfl
  | n :: ns, h =>
      inShape_cons.mpr ⟨h n List.mem_cons_self, inShape_zeros ns (fun m hm => h m (List.mem_cons_of_mem _ hm))⟩

/-- what the wedge tail needs of `*` and `>` on the values 0 and 1 -/
structure TailLaws {α : Type} (o : Ops α) : Prop where
  one_mul_one : o.mul o.one o.one = o.one
  one_mul_zero : o.mul o.one o.zero = o.zero
  zero_mul_one : o.mul o.zero o.one = o.zero
  zero_mul_zero : o.mul o.zero o.zero = o.zero
  zero_lt_one : o.lt o.zero o.one = true
  zero_lt_zero : o.lt o.zero o.zero = false

theorem ratOps_tailLaws : TailLaws ratOps where
  one_mul_one := mul_one (1 : Rat)
  one_mul_zero := mul_zero (1 : Rat)
  zero_mul_one := zero_mul (1 : Rat)
  zero_mul_zero := mul_zero (0 : Rat)
  zero_lt_one := decide_eq_true (zero_lt_one (α := Rat))
  zero_lt_zero := decide_eq_false (lt_irrefl (0 : Rat))

/-- negation laws of the scalar operations up to an equivalence `E` (IEEE-754: equality of values with `+0` and
`-0` identified - `x + (-x)` and `r * 0` lose the sign of zero -; exact fields: equality) -/
structure LinLaws {α : Type} (o : Ops α) (E : α → α → Prop) : Prop where
  zero : E o.zero (o.neg o.zero)
  mul_neg : ∀ (r : α) (k : Int), E (o.mul r (o.ofInt (-k))) (o.neg (o.mul r (o.ofInt k)))
  add : ∀ a a' b b', E a (o.neg a') → E b (o.neg b') → E (o.add a b) (o.neg (o.add a' b'))
  sq_div : ∀ x y n, E x (o.neg y) → o.mul (o.div x n) (o.div x n) = o.mul (o.div y n) (o.div y n)

theorem ratOps_linLaws : LinLaws ratOps Eq where
  zero := (neg_zero (G := Rat)).symm
  mul_neg := fun r k => show r * (((-k : Int)) : Rat) = -(r * (k : Rat)) by rw [Int.cast_neg, mul_neg]
  add := fun a a' b b' (h1 : a = -a') (h2 : b = -b') => show a + b = -(a' + b') by rw [h1, h2, neg_add]
  sq_div := fun x y n (h : x = -y) => show (x / n) * (x / n) = (y / n) * (y / n) by rw [h, neg_div, neg_mul_neg]

section
variable {α : Type} (o : Ops α)

theorem foldl_linForm_neg {E : α → α → Prop} (N : LinLaws o E) : ∀ (row : List α) (k : List Int) (acc acc' : α),
    E acc (o.neg acc') →
    E ((List.zipWith (fun r k => o.mul r (o.ofInt k)) row (k.map (fun x => -x))).foldl o.add acc)
      (o.neg ((List.zipWith (fun r k => o.mul r (o.ofInt k)) row k).foldl o.add acc'))
  | [], _, _, _, h => h
  | _ :: _, [], _, _, h => h
  | r :: rs, k :: ks, _, _, h => foldl_linForm_neg N rs ks _ _ (N.add _ _ _ _ h (N.mul_neg r k))

theorem radial_src_zero (Z : ZeroLaws o) : ∀ (axs : List Ax), (∀ a ∈ axs, 0 < a.n ∧ 0 < a.norm) →
    radial2 o axs (srcIdx axs (axs.map (fun _ => 0))) = o.zero
  | [], _ => rfl
  | a :: as, h => by
      show List.foldl o.add (o.add o.zero (term o a (a.src 0))) (List.zipWith (term o) as (srcIdx as (as.map (fun _ => 0))))
        = o.zero
      rw [term_src_zero o Z a (h a List.mem_cons_self).1 (h a List.mem_cons_self).2, Z.add_zero]
      exact radial_src_zero Z as (fun b hb => h b (List.mem_cons_of_mem _ hb))

theorem radial_zero (Z : ZeroLaws o) {axs : List Ax} {shape : List Nat} (hn : axs.map Ax.n = shape)
    (hpos : ∀ a ∈ axs, 0 < a.n ∧ 0 < a.norm) :
    radial o axs (srcIdx axs (shape.map (fun _ => 0))) = o.zero := by
  subst hn
  unfold radial
  rw [List.map_map, show (fun _ => 0) ∘ Ax.n = fun _ => 0 from rfl, radial_src_zero o Z axs hpos, Z.sqrt_zero]

theorem axesHalf_pos : ∀ (shape : List Nat) (rf : Bool), (∀ n ∈ shape, 2 ≤ n) →
    ∀ a ∈ axesHalf shape rf, 0 < a.n ∧ 0 < a.norm
  | [], _, _ => fun _ ha => nomatch ha
  | n :: ns, rf, h => by
      have hn : 2 ≤ n := h n List.mem_cons_self
      intro a ha
      rcases List.mem_cons.mp ha with rfl | ha
      · split
        · exact ⟨Nat.lt_of_lt_of_le Nat.zero_lt_two hn, Nat.sub_pos_of_lt hn⟩
        · exact ⟨Nat.lt_of_lt_of_le Nat.zero_lt_two hn, Nat.div_pos hn Nat.zero_lt_two⟩
      · exact axesHalf_pos ns rf (fun m hm => h m (List.mem_cons_of_mem _ hm)) a ha

theorem axesOne_pos (shape : List Nat) (h : ∀ n ∈ shape, 1 ≤ n) : ∀ a ∈ axesOne shape, 0 < a.n ∧ 0 < a.norm := by
  intro a ha
  obtain ⟨n, hn, rfl⟩ := List.mem_map.mp ha
  exact ⟨h n hn, h n hn⟩

theorem radial_dc (Z : ZeroLaws o) (shape : List Nat) (rf : Bool) (hpos : ∀ n ∈ shape, 2 ≤ n) :
    radial o (axesHalf shape rf) (srcIdx (axesHalf shape rf) (shape.map (fun _ => 0))) = o.zero :=
  radial_zero o Z (axesHalf_n shape rf) (axesHalf_pos shape rf hpos)

theorem radial_dc_one (Z : ZeroLaws o) (shape : List Nat) (hpos : ∀ n ∈ shape, 1 ≤ n) :
    radial o (axesOne shape) (srcIdx (axesOne shape) (shape.map (fun _ => 0))) = o.zero :=
  radial_zero o Z (axesOne_n shape) (axesOne_pos shape hpos)

/-- a function `f` of the centred index, then `shift_fourier` along `axs`, then `crop_real_fourier` if asked:
`radialMaskAx`, `contWedge` and `wedgeTail` are of this form by definition -/
def centredMask (shape : List Nat) (axs : List Ax) (crop : Bool) (f : List Nat → α) : Arr α :=
  let m := shiftFourier (Arr.ofFn shape f) axs o.zero
  if crop then cropRealFourier m o.zero else m

theorem centredMask_getD {shape : List Nat} {axs : List Ax} (f : List Nat → α) {idx : List Nat} (d : α)
    (hn : axs.map Ax.n = shape) (h : inShape shape idx = true) :
    (centredMask o shape axs false f).getD idx d = f (srcIdx axs idx) :=
  (shiftFourier_getD _ axs o.zero d idx h).trans (Arr.getD_ofFn _ _ _ _ (inShape_srcIdx hn h))

theorem centredMask_half (shape : List Nat) (axs : List Ax) (f : List Nat → α) (idx : List Nat) (d : α)
    (h : inShape (cropShape shape) idx = true) :
    (centredMask o shape axs true f).getD idx d = (centredMask o shape axs false f).getD idx o.zero := by
  show (cropRealFourier (shiftFourier (Arr.ofFn shape f) axs o.zero) o.zero).getD idx d = _
  exact Arr.getD_ofFn _ _ _ _ h

/-- last axis: the one-sided grid `0..n/2` and the two-sided grid of the full axis read through the shift have
the same squares (an even axis stores its Nyquist term as `-n/2`) -/
theorem term_half_last (L : SignLaws o) (n i : Nat) (hi : i < halfLen n) :
    term o ⟨halfLen n, true, halfLen n - 1⟩ i = term o ⟨n, false, n / 2⟩ (shiftSrc n i) := by
  refine term_of_k o L _ _ _ _ (Nat.add_sub_cancel (n / 2) 1) ?_
  show (i : Int) = (shiftSrc n i : Int) - (center n : Int) ∨ (i : Int) = -((shiftSrc n i : Int) - (center n : Int))
  rw [k_shiftSrc]
  rcases Nat.lt_or_ge (2 * i) n with h | h
  · exact Or.inl (freqIndex_of_lt n i h).symm
  · -- only the Nyquist term of an even axis is left
    have hn : n = 2 * i := by unfold halfLen at hi; omega
    subst hn
    rcases Nat.eq_zero_or_pos i with rfl | h0
    · exact Or.inl rfl
    · right; rw [freqIndex_of_ge (2 * i) i (by omega) h]; omega

theorem terms_rfshape (L : SignLaws o) : ∀ (shape idx : List Nat),
    inShape (cropShape shape) idx = true →
    List.zipWith (term o) (axesHalf (cropShape shape) true) (srcIdx (axesHalf (cropShape shape) true) idx)
      = List.zipWith (term o) (axesHalf shape false) (srcIdx (axesHalf shape false) idx)
  | [], [], _ => rfl
  | [], _ :: _, h => nomatch h
  | _ :: _, [], h => nomatch h
  | [n], i :: _, h => congrArg (· :: []) (term_half_last o L n i (inShape_cons.mp h).1)
  | n :: m :: ms, i :: is, h =>
      congrArg (term o ⟨n, false, n / 2⟩ (shiftSrc n i) :: ·) (terms_rfshape L (m :: ms) is (inShape_cons.mp h).2)

theorem inShape_of_crop : ∀ (shape idx : List Nat), (∀ n ∈ shape, 1 ≤ n) → inShape (cropShape shape) idx = true →
    inShape shape idx = true
  | [], _, _, h => h
  | _ :: _, [], _, h => nomatch h
  | n :: ns, i :: is, hpos, h => by
      have h' := inShape_cons.mp h
      refine inShape_cons.mpr ⟨?_, inShape_of_crop ns is (fun m hm => hpos m (List.mem_cons_of_mem _ hm)) h'.2⟩
      have hi := h'.1
      cases ns with
      | nil => exact Nat.lt_of_lt_of_le hi (Nat.succ_le_of_lt (Nat.div_lt_self (hpos n List.mem_cons_self) (by decide)))
      | cons _ _ => exact hi

theorem bandpassVal_discrete (a : BPArgs α) (hg : a.gaussian = false) :
    bandpassVal o a = discreteVal o (a.lowpass.map (cutOf o a.srs)) (a.highpass.map (cutOf o a.srs)) := by
  unfold bandpassVal; rw [hg]; rfl

theorem bandpassVal_gaussian (a : BPArgs α) (hg : a.gaussian = true) :
    bandpassVal o a = gaussVal o a.lowpass a.highpass (gaussUpper o a) := by
  unfold bandpassVal; rw [hg]; rfl

theorem mul_cut_cases (v : α) (b : Bool) :
    o.mul v (if b = true then o.one else o.zero) = o.mul v o.one ∨ o.mul v (if b = true then o.one else o.zero) = o.mul v o.zero := by
  cases b
  · exact Or.inr rfl
  · exact Or.inl rfl

theorem wedgeVal_zero (start stop big : α) (kt : Int) (h : o.le start big = true) :
    wedgeVal o start stop big kt 0 = true := by
  show (o.le start big || o.le big stop) = true
  rw [h]; rfl

theorem tail_threshold (T : TailLaws o) (w c : Bool) :
    (if o.lt o.zero (o.mul (if w = true then o.one else o.zero) (if c = true then o.one else o.zero)) = true
      then o.one else o.zero) = if (w && c) = true then o.one else o.zero := by
  cases w <;> cases c <;>
    simp only [Bool.false_eq_true, if_false, if_true, Bool.and_self, Bool.and_false, Bool.and_true, T.zero_mul_zero,
      T.zero_mul_one, T.one_mul_zero, T.one_mul_one, T.zero_lt_zero, T.zero_lt_one]

theorem threshold_01 (T : TailLaws o) (w : Bool) :
    (if o.lt o.zero (if w = true then o.one else o.zero) = true then o.one else o.zero) =
      if w = true then o.one else o.zero := by
  cases w <;> simp only [Bool.false_eq_true, if_false, if_true, T.zero_lt_zero, T.zero_lt_one]

end

theorem composeLoop_mult {α : Type} (mul : α → α → α) (ts : List (Transform α)) (parts : List (List α))
    (h : List.Forall₂ (fun t p => ∀ kw d, (t kw d).data = some p ∧ (t kw d).mult = true) ts parts) :
    ∀ (kw : Kw) (dkw : Option (List α)) (m : Ret α) (acc : List α), m.data = some acc →
      (composeLoop mul ts kw dkw m).data = some (parts.foldl (fun acc p => List.zipWith mul p acc) acc) := by
  induction h with
  | nil => exact fun _ _ _ _ hm => hm
  | cons htp _ ih =>
    intro kw dkw m acc hm
    obtain ⟨hd, hmul⟩ := htp (kwUpdate kw m.info) (some acc)
    unfold composeLoop
    simp only [hm, hd, hmul, if_true]
    exact ih _ _ _ _ rfl

section
variable {α : Type} [CommMonoid α]

theorem foldl_zipWith_mul (n : Nat) (parts : List (List α)) (acc : List α)
    (hlen : ∀ p ∈ parts, p.length = n) (hl : acc.length = n) :
    (parts.foldl (fun acc p => List.zipWith (· * ·) p acc) acc).length = n ∧
      ∀ i, i < n → (parts.foldl (fun acc p => List.zipWith (· * ·) p acc) acc).getD i 1 =
        acc.getD i 1 * (parts.map (fun p => p.getD i 1)).prod := by
  induction parts generalizing acc with
  | nil => exact ⟨hl, fun _ _ => (mul_one _).symm⟩
  | cons p ps ih =>
      have hp := hlen p List.mem_cons_self
      obtain ⟨h1, h2⟩ := ih (List.zipWith (· * ·) p acc) (fun q hq => hlen q (List.mem_cons_of_mem _ hq))
        (by rw [List.length_zipWith, hp, hl, Nat.min_self])
      refine ⟨h1, fun i hi => ?_⟩
      have e : (List.zipWith (· * ·) p acc).getD i 1 = p.getD i 1 * acc.getD i 1 := by
        simp [List.getD_eq_getElem?_getD, hp, hl, hi]
      rw [List.foldl_cons, h2 i hi, e, List.map_cons, List.prod_cons, mul_comm (p.getD i 1), mul_assoc]

end

theorem planePad_odd (x : Nat) : (x + (1 - x % 2)) % 2 = 1 ∧ (x + (1 - x % 2) - x) / 2 = 0 := by
  constructor
  · rcases Nat.mod_two_eq_zero_or_one x with h | h
    · rw [h, Nat.add_mod, h]
    · rw [h, Nat.sub_self, Nat.add_zero, h]
  · rw [Nat.add_sub_cancel_left]; exact Nat.div_eq_of_lt (Nat.lt_succ_of_le (Nat.sub_le 1 _))

theorem inShape_reverse2 (n m j i : Nat) : inShape [n, m] [j, i] = inShape [m, n] [i, j] := by
  simp only [inShape, Bool.and_true]
  exact Bool.and_comm _ _

theorem mem_allCls (c : Cls) : c ∈ allCls := by cases c <;> decide

theorem cropShape_length (s : List Nat) : (cropShape s).length = s.length := by
  induction s with
  | nil => rfl
  | cons a as ih => simp only [cropShape, List.length_cons, ih]

theorem kwLookup_kwSet (k v k' : String) (m : Kw) :
    kwLookup k' (kwSet k v m) = if k = k' then some v else kwLookup k' m := by
  induction m with
  | nil => simp [kwSet, kwLookup]
  | cons p r ih =>
    obtain ⟨a, b⟩ := p
    unfold kwSet
    by_cases h : a = k
    · subst h; simp only [if_true, kwLookup]
      by_cases h2 : a = k' <;> simp [h2]
    · simp only [h, if_false, kwLookup, ih]
      by_cases h2 : a = k'
      · subst h2; simp [Ne.symm h]
      · simp [h2]

theorem kwLookup_append (k : String) (l l' : Kw) :
    kwLookup k (l ++ l') = (kwLookup k l).orElse (fun _ => kwLookup k l') := by
  induction l with
  | nil => rfl
  | cons q t ih =>
    obtain ⟨x, y⟩ := q
    show (if x = k then some y else kwLookup k (t ++ l')) = (if x = k then some y else kwLookup k t).orElse _
    rw [ih]; split <;> rfl

theorem kwLookup_none_of_not_mem (k : String) : ∀ (m : Kw), k ∉ m.map Prod.fst → kwLookup k m = none
  | [], _ => rfl
  | (a, b) :: r, h => by
      simp only [List.map_cons, List.mem_cons, not_or] at h
      simp only [kwLookup]
      rw [if_neg (fun e => h.1 e.symm)]
      exact kwLookup_none_of_not_mem k r h.2

theorem cut_range_rat (v lo hi : Rat) (b : Bool) (hlo : lo ≤ 0) (hhi : 0 ≤ hi) (h : lo ≤ v ∧ v ≤ hi) :
    lo ≤ ratOps.mul v (if b then ratOps.one else ratOps.zero) ∧ ratOps.mul v (if b then ratOps.one else ratOps.zero) ≤ hi := by
  cases b
  · show lo ≤ v * 0 ∧ v * 0 ≤ hi
    simp only [mul_zero]; exact ⟨hlo, hhi⟩
  · show lo ≤ v * 1 ∧ v * 1 ≤ hi
    simp only [mul_one]; exact h

theorem flagsOk_all_true : ∀ (shape : List Nat),
    flagsOk (axesHalf shape false) (shape.map (fun _ => true)) = true
  | [] => rfl
  | n :: ns => by
      rw [axesHalf, Bool.and_false, if_neg Bool.false_ne_true]
      exact flagsOk_all_true ns

theorem flagsOk_one_all_true : ∀ (shape : List Nat), flagsOk (axesOne shape) (shape.map (fun _ => true)) = true
  | [] => rfl
  | _ :: ns => flagsOk_one_all_true ns

section
variable {α : Type} (o : Ops α)

theorem ite_in_pair {β : Type} (c : Prop) [Decidable c] (a b : β) :
    (if c then a else b) = b ∨ (if c then a else b) = a := by
  split
  · exact Or.inr rfl
  · exact Or.inl rfl

theorem axesOne_k_getD (dflt : Ax) : ∀ (shape idx : List Nat), inShape shape idx = true → ∀ t, t < shape.length →
    ((axesOne shape).getD t dflt).k ((srcIdx (axesOne shape) idx).getD t 0) = freqIndex (shape.getD t 0) (idx.getD t 0) :=
  inShape_rec (fun _ ht => nomatch ht) fun n _ i _ _ _ ih t ht => by
    cases t with
    | zero => exact k_src ⟨n, false, n⟩ i rfl
    | succ t => exact ih t (Nat.lt_of_succ_lt_succ ht)

theorem axesOne_k_getD_neg (dflt : Ax) : ∀ (shape idx : List Nat), inShape shape idx = true → ∀ t, t < shape.length →
    2 * idx.getD t 0 ≠ shape.getD t 0 →
    ((axesOne shape).getD t dflt).k ((srcIdx (axesOne shape) (negIdx (shape.map (fun _ => true)) shape idx)).getD t 0) =
      -((axesOne shape).getD t dflt).k ((srcIdx (axesOne shape) idx).getD t 0) :=
  inShape_rec (fun _ ht => nomatch ht) fun n _ i _ hi _ ih t ht hny => by
    cases t with
    | zero => exact k_shiftSrc_negPos n i hi hny
    | succ t => exact ih t (Nat.lt_of_succ_lt_succ ht) hny

theorem wedgeVal_neg (L : SignLaws o) (start stop big : α) (kt ko : Int) :
    wedgeVal o start stop big (-kt) (-ko) = wedgeVal o start stop big kt ko := by
  unfold wedgeVal
  by_cases h : ko = 0
  · subst h; rfl
  · rw [if_neg h, if_neg (fun h' => h (Int.neg_eq_zero.mp h')), L.div_neg_neg]

theorem ite_one_iff (hne : o.zero ≠ o.one) (b : Bool) : (if b = true then o.one else o.zero) = o.one ↔ b = true := by
  cases b
  · simp only [Bool.false_eq_true, if_false, iff_false]; exact hne
  · simp

end

end Pm.C12
