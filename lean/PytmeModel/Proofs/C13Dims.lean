import PytmeModel.Model.C13

/-! `_set_matching_dimension`: the loop on a stretch without batch axes, one step on a batch axis, the result read off the loop -/
namespace Pm.C13

theorem matchLoop_plain (ts ps tdims pdims : List Nat) : ∀ (rem k ti pi col : Nat),
    (∀ j, k ≤ j → j < k + rem → tdims.contains (j - ti) = false ∧ pdims.contains (j - pi) = false) →
    matchLoop ts ps tdims pdims rem k ti pi col
      = some ((List.range' k rem).map fun j => (ts.getD (j - ti) 1, ps.getD (j - pi) 1, false))
  | 0, _, _, _, _, _ => rfl
  | rem + 1, k, ti, pi, col, h => by
    obtain ⟨h1, h2⟩ := h k (Nat.le_refl _) (by omega)
    have ih := matchLoop_plain ts ps tdims pdims rem (k + 1) ti pi col (fun j hj1 hj2 => h j (by omega) (by omega))
    unfold matchLoop
    simp only [h1, h2, Bool.false_eq_true, if_false, ih, Option.map_some, List.range'_succ, List.map_cons]

theorem map_range'_succ {β : Type} (f : Nat → β) : ∀ (n k : Nat),
    (List.range' (k + 1) n).map f = (List.range' k n).map (fun j => f (j + 1))
  | 0, _ => rfl
  | n + 1, k => by
    simp only [List.range'_succ, List.map_cons]
    rw [map_range'_succ f n (k + 1)]

theorem map_getD_range' (d : Nat) : ∀ (l : List Nat), (List.range' 0 l.length).map (fun j => l.getD j d) = l
  | [] => rfl
  | x :: xs => by
    simp only [List.length_cons, List.range'_succ, List.map_cons]
    rw [map_range'_succ]
    have := map_getD_range' d xs
    simp only [List.getD_cons_succ, List.getD_cons_zero] at this ⊢
    rw [this]

theorem map_const_range' {β : Type} (c : β) (n k : Nat) : (List.range' k n).map (fun _ => c) = List.replicate n c := by
  rw [List.map_const', List.length_range']

theorem map_getD_cons_range' (d x : Nat) (l : List Nat) :
    (List.range' 1 l.length).map (fun j => (x :: l).getD j d) = l := by
  rw [map_range'_succ]; exact map_getD_range' d l

theorem map_getD_pred_range' (d : Nat) (l : List Nat) :
    (List.range' 1 l.length).map (fun j => l.getD (j - 1) d) = l := by
  rw [map_range'_succ]; exact map_getD_range' d l

/-- one step of the loop on a target batch axis (nothing to collapse) -/
theorem matchLoop_target_axis (ts ps tdims pdims : List Nat) (r k ti pi : Nat)
    (h1 : tdims.contains (k - ti) = true) (h2 : k - ti < ts.length) :
    matchLoop ts ps tdims pdims (r + 1) k ti pi 0
      = (matchLoop ts ps tdims pdims r (k + 1) ti (pi + 1) 0).map ((ts.getD (k - ti) 1, 1, true) :: ·) := by
  rw [matchLoop]
  simp only [h1, h2, if_true, Nat.lt_irrefl, and_false, if_false]

theorem matchLoop_template_axis (ts ps tdims pdims : List Nat) (r k ti pi col : Nat)
    (h0 : tdims.contains (k - ti) = false) (h1 : pdims.contains (k - pi) = true) (h2 : k - pi < ps.length) :
    matchLoop ts ps tdims pdims (r + 1) k ti pi col
      = (matchLoop ts ps tdims pdims r (k + 1) (ti + 1) pi col).map ((1, ps.getD (k - pi) 1, true) :: ·) := by
  rw [matchLoop]
  simp only [h0, h1, h2, if_true, Bool.false_eq_true, if_false]

theorem matchingDims_of_loop {ts ps tdims pdims : List Nat} {es : List (Nat × Nat × Bool)} {rem col : Nat}
    (ht : tdims.any (fun x => decide (ts.length ≤ x)) = false)
    (hp : pdims.any (fun x => decide (ps.length ≤ x)) = false)
    (hr : ts.length - tdims.length + (tdims.length + pdims.length) = rem)
    (hc : ps.length - pdims.length - (ts.length - tdims.length) = col)
    (hl : matchLoop ts ps tdims pdims rem 0 0 0 col = some es) :
    matchingDims ts ps tdims pdims = .ok ⟨es.map (·.1), es.map (·.2.1), es.map (·.2.2)⟩ := by
  subst hr hc
  unfold matchingDims
  rw [if_neg (by rw [ht, hp]; simp)]
  simp only [hl]
  rfl

theorem matchLoop_stack (B : Nat) (ts ps : List Nat) :
    matchLoop (B :: ts) ps [0] [] (ts.length + 1) 0 0 0 0
      = some ((B, 1, true) :: (List.range' 1 ts.length).map fun j => ((B :: ts).getD j 1, ps.getD (j - 1) 1, false)) := by
  rw [matchLoop_target_axis _ _ _ _ _ _ _ _ rfl (Nat.succ_pos _),
    matchLoop_plain (B :: ts) ps [0] [] ts.length 1 0 1 0 (fun j hj _ => ⟨by
      simp only [Nat.sub_zero, List.contains_cons, List.contains_nil, Bool.or_false, beq_eq_false_iff_ne]; omega, rfl⟩)]
  rfl

theorem matchLoop_template_stack (B : Nat) (ts ps : List Nat) :
    matchLoop ts (B :: ps) [] [0] (ts.length + 1) 0 0 0 0
      = some ((1, B, true) :: (List.range' 1 ts.length).map fun j => (ts.getD (j - 1) 1, (B :: ps).getD j 1, false)) := by
  rw [matchLoop_template_axis _ _ _ _ _ _ _ _ _ rfl rfl (Nat.succ_pos _),
    matchLoop_plain ts (B :: ps) [] [0] ts.length 1 1 0 0 (fun j hj _ => ⟨rfl, by
      simp only [Nat.sub_zero, List.contains_cons, List.contains_nil, Bool.or_false, beq_eq_false_iff_ne]; omega⟩)]
  rfl

end Pm.C13
