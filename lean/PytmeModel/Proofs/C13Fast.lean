import PytmeModel.Model.C13
import Mathlib.Data.Nat.GCD.Basic

/-! `next_fast_len`: the search always ends on an FFTW-fast length, and on the smallest one; the half-spectrum shape of a shape
given with its last axis -/
namespace Pm.C13

theorem strip_pow_mul (p : Nat) (hp : 1 < p) : ∀ (k f q : Nat), k ≤ f → 0 < q → ¬ p ∣ q → strip p f (p ^ k * q) = q
  | 0, f, q, _, hq, hd => by
    rw [Nat.pow_zero, Nat.one_mul]
    cases f with
    | zero => rfl
    | succ f =>
      unfold strip
      rw [if_neg (fun h => hd (Nat.dvd_of_mod_eq_zero h.2.2))]
  | k + 1, 0, q, h, _, _ => absurd h (Nat.not_succ_le_zero k)
  | k + 1, f + 1, q, h, hq, hd => by
    have he : p ^ (k + 1) * q = p * (p ^ k * q) := by rw [Nat.pow_succ, Nat.mul_comm (p ^ k), Nat.mul_assoc]
    unfold strip
    rw [he, if_pos ⟨hp, Nat.mul_pos (Nat.lt_trans Nat.zero_lt_one hp) (Nat.mul_pos (Nat.pow_pos (Nat.lt_trans Nat.zero_lt_one hp)) hq),
      Nat.mul_mod_right _ _⟩, Nat.mul_div_cancel_left _ (Nat.lt_trans Nat.zero_lt_one hp)]
    exact strip_pow_mul p hp k f q (Nat.le_of_succ_le_succ h) hq hd

theorem strip_pow_mul_le (p : Nat) (hp : 1 < p) (k f q : Nat) (hf : p ^ k * q ≤ f) (hq : 0 < q) (hd : ¬ p ∣ q) :
    strip p f (p ^ k * q) = q :=
  strip_pow_mul p hp k f q
    (Nat.le_trans (Nat.le_of_lt (Nat.lt_pow_self hp)) (Nat.le_trans (Nat.le_mul_of_pos_right _ hq) hf)) hq hd

theorem strip_one (p f : Nat) (hp : 1 < p) : strip p f 1 = 1 := by
  have h := strip_pow_mul p hp 0 f 1 (Nat.zero_le f) Nat.one_pos (Nat.not_dvd_of_pos_of_lt Nat.one_pos hp)
  rwa [Nat.pow_zero, Nat.one_mul] at h

theorem not_dvd_of_coprime {p q : Nat} (hp : 1 < p) (h : Nat.Coprime p q) : ¬ p ∣ q := fun hd => by
  have := Nat.Coprime.eq_one_of_dvd h hd; omega

theorem isFast_complete (a b c d r : Nat) (hr : r = 1 ∨ r = 11 ∨ r = 13) :
    isFast (2 ^ a * 3 ^ b * 5 ^ c * 7 ^ d * r) = true := by
  obtain ⟨hr0, c2, c3, c5, c7⟩ :
      0 < r ∧ Nat.Coprime 2 r ∧ Nat.Coprime 3 r ∧ Nat.Coprime 5 r ∧ Nat.Coprime 7 r := by
    rcases hr with rfl | rfl | rfl <;> decide
  -- peel the primes off from the left: `n = 2^a q₃`, `q₃ = 3^b q₅`, `q₅ = 5^c q₇`, `q₇ = 7^d r`
  rw [Nat.mul_assoc, Nat.mul_assoc, Nat.mul_assoc]
  have p7 : 0 < 7 ^ d * r := Nat.mul_pos (Nat.pow_pos (by decide)) hr0
  have p5 : 0 < 5 ^ c * (7 ^ d * r) := Nat.mul_pos (Nat.pow_pos (by decide)) p7
  have p3 : 0 < 3 ^ b * (5 ^ c * (7 ^ d * r)) := Nat.mul_pos (Nat.pow_pos (by decide)) p5
  have l3 : 3 ^ b * (5 ^ c * (7 ^ d * r)) ≤ 2 ^ a * (3 ^ b * (5 ^ c * (7 ^ d * r))) :=
    Nat.le_mul_of_pos_left _ (Nat.pow_pos (by decide))
  have l5 := Nat.le_trans (Nat.le_mul_of_pos_left (5 ^ c * (7 ^ d * r)) (Nat.pow_pos (n := b) (by decide : 0 < 3))) l3
  have l7 := Nat.le_trans (Nat.le_mul_of_pos_left (7 ^ d * r) (Nat.pow_pos (n := c) (by decide : 0 < 5))) l5
  have k27 : Nat.Coprime 2 (7 ^ d * r) := (Nat.Coprime.pow_right d (by decide)).mul_right c2
  have k25 : Nat.Coprime 2 (5 ^ c * (7 ^ d * r)) := (Nat.Coprime.pow_right c (by decide)).mul_right k27
  have k37 : Nat.Coprime 3 (7 ^ d * r) := (Nat.Coprime.pow_right d (by decide)).mul_right c3
  unfold isFast
  rw [strip_pow_mul_le 2 (by decide) a _ _ (Nat.le_refl _) p3
      (not_dvd_of_coprime (by decide) ((Nat.Coprime.pow_right b (by decide)).mul_right k25)),
    strip_pow_mul_le 3 (by decide) b _ _ l3 p5
      (not_dvd_of_coprime (by decide) ((Nat.Coprime.pow_right c (by decide)).mul_right k37)),
    strip_pow_mul_le 5 (by decide) c _ _ l5 p7
      (not_dvd_of_coprime (by decide) ((Nat.Coprime.pow_right d (by decide)).mul_right c5)),
    strip_pow_mul_le 7 (by decide) d _ _ l7 hr0 (not_dvd_of_coprime (by decide) c7)]
  rcases hr with rfl | rfl | rfl <;> rfl

theorem strip_decomp (p : Nat) : ∀ (f n : Nat), ∃ k, n = p ^ k * strip p f n
  | 0, n => ⟨0, by simp [strip]⟩
  | f + 1, n => by
    unfold strip
    split
    · rename_i hc
      obtain ⟨k, hk⟩ := strip_decomp p f (n / p)
      refine ⟨k + 1, ?_⟩
      rw [Nat.pow_succ, Nat.mul_comm (p ^ k), Nat.mul_assoc, ← hk]
      exact (Nat.mul_div_cancel' (Nat.dvd_of_mod_eq_zero hc.2.2)).symm
    · exact ⟨0, by simp⟩

theorem isFast_sound (n : Nat) (h : isFast n = true) :
    ∃ a b c d r, (r = 1 ∨ r = 11 ∨ r = 13) ∧ n = 2 ^ a * 3 ^ b * 5 ^ c * 7 ^ d * r := by
  unfold isFast at h
  simp only [Bool.or_eq_true, beq_iff_eq] at h
  obtain ⟨a, ha⟩ := strip_decomp 2 n n
  obtain ⟨b, hb⟩ := strip_decomp 3 n (strip 2 n n)
  obtain ⟨c, hc⟩ := strip_decomp 5 n (strip 3 n (strip 2 n n))
  obtain ⟨d, hd⟩ := strip_decomp 7 n (strip 5 n (strip 3 n (strip 2 n n)))
  refine ⟨a, b, c, d, strip 7 n (strip 5 n (strip 3 n (strip 2 n n))), or_assoc.mp h, ?_⟩
  rw [Nat.mul_assoc, Nat.mul_assoc, Nat.mul_assoc, ← hd, ← hc, ← hb]
  exact ha

theorem isFast_two_pow (k : Nat) : isFast (2 ^ k) = true := by
  have h := isFast_complete k 0 0 0 1 (Or.inl rfl)
  rwa [Nat.pow_zero, Nat.pow_zero, Nat.pow_zero, Nat.mul_one, Nat.mul_one, Nat.mul_one, Nat.mul_one] at h

theorem exists_two_pow (n : Nat) (hn : 1 ≤ n) : ∃ k, n ≤ 2 ^ k ∧ 2 ^ k ≤ 2 * n := by
  induction n, hn using Nat.le_induction with
  | base => exact ⟨0, Nat.le_refl _, by decide⟩
  | succ n _ ih =>
    obtain ⟨k, hk1, hk2⟩ := ih
    by_cases hc : n + 1 ≤ 2 ^ k
    · exact ⟨k, hc, by omega⟩
    · -- then `2^k = n`, and the next power is `2n`
      exact ⟨k + 1, by rw [Nat.pow_succ]; omega, by rw [Nat.pow_succ]; omega⟩

theorem le_nextFastFrom (f n : Nat) : n ≤ nextFastFrom f n := by
  induction f generalizing n with
  | zero => simp [nextFastFrom]
  | succ f ih =>
    unfold nextFastFrom
    split
    · exact Nat.le_refl _
    · exact Nat.le_trans (Nat.le_succ n) (ih (n + 1))

theorem nextFastFrom_minimal : ∀ (f n k : Nat), n ≤ k → k < nextFastFrom f n → isFast k = false
  | 0, n, k, h1, h2 => by simp [nextFastFrom] at h2; omega
  | f + 1, n, k, h1, h2 => by
    unfold nextFastFrom at h2
    split at h2
    · omega
    · rename_i hnf
      by_cases hk : k = n
      · subst hk; simpa using hnf
      · exact nextFastFrom_minimal f (n + 1) k (by omega) h2

theorem nextFastLen_minimal (n k : Nat) (h1 : n ≤ k) (h2 : k < nextFastLen n) : isFast k = false := by
  unfold nextFastLen at h2
  split at h2
  · omega
  · exact nextFastFrom_minimal (n + 1) n k h1 h2

theorem nextFastLen_le_two_pow (n k : Nat) (hk : n ≤ 2 ^ k) : nextFastLen n ≤ 2 ^ k := by
  by_contra hc
  have := nextFastLen_minimal n (2 ^ k) hk (Nat.lt_of_not_le hc)
  rw [isFast_two_pow] at this
  cases this

theorem nextFastLen_le_two_mul (n : Nat) : nextFastLen n ≤ 2 * n := by
  by_cases hn : n = 0
  · subst hn; decide
  · obtain ⟨k, hk1, hk2⟩ := exists_two_pow n (by omega)
    exact Nat.le_trans (nextFastLen_le_two_pow n k hk1) hk2

theorem fastFtShape_snoc (init : List Nat) (l : Nat) :
    fastFtShape (init ++ [l]) = init ++ [l / 2 + 1] := by
  simp [fastFtShape, halfLen]

end Pm.C13
