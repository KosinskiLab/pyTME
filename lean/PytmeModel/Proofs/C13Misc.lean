import PytmeModel.Model.C13
import PytmeModel.Proofs.Common
import Mathlib.Tactic.Ring

/-! centre of mass of weighted points (hull bound), maximum-filter windows, rigid transform (offset row by row, products of
homogeneous matrices) -/
namespace Pm.C13

/-- all points moved by `s` along the axis -/
def shiftEntries (s : Nat) (es : List (Nat × Int)) : List (Nat × Int) := es.map fun e => (e.1 + s, e.2)

/-- all weights multiplied by `q` -/
def scaleEntries (q : Int) (es : List (Nat × Int)) : List (Nat × Int) := es.map fun e => (e.1, q * e.2)

theorem keepW_nonneg (c w : Int) (hc : 0 ≤ c) : 0 ≤ keepW (some c) w := by
  simp only [keepW]; split <;> omega

theorem wMoment_bounds (cut : Option Int) (lo hi : Nat) : ∀ es : List (Nat × Int),
    (∀ e ∈ es, lo ≤ e.1 ∧ e.1 ≤ hi ∧ 0 ≤ keepW cut e.2) →
    (lo : Int) * wSum cut es ≤ wMoment cut es ∧ wMoment cut es ≤ (hi : Int) * wSum cut es
  | [], _ => by simp [wSum, wMoment]
  | (x, w) :: es, h => by
    obtain ⟨h1, h2, h3⟩ := h (x, w) (by simp)
    obtain ⟨i1, i2⟩ := wMoment_bounds cut lo hi es (fun e he => h e (by simp [he]))
    simp only [wSum, wMoment]
    have a1 : (lo : Int) * keepW cut w ≤ keepW cut w * (x : Int) := by
      rw [Int.mul_comm]; exact Int.mul_le_mul_of_nonneg_left (Int.ofNat_le.mpr h1) h3
    have a2 : keepW cut w * (x : Int) ≤ (hi : Int) * keepW cut w := by
      rw [Int.mul_comm (hi : Int)]; exact Int.mul_le_mul_of_nonneg_left (Int.ofNat_le.mpr h2) h3
    rw [Int.mul_add, Int.mul_add]
    exact ⟨Int.add_le_add a1 i1, Int.add_le_add a2 i2⟩

theorem clampIdx_nat (n q : Nat) (hq : q < n) : clampIdx n (q : Int) = q := by
  unfold clampIdx
  rw [if_neg (Int.not_lt.mpr (Int.natCast_nonneg q)), Int.toNat_natCast, Nat.min_eq_left (Nat.le_sub_one_of_lt hq)]

theorem clampIdx_lt (n : Nat) (i : Int) (hn : 0 < n) : clampIdx n i < n := by
  unfold clampIdx; split <;> omega

theorem self_mem_windowAxis (n s i : Nat) (h : i < n) (hs : 0 < s) : i ∈ windowAxis n s i := by
  unfold windowAxis
  rw [List.mem_map]
  exact ⟨s / 2, List.mem_range.mpr (by omega), by rw [Int.sub_add_cancel, clampIdx_nat n i h]⟩

theorem self_mem_windowIdx (s : Nat) (hs : 0 < s) (shape idx : List Nat) (h : inShape shape idx = true) :
    idx ∈ windowIdx shape s idx := by
  induction shape generalizing idx with
  | nil =>
    match idx, h with
    | [], _ => exact List.mem_singleton.mpr rfl
  | cons n ns ih =>
    match idx, h with
    | i :: is, h =>
      obtain ⟨hi, hr⟩ := inShape_cons.mp h
      simp only [windowIdx, List.mem_flatMap, List.mem_map]
      exact ⟨i, self_mem_windowAxis n s i hi hs, is, ih is hr, rfl⟩

theorem windowIdx_inShape (s : Nat) (shape idx j : List Nat) (h : inShape shape idx = true)
    (hj : j ∈ windowIdx shape s idx) : inShape shape j = true := by
  induction shape generalizing idx j with
  | nil =>
    match idx, h with
    | [], _ => rw [List.mem_singleton.mp hj]; rfl
  | cons n ns ih =>
    match idx, h with
    | i :: is, h =>
      obtain ⟨hi, hr⟩ := inShape_cons.mp h
      simp only [windowIdx, List.mem_flatMap, List.mem_map] at hj
      obtain ⟨x, hx, js, hjs, rfl⟩ := hj
      unfold windowAxis at hx
      obtain ⟨_, _, rfl⟩ := List.mem_map.mp hx
      exact inShape_cons.mpr ⟨clampIdx_lt n _ (Nat.lt_of_le_of_lt (Nat.zero_le i) hi), ih is js hr hjs⟩

theorem mem_windowAxis_of_near (n s i q : Nat) (hq : q < n) (h1 : i ≤ q + s / 2) (h2 : q + s / 2 < i + s) :
    q ∈ windowAxis n s i := by
  unfold windowAxis
  rw [List.mem_map]
  refine ⟨q + s / 2 - i, List.mem_range.mpr (Nat.sub_lt_left_of_lt_add h1 h2), ?_⟩
  rw [Nat.cast_sub h1, Nat.cast_add]
  rw [show (i : Int) - ((s / 2 : Nat) : Int) + ((q : Int) + ((s / 2 : Nat) : Int) - i) = q by ring]
  exact clampIdx_nat n q hq

/-- Chebyshev distance at most `r` -/
def Near (r : Nat) : List Nat → List Nat → Prop
  | [], [] => True
  | p :: ps, q :: qs => (p ≤ q + r ∧ q ≤ p + r) ∧ Near r ps qs
  | _, _ => False

theorem near_symm (r : Nat) : ∀ (p q : List Nat), Near r p q → Near r q p
  | [], [], _ => trivial
  | _ :: ps, _ :: qs, ⟨⟨h1, h2⟩, hr⟩ => ⟨⟨h2, h1⟩, near_symm r ps qs hr⟩
  | [], _ :: _, h => nomatch h
  | _ :: _, [], h => nomatch h

theorem mem_windowIdx_of_near (s : Nat) (hs : 0 < s) (shape p q : List Nat) (hp : inShape shape p = true)
    (hq : inShape shape q = true) (hn : Near ((s - 1) / 2) p q) : q ∈ windowIdx shape s p := by
  induction shape generalizing p q with
  | nil =>
    match p, q, hp, hq with
    | [], [], _, _ => exact List.mem_singleton.mpr rfl
  | cons n ns ih =>
    match p, q, hp, hq, hn with
    | i :: is, j :: js, hp, hq, ⟨⟨h1, h2⟩, hr⟩ =>
      have ⟨w1, w2⟩ : i ≤ j + s / 2 ∧ j + s / 2 < i + s := by omega
      simp only [windowIdx, List.mem_flatMap, List.mem_map]
      exact ⟨j, mem_windowAxis_of_near n s i j (inShape_cons.mp hq).1 w1 w2, js,
        ih is js (inShape_cons.mp hp).2 (inShape_cons.mp hq).2 hr, rfl⟩

theorem dot_sub : ∀ (r x c : List Int), x.length = c.length →
    dot r (List.zipWith (· - ·) x c) = dot r x - dot r c
  | [], _, _, _ => by simp only [dot]; rfl
  | _ :: _, [], [], _ => rfl
  | a :: r, x :: xs, c :: cs, h => by
    have ih := dot_sub r xs cs (Nat.succ.inj h)
    simp only [List.zipWith_cons_cons, dot, ih]; ring

theorem rigidApply_rows (x c0 : List Int) (hx : x.length = c0.length) : ∀ (rows : List (List Int)) (ts cs : List Int),
    List.zipWith (· + ·) (rows.map fun row => dot row x)
        (zip3With (fun ti ci ri => -ti + ci - ri) ts cs (rows.map fun row => dot row c0))
      = zip3With (fun v ci ti => v + ci - ti) (rows.map fun row => dot row (List.zipWith (· - ·) x c0)) cs ts
  | [], _, _ => rfl
  | _ :: _, [], cs => by cases cs <;> rfl
  | _ :: _, _ :: _, [] => rfl
  | row :: rows, t :: ts, c :: cs => by
    have ih := rigidApply_rows x c0 hx rows ts cs
    simp only [List.map_cons, zip3With, List.zipWith_cons_cons, ih, dot_sub row x c0 hx]
    congr 1; ring

/-- product of two homogeneous matrices of affine maps of the plane: linear parts multiply, the offset of the right factor
is mapped by the left linear part and added to the left offset -/
theorem affMul_2d (a b c d x y e f g h u v : Int) :
    matMul [[a, b, x], [c, d, y], [0, 0, 1]] [[e, f, u], [g, h, v], [0, 0, 1]]
      = [[a * e + b * g, a * f + b * h, a * u + b * v + x], [c * e + d * g, c * f + d * h, c * u + d * v + y],
         [0, 0, 1]] := by
  simp only [matMul, List.map, List.range, List.range.loop, List.zipWith, List.foldl, List.headD, List.length,
    List.getD_cons_zero, List.getD_cons_succ, Int.mul_zero, Int.zero_mul, Int.mul_one, Int.add_zero, Int.zero_add]

theorem affMul_3d (a b c d e f g h i x y z a' b' c' d' e' f' g' h' i' u v w : Int) :
    matMul [[a, b, c, x], [d, e, f, y], [g, h, i, z], [0, 0, 0, 1]]
        [[a', b', c', u], [d', e', f', v], [g', h', i', w], [0, 0, 0, 1]]
      = [[a * a' + b * d' + c * g', a * b' + b * e' + c * h', a * c' + b * f' + c * i', a * u + b * v + c * w + x],
         [d * a' + e * d' + f * g', d * b' + e * e' + f * h', d * c' + e * f' + f * i', d * u + e * v + f * w + y],
         [g * a' + h * d' + i * g', g * b' + h * e' + i * h', g * c' + h * f' + i * i', g * u + h * v + i * w + z],
         [0, 0, 0, 1]] := by
  simp only [matMul, List.map, List.range, List.range.loop, List.zipWith, List.foldl, List.headD, List.length,
    List.getD_cons_zero, List.getD_cons_succ, Int.mul_zero, Int.zero_mul, Int.mul_one, Int.add_zero, Int.zero_add]

end Pm.C13
