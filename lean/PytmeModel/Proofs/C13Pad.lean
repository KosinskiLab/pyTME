import PytmeModel.Model.C13
import PytmeModel.Model.C01
import PytmeModel.Proofs.Common
import Mathlib.Tactic.Ring

/-! `MatchingData._fourier_padding`: the vector code, axis by axis and over the axes, against C01's per-axis model -/
namespace Pm.C13

theorem baseShift_eq_C01 (pad : Bool) (m : Nat) : baseShift pad m = Pm.C01.fourierShift m pad := rfl

theorem shiftAxis_nomask (pad g : Bool) (n m : Nat) (b : Bool) (h : ¬ shapeDiff n m b < 0) :
    shiftAxis pad g n m b = baseShift pad m := by
  unfold shiftAxis
  cases g
  · simp
  · simp only [if_true, h, if_false, Int.mul_zero, Int.sub_zero]
    exact Int.mul_tdiv_cancel_left _ (by decide)

theorem shiftAxis_batch (pad g : Bool) (n m : Nat) : shiftAxis pad g n m true = baseShift pad m :=
  shiftAxis_nomask pad g n m true (by simp [shapeDiff])

theorem shiftAxis_fits (pad g : Bool) (n m : Nat) (b : Bool) (h : m ≤ n) : shiftAxis pad g n m b = baseShift pad m :=
  shiftAxis_nomask pad g n m b (by unfold shapeDiff; cases b <;> simp; omega)

theorem shiftAxis_gated (pad : Bool) (n m : Nat) (h : n < m) :
    shiftAxis pad true n m false
      = Int.tdiv (2 * baseShift pad m - (((n : Int) - m) + 2 * padOffset pad n m ((n : Int) - m))) 2 := by
  have hneg : (n : Int) - m < 0 := by omega
  simp only [shiftAxis, shapeDiff, if_true, hneg, Bool.false_eq_true, if_false, Int.mul_one]

/-- one axis (not a batch axis): the vector code computes what C01's per-axis model computes, as soon as the gate is open
whenever this axis needs it -/
theorem shiftAxis_eq_C01 (pad g : Bool) (n m : Nat) (hg : n < m → g = true) :
    shiftAxis pad g n m false = Pm.C01.fourierShiftFull n m pad := by
  unfold Pm.C01.fourierShiftFull
  by_cases hnm : n < m
  · have hneg : (n : Int) - m < 0 := by omega
    rw [hg hnm, shiftAxis_gated pad n m hnm, if_pos hneg]
    unfold padOffset
    rw [baseShift_eq_C01]
    congr 1
    ring
  · have hneg : ¬ ((n : Int) - m < 0) := by omega
    rw [shiftAxis_fits pad g n m false (by omega), if_neg hneg]
    rfl

theorem shiftAxis_larger_halves (n m : Nat) (h : n < m) :
    shiftAxis true true n m false = ((m / 2 : Nat) : Int) - ((n / 2 : Nat) : Int) := by
  rw [shiftAxis_gated true n m h]
  simp only [baseShift, padOffset, if_true]
  -- the parity term decides which of two linear problems is left
  split
  · rw [Int.tdiv_eq_ediv_of_nonneg (by omega)]
    omega
  · rw [Int.tdiv_eq_ediv_of_nonneg (by omega)]
    omega

/-- the three vectors have one entry per axis and no axis is a batch axis -/
def NoBatch : List Nat → List Nat → List Bool → Prop
  | [], [], [] => True
  | _ :: ns, _ :: ms, b :: bs => b = false ∧ NoBatch ns ms bs
  | _, _, _ => False

theorem noBatch_replicate : ∀ (ns ms : List Nat), ns.length = ms.length → NoBatch ns ms (List.replicate ns.length false)
  | [], [], _ => trivial
  | _ :: ns, _ :: ms, h => ⟨rfl, noBatch_replicate ns ms (Nat.succ.inj h)⟩

theorem noBatch_lengths {α : Type} (f : Nat → Nat → Bool → α) (ns ms : List Nat) (bs : List Bool)
    (h : NoBatch ns ms bs) : ms.length = ns.length ∧ (zip3With f ns ms bs).length = ns.length := by
  fun_induction NoBatch ns ms bs with
  | case1 => exact ⟨rfl, rfl⟩
  | case2 n ns m ms b bs ih => exact ⟨congrArg (· + 1) (ih h.2).1, congrArg (· + 1) (ih h.2).2⟩
  | case3 => cases h

/-- the gate `np.sum(shape_mask)` is open as soon as one axis has the template larger than the target -/
def SomeLarger : List Nat → List Nat → Prop
  | n :: ns, m :: ms => n < m ∨ SomeLarger ns ms
  | _, _ => False

theorem anyNeg_of_someLarger (ns ms : List Nat) (bs : List Bool) (hb : NoBatch ns ms bs) (h : SomeLarger ns ms) :
    (zip3With shapeDiff ns ms bs).any (· < 0) = true := by
  fun_induction NoBatch ns ms bs with
  | case1 => cases h
  | case2 n ns m ms b bs ih =>
    obtain ⟨rfl, hr⟩ := hb
    simp only [zip3With, List.any_cons, Bool.or_eq_true, decide_eq_true_eq]
    rcases h with h | h
    · left; show (n : Int) - m < 0; omega
    · right; exact ih hr h
  | case3 => cases hb

theorem shifts_eq_C01 (pad g : Bool) (ns ms : List Nat) (bs : List Bool) (hb : NoBatch ns ms bs)
    (hg : SomeLarger ns ms → g = true) :
    zip3With (shiftAxis pad g) ns ms bs = Pm.C01.shiftsOfFull pad ns ms := by
  fun_induction NoBatch ns ms bs with
  | case1 => rfl
  | case2 n ns m ms b bs ih =>
    obtain ⟨rfl, hr⟩ := hb
    simp only [zip3With, Pm.C01.shiftsOfFull]
    rw [shiftAxis_eq_C01 pad g n m (fun h => hg (Or.inl h)), ih hr (fun h => hg (Or.inr h))]
  | case3 => cases hb

/-- template fits on every axis -/
def Fits : List Nat → List Nat → Prop
  | [], [] => True
  | n :: ns, m :: ms => m ≤ n ∧ Fits ns ms
  | _, _ => False

theorem fourierShiftFull_fits (pad : Bool) (n m : Nat) (h : m ≤ n) :
    Pm.C01.fourierShiftFull n m pad = Pm.C01.fourierShift m pad := by
  rw [← shiftAxis_eq_C01 pad false n m (by omega), shiftAxis_fits pad false n m false h, baseShift_eq_C01]

theorem shiftsOfFull_fits (pad : Bool) (ns ms : List Nat) (h : Fits ns ms) :
    Pm.C01.shiftsOfFull pad ns ms = Pm.C01.shiftsOf pad ms := by
  fun_induction Fits ns ms with
  | case1 => rfl
  | case2 n ns m ms ih =>
    simp only [Pm.C01.shiftsOfFull, Pm.C01.shiftsOf, List.map_cons]
    rw [fourierShiftFull_fits pad n m h.1, ih h.2, Pm.C01.shiftsOf]
  | case3 => cases h

theorem shifts_any_batch (pad g : Bool) : ∀ (ns ms : List Nat) (bs : List Bool),
    (∀ n m b, (n, m, b) ∈ (ns.zip (ms.zip bs)) → b = true ∨ m ≤ n) →
    zip3With (shiftAxis pad g) ns ms bs = zip3With (fun _ m _ => baseShift pad m) ns ms bs
  | n :: ns, m :: ms, b :: bs, h => by
    simp only [zip3With]
    have : shiftAxis pad g n m b = baseShift pad m := by
      rcases h n m b (by simp) with rfl | h0
      · exact shiftAxis_batch pad g n m
      · exact shiftAxis_fits pad g n m b h0
    rw [this, shifts_any_batch pad g ns ms bs (fun n' m' b' hm => h n' m' b' (by simp [hm]))]
  | [], _, _, _ => rfl
  | _ :: _, [], _, _ => rfl
  | _ :: _, _ :: _, [], _ => rfl

theorem convLen_eq_C01 (pad : Bool) (n m : Nat) :
    convLen (max n m) (fourierPadAxis pad m false) = Pm.C01.convLen n m pad := by
  cases pad <;> rfl

theorem conv_eq_C01 (pad : Bool) (ns ms : List Nat) (bs : List Bool) (h : NoBatch ns ms bs) :
    convShape (List.zipWith max ns ms) (List.zipWith (fourierPadAxis pad) ms bs)
      = List.zipWith (fun n m => Pm.C01.convLen n m pad) ns ms := by
  fun_induction NoBatch ns ms bs with
  | case1 => rfl
  | case2 n ns m ms b bs ih =>
    obtain ⟨rfl, hr⟩ := h
    unfold convShape at ih ⊢
    simp only [List.zipWith_cons_cons, ih hr, convLen_eq_C01]
  | case3 => cases h

end Pm.C13
