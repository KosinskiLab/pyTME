import PytmeModel.Proofs.C13Window

/-! array-level post-processing (roll → cut → crop): per-axis facts about read position and crop box, collected over the axes -/
namespace Pm.C13

/-- per axis: output voxel `t` of a crop `[st, st+ext)` of the rolled array reads raw voxel `src` -/
inductive AxisFacts : List Nat → List Int → List Nat → List Nat → List Nat → List Nat → Prop
  | nil : AxisFacts [] [] [] [] [] []
  | cons {N st ext t src : Nat} {s : Int} {Ns sts exts ts srcs : List Nat} {ss : List Int} :
      postSrc N s st t = src → st + t < N → t < ext → AxisFacts Ns ss sts exts ts srcs →
      AxisFacts (N :: Ns) (s :: ss) (st :: sts) (ext :: exts) (t :: ts) (src :: srcs)

theorem crop_spec {α : Type} (a : Arr α) (starts exts idx : List Nat) (d : α)
    (h : inShape exts idx = true) :
    (crop a starts exts d).getD idx d = a.getD (List.zipWith (· + ·) starts idx) d := by
  unfold crop
  rw [Arr.getD_ofFn _ _ _ _ h]

theorem zipWith_zero_add (conv idx : List Nat) (h : idx.length ≤ conv.length) :
    List.zipWith (· + ·) (conv.map fun _ => 0) idx = idx := by
  induction idx generalizing conv with
  | nil => exact List.zipWith_nil_right
  | cons i is ih =>
    match conv, h with
    | c :: cs, h =>
      simp only [List.map_cons, List.zipWith_cons_cons, Nat.zero_add, ih cs (Nat.le_of_succ_le_succ h)]

theorem rollArr_spec {α : Type} (a : Arr α) (s : List Int) (d : α) (idx : List Nat)
    (h : inShape a.shape idx = true) : (rollArr a s d).getD idx d = a.getD (rollIdx a.shape s idx) d := by
  unfold rollArr
  rw [Arr.getD_ofFn _ _ _ _ h]

theorem axisFacts_lists {Ns : List Nat} {ss : List Int} {sts exts ts srcs : List Nat}
    (h : AxisFacts Ns ss sts exts ts srcs) :
    rollIdx Ns ss (List.zipWith (· + ·) sts ts) = srcs ∧
    inShape Ns (List.zipWith (· + ·) sts ts) = true ∧ inShape exts ts = true ∧
    (List.zip sts exts).map (·.1) = sts ∧ (List.zip sts exts).map (·.2) = exts := by
  induction h with
  | nil => simp [rollIdx, zip3With, inShape]
  | cons h1 h2 h3 _ ih =>
    obtain ⟨i1, i2, i3, i4, i5⟩ := ih
    unfold rollIdx at i1 ⊢
    unfold postSrc at h1
    simp only [List.zipWith_cons_cons, zip3With, List.zip_cons_cons, List.map_cons, inShape_cons]
    exact ⟨by rw [h1, i1], ⟨h2, i2⟩, ⟨h3, i3⟩, by rw [i4], by rw [i5]⟩

theorem axisFacts_read {α : Type} (a : Arr α) (d : α) (mode : Mode) (conv s1 s2 : List Nat)
    {ss : List Int} {sts exts ts srcs : List Nat} (h : AxisFacts a.shape ss sts exts ts srcs)
    (hb : convCrops mode conv s1 s2 = some (List.zip sts exts)) :
    ∃ r, postMap a ss mode conv s1 s2 d = some r ∧ r.shape = exts ∧ r.getD ts d = a.getD srcs d := by
  obtain ⟨e1, e2, e3, e4, e5⟩ := axisFacts_lists h
  have hr : postMap a ss mode conv s1 s2 d
      = some (crop (rollArr a ss d) ((List.zip sts exts).map (·.1)) ((List.zip sts exts).map (·.2)) d) := by
    unfold postMap; rw [hb]
  refine ⟨_, hr, by rw [e5]; rfl, ?_⟩
  rw [e4, e5, crop_spec _ _ _ _ _ e3, rollArr_spec _ _ _ _ e2, e1]

theorem convCrops_cons {mode : Mode} {c n m : Nat} {cs ns ms : List Nat} {b : Nat × Nat} {bs : List (Nat × Nat)}
    (h : convCrop mode c n m = some b) (hr : convCrops mode cs ns ms = some bs) :
    convCrops mode (c :: cs) (n :: ns) (m :: ms) = some (b :: bs) := by
  unfold convCrops at hr ⊢
  simp only [zip3With, List.mapM_cons, id, h, hr]
  rfl

/-- side conditions of the `valid` mode, per axis -/
inductive ValidOkN (pad : Bool) : List Nat → List Nat → List Bool → List Nat → List Nat → Prop
  | nil : ValidOkN pad [] [] [] [] []
  | cons {n m N j : Nat} {b : Bool} {ns ms Ns js : List Nat} {bs : List Bool} :
      0 < m → m ≤ n → Pm.C01.convLen n m pad ≤ N → j < n - m + m % 2 → ValidOkN pad ns ms bs Ns js →
      ValidOkN pad (n :: ns) (m :: ms) (b :: bs) (N :: Ns) (j :: js)

def convOf (pad : Bool) (tg tp : List Nat) : List Nat := List.zipWith (fun n m => Pm.C01.convLen n m pad) tg tp
def validExts (tg tp : List Nat) : List Nat := List.zipWith (fun n m => n - m + m % 2) tg tp
def validStarts (pad : Bool) (tg tp : List Nat) : List Nat :=
  List.zipWith (fun n m => (Pm.C01.convLen n m pad - (n - m + m % 2)) / 2) tg tp

theorem valid_facts (pad g : Bool) {tg tp : List Nat} {bm : List Bool} {Ns js : List Nat}
    (h : ValidOkN pad tg tp bm Ns js) :
    AxisFacts Ns (zip3With (shiftAxis pad g) tg tp bm) (validStarts pad tg tp) (validExts tg tp) js
      (List.zipWith (fun j m => j + m / 2 + (m - 1) / 2) js tp) ∧
    convCrops .valid (convOf pad tg tp) tg tp = some (List.zip (validStarts pad tg tp) (validExts tg tp)) := by
  induction h with
  | nil => exact ⟨AxisFacts.nil, rfl⟩
  | @cons n m N j b ns ms Ns js bs hm hmn hN hj _ ih =>
    have hle := validExt_le_convLen pad n m hm hmn
    exact ⟨AxisFacts.cons (window_valid pad g n m N j b hm hmn hN hj) (central_lt _ _ j N hle hj hN) hj ih.1,
      convCrops_cons (convCrop_valid_any _ n m hmn hle) ih.2⟩

/-- side conditions of the `same` mode without Fourier padding, per axis: template fits, window inside the target -/
inductive SameNoPadOk : List Nat → List Nat → List Bool → List Nat → List Nat → Prop
  | nil : SameNoPadOk [] [] [] [] []
  | cons {n m N t : Nat} {b : Bool} {ns ms Ns ts : List Nat} {bs : List Bool} :
      0 < m → m ≤ n → n ≤ N → m / 2 ≤ t → t + (m - 1) / 2 ≤ n - 1 → SameNoPadOk ns ms bs Ns ts →
      SameNoPadOk (n :: ns) (m :: ms) (b :: bs) (N :: Ns) (t :: ts)

theorem same_nopad_facts (g : Bool) {tg tp : List Nat} {bm : List Bool} {Ns ts : List Nat}
    (h : SameNoPadOk tg tp bm Ns ts) :
    AxisFacts Ns (zip3With (shiftAxis false g) tg tp bm) (tg.map fun _ => 0) tg ts
      (List.zipWith (fun t m => t + (m - 1) / 2) ts tp) ∧
    convCrops .same tg tg tp = some (List.zip (tg.map fun _ => 0) tg) := by
  induction h with
  | nil => exact ⟨AxisFacts.nil, rfl⟩
  | @cons n m N t b ns ms Ns ts bs hm hmn hN h0 h1 _ ih =>
    have ht : t < n := Nat.lt_of_le_of_lt (Nat.le_trans (Nat.le_add_right t _) h1)
      (Nat.sub_lt (Nat.lt_of_lt_of_le hm hmn) Nat.one_pos)
    exact ⟨AxisFacts.cons (window_same_nopad g n m N t b hm hmn hN h1)
        (by rw [Nat.zero_add]; exact Nat.lt_of_lt_of_le ht hN) ht ih.1,
      convCrops_cons (by rw [convCrop_same_any n n m (Nat.le_refl _), Nat.sub_self]) ih.2⟩

theorem same_pad_facts (g : Bool) (tg tp : List Nat) (bm : List Bool) (Ns ts : List Nat)
    (hb : NoBatch tg tp bm) (hg : SomeLarger tg tp → g = true) (hok : SamePadOk tg tp Ns ts) :
    AxisFacts Ns (zip3With (shiftAxis true g) tg tp bm) (sameStarts tg tp) tg ts
      (List.zipWith (fun t m => t + (m - 1) / 2) ts tp) ∧
    convCrops .same (padConv tg tp) tg tp = some (List.zip (sameStarts tg tp) tg) := by
  fun_induction SamePadOk tg tp Ns ts generalizing bm with
  | case1 => exact ⟨AxisFacts.nil, rfl⟩
  | case2 n ns m ms N Ns t ts ih =>
    obtain ⟨⟨hm, hn, ht, hN⟩, hr⟩ := hok
    match bm, hb with
    | false :: bs, ⟨_, hbr⟩ =>
      obtain ⟨i1, i2⟩ := ih bs hbr (fun h => hg (Or.inr h)) hr
      have hle : n ≤ max n m + m - 1 := by omega
      exact ⟨AxisFacts.cons (window_same_pad g n m N t hm ht hN (fun h => hg (Or.inl h)))
        (central_lt _ n t N hle ht hN) ht i1, convCrops_cons (convCrop_same_any _ n m hle) i2⟩
  | case3 => cases hok

end Pm.C13
