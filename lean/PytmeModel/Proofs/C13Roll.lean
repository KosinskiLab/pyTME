import PytmeModel.Model.C13
import PytmeModel.Proofs.Common
import Mathlib.Tactic.Ring

/-! numpy `roll` as an index map: composition, range and zero shift, per axis and over the axes -/
namespace Pm.C13

theorem rollSrc_rollSrc (N : Nat) (s s' : Int) (i : Nat) (hN : 0 < N) :
    rollSrc N s (rollSrc N s' i) = rollSrc N (s + s') i := by
  unfold rollSrc
  have h1 := Int.emod_nonneg ((i : Int) - s') (by omega : (N : Int) ≠ 0)
  rw [Int.toNat_of_nonneg h1, Int.emod_sub_emod]
  congr 2; ring

theorem rollSrc_zero (N : Nat) (i : Nat) (h : i < N) : rollSrc N 0 i = i := by
  unfold rollSrc
  rw [Int.sub_zero, Int.emod_eq_of_lt (by omega) (by omega)]
  simp

theorem rollIdx_rollIdx (shape : List Nat) (s s' : List Int) (idx : List Nat) (h : inShape shape idx = true)
    (h1 : s.length = shape.length) (h2 : s'.length = shape.length) :
    rollIdx shape s (rollIdx shape s' idx) = rollIdx shape (List.zipWith (· + ·) s s') idx := by
  induction shape generalizing s s' idx with
  | nil => rfl
  | cons N Ns ih =>
    match s, s', idx, h, h1, h2 with
    | a :: as, b :: bs, i :: is, h, h1, h2 =>
      obtain ⟨hi, hr⟩ := inShape_cons.mp h
      have e := ih as bs is hr (Nat.succ.inj h1) (Nat.succ.inj h2)
      unfold rollIdx at e ⊢
      simp only [zip3With, List.zipWith_cons_cons]
      rw [rollSrc_rollSrc N a b i (Nat.lt_of_le_of_lt (Nat.zero_le i) hi), e]

theorem rollIdx_inShape (shape : List Nat) (s : List Int) (idx : List Nat) (h : inShape shape idx = true)
    (h1 : s.length = shape.length) : inShape shape (rollIdx shape s idx) = true := by
  induction shape generalizing s idx with
  | nil => rfl
  | cons N Ns ih =>
    match s, idx, h, h1 with
    | a :: as, i :: is, h, h1 =>
      obtain ⟨hi, hr⟩ := inShape_cons.mp h
      exact inShape_cons.mpr ⟨rollSrc_lt (Nat.lt_of_le_of_lt (Nat.zero_le i) hi) a i, ih as is hr (Nat.succ.inj h1)⟩

theorem rollIdx_zero (shape idx : List Nat) (h : inShape shape idx = true) :
    rollIdx shape (shape.map fun _ => (0 : Int)) idx = idx := by
  induction shape generalizing idx with
  | nil =>
    match idx, h with
    | [], _ => rfl
  | cons N Ns ih =>
    match idx, h with
    | i :: is, h =>
      obtain ⟨hi, hr⟩ := inShape_cons.mp h
      have e := ih is hr
      unfold rollIdx at e ⊢
      simp only [List.map_cons, zip3With]
      rw [rollSrc_zero N i hi, e]

theorem zipWith_add_neg (s : List Int) (sh : List Nat) (h : s.length = sh.length) :
    List.zipWith (· + ·) s (s.map (- ·)) = sh.map fun _ => (0 : Int) := by
  induction s generalizing sh with
  | nil =>
    match sh, h with
    | [], _ => rfl
  | cons x xs ih =>
    match sh, h with
    | _ :: ys, h =>
      simp only [List.map_cons, List.zipWith_cons_cons, ih ys (Nat.succ.inj h), Int.add_right_neg]

end Pm.C13
