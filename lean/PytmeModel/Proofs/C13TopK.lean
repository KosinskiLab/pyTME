import PytmeModel.Model.C13

/-! `topk_indices`: the selection is a prefix of a sorted permutation of the (value, index) pairs -/
namespace Pm.C13

/-- the selected (value, flat index) pairs -/
def topkPairs (vals : List Int) (k : Nat) : List (Int × Nat) := ((valIdx vals).mergeSort geVal).take k

theorem geVal_trans (a b c : Int × Nat) : geVal a b = true → geVal b c = true → geVal a c = true := by
  unfold geVal; simp only [decide_eq_true_eq]; omega

theorem geVal_total (a b : Int × Nat) : (geVal a b || geVal b a) = true := by
  unfold geVal; simp only [Bool.or_eq_true, decide_eq_true_eq]; omega

theorem sorted_all (vals : List Int) : ((valIdx vals).mergeSort geVal).Pairwise (fun a b => geVal a b = true) :=
  List.pairwise_mergeSort geVal_trans geVal_total _

theorem topkFlat_eq (vals : List Int) (k : Nat) (fl : List Nat) (h : topkFlat vals k = some fl) :
    fl = (topkPairs vals k).map (·.2) ∧ k ≤ vals.length ∧ 0 < vals.length := by
  unfold topkFlat at h
  split at h
  · cases h
  · rename_i hc
    simp only [Option.some.injEq] at h
    exact ⟨h.symm, by omega, by omega⟩

theorem topkPairs_mem (vals : List Int) (k : Nat) (p : Int × Nat) (h : p ∈ topkPairs vals k) :
    vals[p.2]? = some p.1 := by
  have := List.mem_of_mem_take h
  rw [List.mem_mergeSort] at this
  exact List.mem_zipIdx_iff_getElem?.mp this

theorem topkPairs_getD (vals : List Int) (k : Nat) (p : Int × Nat) (h : p ∈ topkPairs vals k) :
    vals.getD p.2 0 = p.1 := by
  rw [List.getD_eq_getElem?_getD, topkPairs_mem vals k p h, Option.getD_some]

theorem topkPairs_length (vals : List Int) (k : Nat) (h : k ≤ vals.length) : (topkPairs vals k).length = k := by
  unfold topkPairs valIdx
  simp [List.length_take, List.length_mergeSort, h]

theorem topkPairs_sorted (vals : List Int) (k : Nat) :
    (topkPairs vals k).Pairwise (fun a b => b.1 ≤ a.1) := by
  have h := (sorted_all vals).sublist (List.take_sublist k _)
  refine h.imp ?_
  intro a b hab
  simpa [geVal] using hab

theorem sortedIdx_nodup (vals : List Int) : (((valIdx vals).mergeSort geVal).map (·.2)).Nodup := by
  have hp : List.Perm (((valIdx vals).mergeSort geVal).map (·.2)) ((valIdx vals).map (·.2)) :=
    (List.mergeSort_perm _ _).map _
  rw [hp.nodup_iff]
  unfold valIdx
  have : (vals.zipIdx).map (·.2) = List.range' 0 vals.length := by
    simpa using List.zipIdx_map_snd 0 vals
  rw [this]
  exact List.nodup_range'

theorem topkPairs_nodup (vals : List Int) (k : Nat) : ((topkPairs vals k).map (·.2)).Nodup :=
  (sortedIdx_nodup vals).sublist ((List.take_sublist k _).map _)

theorem topkPairs_dominates (vals : List Int) (k : Nat) (p : Int × Nat) (hp : p ∈ topkPairs vals k)
    (j : Nat) (v : Int) (hj : vals[j]? = some v) (hn : j ∉ (topkPairs vals k).map (·.2)) : v ≤ p.1 := by
  have hmem : (v, j) ∈ (valIdx vals).mergeSort geVal := by
    rw [List.mem_mergeSort]; exact List.mem_zipIdx_iff_getElem?.mpr hj
  have hsplit := List.take_append_drop k ((valIdx vals).mergeSort geVal)
  have hs := sorted_all vals
  rw [← hsplit, List.pairwise_append] at hs
  rw [← hsplit, List.mem_append] at hmem
  rcases hmem with hm | hm
  · exact absurd (List.mem_map.mpr ⟨(v, j), hm, rfl⟩) hn
  · have := hs.2.2 p hp (v, j) hm
    simpa [geVal] using this

end Pm.C13
