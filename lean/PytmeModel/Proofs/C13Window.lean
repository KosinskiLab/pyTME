import PytmeModel.Proofs.C13Pad
import PytmeModel.Proofs.C01Frame

/-! per axis: the post-processing read position of C13's executable model in closed form for the three mode/padding combinations;
the centre slice and the crop boxes of the modes.  Two convolution extents occur: `convLen a b = a + b - 1` of this model (linear
convolution) and `Pm.C01.convLen n m pad` of C01's frame analysis (`max n m + m - 1` with Fourier padding, `max n m` without). -/
namespace Pm.C13

/-- a read position that needs no wrap-around -/
theorem postSrc_eq_of (N : Nat) (s : Int) (st t u : Nat) (h : (st : Int) + t = u + s) (hu : u < N) :
    postSrc N s st t = u := by
  unfold postSrc rollSrc
  rw [Nat.cast_add, h, Int.add_sub_cancel, Int.emod_eq_of_lt (Int.natCast_nonneg u) (Int.ofNat_lt.mpr hu),
    Int.toNat_natCast]

theorem half_add_half_pred (m : Nat) (hm : 0 < m) : m / 2 + (m - 1) / 2 = m - 1 := by omega

theorem baseShift_nopad (m : Nat) (hm : 0 < m) : (((m - 1) / 2 : Nat) : Int) + baseShift false m = 0 := by
  show _ + (1 - ((m / 2 : Nat) : Int) - ((m % 2 : Nat) : Int)) = _
  omega

/-- crop start of the `valid` mode, with and without Fourier padding -/
theorem validStart_pad (n m : Nat) (hm : 0 < m) (hmn : m ≤ n) : (n + m - 1 - (n - m + m % 2)) / 2 = m - 1 := by
  omega

theorem validStart_nopad (n m : Nat) (hmn : m ≤ n) : (n - (n - m + m % 2)) / 2 = m / 2 := by
  omega

theorem window_same_pad (g : Bool) (n m N t : Nat) (hm : 0 < m) (ht : t < n)
    (hN : max n m + m - 1 ≤ N) (hg : n < m → g = true) :
    postSrc N (shiftAxis true g n m false) ((max n m + m - 1 - n) / 2) t = t + (m - 1) / 2 := by
  have hu : t + (m - 1) / 2 < N :=
    Nat.lt_of_lt_of_le (Nat.add_lt_add_of_lt_of_le (Nat.lt_of_lt_of_le ht (Nat.le_max_left n m))
      (Nat.div_le_self _ 2)) (Nat.le_trans (by rw [Nat.add_sub_assoc hm]) hN)
  refine postSrc_eq_of _ _ _ _ _ ?_ hu
  by_cases h : n < m
  · rw [hg h, shiftAxis_larger_halves n m h, Nat.max_eq_right (Nat.le_of_lt h)]
    omega
  · rw [shiftAxis_fits true g n m false (Nat.le_of_not_lt h), Nat.max_eq_left (Nat.le_of_not_lt h),
      Nat.add_sub_assoc hm, Nat.add_sub_cancel_left]
    show _ = _ + (0 : Int)
    rw [Int.add_zero, Nat.cast_add, Int.add_comm]

theorem window_same_nopad (g : Bool) (n m N t : Nat) (b : Bool) (hm : 0 < m) (hmn : m ≤ n) (hN : n ≤ N)
    (h1 : t + (m - 1) / 2 ≤ n - 1) :
    postSrc N (shiftAxis false g n m b) 0 t = t + (m - 1) / 2 := by
  have hu : t + (m - 1) / 2 < N :=
    Nat.lt_of_lt_of_le (Nat.lt_of_le_of_lt h1 (Nat.sub_lt (Nat.lt_of_lt_of_le hm hmn) Nat.one_pos)) hN
  refine postSrc_eq_of _ _ _ _ _ ?_ hu
  rw [shiftAxis_fits false g n m b hmn, Nat.cast_add, Int.add_assoc, baseShift_nopad m hm, Int.add_zero,
    Nat.cast_zero, Int.zero_add]

theorem window_valid (pad g : Bool) (n m N j : Nat) (b : Bool) (hm : 0 < m) (hmn : m ≤ n)
    (hN : Pm.C01.convLen n m pad ≤ N) (hj : j < n - m + m % 2) :
    postSrc N (shiftAxis pad g n m b) ((Pm.C01.convLen n m pad - (n - m + m % 2)) / 2) j = j + m / 2 + (m - 1) / 2 := by
  have hlt : j + (m - 1) < n := by omega
  rw [shiftAxis_fits pad g n m b hmn, Nat.add_assoc, half_add_half_pred m hm]
  cases pad
  · rw [Pm.C01.convLen_nopad n m hmn] at hN ⊢
    refine postSrc_eq_of _ _ _ _ _ ?_ (Nat.lt_of_lt_of_le hlt hN)
    rw [validStart_nopad n m hmn, ← half_add_half_pred m hm, Nat.cast_add, Nat.cast_add, Int.add_assoc,
      Int.add_assoc, baseShift_nopad m hm, Int.add_zero, Int.add_comm]
  · rw [Pm.C01.convLen_pad n m hmn] at hN ⊢
    refine postSrc_eq_of _ _ _ _ _ ?_ (Nat.lt_of_lt_of_le hlt (Nat.le_trans (by omega) hN))
    rw [validStart_pad n m hm hmn]
    show _ = _ + (0 : Int)
    rw [Int.add_zero, Nat.cast_add, Int.add_comm]

theorem pySlice_nat (n lo hi : Nat) (h1 : lo ≤ hi) (h2 : hi ≤ n) : pySlice n lo hi = (lo, hi) := by
  unfold pySlice
  simp only [Int.not_lt.mpr (Int.natCast_nonneg _), if_false, Int.toNat_natCast, Nat.min_eq_left h2,
    Nat.min_eq_left (Nat.le_trans h1 h2), Nat.max_eq_right h1]

theorem centerStart_eq (c n : Nat) (h : n ≤ c) : centerStart c n = (((c - n) / 2 : Nat) : Int) := by
  rw [centerStart, ← Nat.cast_sub h, Int.natCast_div, Nat.cast_ofNat]

theorem centerStop_eq (c n : Nat) (h : n ≤ c) : centerStop c n = (((c - n) / 2 + n : Nat) : Int) := by
  unfold centerStop; rw [centerStart_eq c n h, Nat.cast_add]

theorem half_diff_add_le (c n : Nat) (h : n ≤ c) : (c - n) / 2 + n ≤ c := by omega

/-- a python slice with in-range bounds selects exactly `[start, stop)` -/
theorem pySlice_inbounds (n : Nat) (start stop : Int) (h0 : 0 ≤ start) (h1 : start ≤ stop)
    (h2 : stop ≤ n) : pySlice n start stop = (start.toNat, stop.toNat) := by
  obtain ⟨lo, rfl⟩ := Int.eq_ofNat_of_zero_le h0
  obtain ⟨hi, rfl⟩ := Int.eq_ofNat_of_zero_le (Int.le_trans h0 h1)
  exact pySlice_nat n lo hi (Int.ofNat_le.mp h1) (Int.ofNat_le.mp h2)

theorem pySlice_center (c n : Nat) (h : n ≤ c) :
    pySlice c (centerStart c n) (centerStop c n) = ((c - n) / 2, (c - n) / 2 + n) := by
  rw [centerStart_eq c n h, centerStop_eq c n h, pySlice_nat _ _ _ (Nat.le_add_right _ _) (half_diff_add_le c n h)]

theorem convCrop_same_any (c n m : Nat) (h : n ≤ c) : convCrop .same c n m = some ((c - n) / 2, n) := by
  show (match pySlice c (centerStart c n) (centerStop c n) with | (lo, hi) => some (lo, hi - lo)) = _
  rw [pySlice_center c n h]
  show some (_, _ + n - _) = _
  rw [Nat.add_sub_cancel_left]

theorem validLen_eq (n m : Nat) (hmn : m ≤ n) : validLen n m = ((n - m + m % 2 : Nat) : Int) := by
  rw [validLen, Nat.cast_add, Nat.cast_sub hmn]

theorem convCrop_valid_any (c n m : Nat) (hmn : m ≤ n) (hv : n - m + m % 2 ≤ c) :
    convCrop .valid c n m = some ((c - (n - m + m % 2)) / 2, n - m + m % 2) := by
  unfold convCrop
  simp only [validLen_eq n m hmn, Int.not_lt.mpr (Int.natCast_nonneg _), if_false, Int.toNat_natCast,
    pySlice_center c _ hv, Nat.add_sub_cancel_left]

theorem validExt_le_convLen (pad : Bool) (n m : Nat) (hm : 0 < m) (hmn : m ≤ n) :
    n - m + m % 2 ≤ Pm.C01.convLen n m pad := by
  have h : n - m + m % 2 ≤ n := by omega
  cases pad
  · rw [Pm.C01.convLen_nopad n m hmn]; exact h
  · rw [Pm.C01.convLen_pad n m hmn]; exact Nat.le_trans h (Nat.le_sub_one_of_lt (Nat.lt_add_of_pos_right hm))

theorem validExt_le_convLen_linear (s1 s2 : Nat) (h2 : 1 ≤ s2) (h : s2 ≤ s1) : s1 - s2 + s2 % 2 ≤ convLen s1 s2 :=
  Nat.le_trans (validExt_le_convLen true s1 s2 h2 h) (Nat.le_of_eq (Pm.C01.convLen_pad s1 s2 h))

theorem central_margins (conv ext : Nat) (h : ext ≤ conv) :
    (conv - ext) / 2 ≤ conv - ((conv - ext) / 2 + ext) ∧ conv - ((conv - ext) / 2 + ext) ≤ (conv - ext) / 2 + 1 := by
  omega

theorem central_lt (c e j N : Nat) (he : e ≤ c) (hj : j < e) (hN : c ≤ N) : (c - e) / 2 + j < N :=
  Nat.lt_of_lt_of_le (Nat.add_lt_add_left hj _) (Nat.le_trans (half_diff_add_le c e he) hN)

/-- template fits on every axis, `t` a target voxel, window inside the target when there is no Fourier padding -/
def FitsAt (pad : Bool) : List Nat → List Nat → List Int → Prop
  | [], [], [] => True
  | n :: ns, m :: ms, t :: ts =>
      (0 < m ∧ m ≤ n ∧ 0 ≤ t ∧ t < n ∧
        (pad = false → (((m / 2 : Nat) : Int) ≤ t ∧ t ≤ (n : Int) - 1 - (((m - 1) / 2 : Nat) : Int)))) ∧ FitsAt pad ns ms ts
  | _, _, _ => False

/-- template fits on every axis, `j` a voxel of the `valid` output -/
def ValidAt : List Nat → List Nat → List Int → Prop
  | [], [], [] => True
  | n :: ns, m :: ms, j :: js => (0 < m ∧ m ≤ n ∧ 0 ≤ j ∧ j < Pm.C01.validExt n m) ∧ ValidAt ns ms js
  | _, _, _ => False

theorem fitsAt_fits (pad : Bool) (ns ms : List Nat) (ts : List Int) (h : FitsAt pad ns ms ts) : Fits ns ms := by
  fun_induction FitsAt pad ns ms ts with
  | case1 => trivial
  | case2 n ns m ms t ts ih => exact ⟨h.1.2.1, ih h.2⟩
  | case3 => cases h

theorem validAt_fits (ns ms : List Nat) (js : List Int) (h : ValidAt ns ms js) : Fits ns ms := by
  fun_induction ValidAt ns ms js with
  | case1 => trivial
  | case2 n ns m ms j js ih => exact ⟨h.1.2.1, ih h.2⟩
  | case3 => cases h

/-- per axis: positive extents, `t` a target voxel, the array has room for the convolution -/
def SamePadOk : List Nat → List Nat → List Nat → List Nat → Prop
  | [], [], [], [] => True
  | n :: ns, m :: ms, N :: Ns, t :: ts => (0 < m ∧ 0 < n ∧ t < n ∧ max n m + m - 1 ≤ N) ∧ SamePadOk ns ms Ns ts
  | _, _, _, _ => False

/-- the convolution shape with full padding -/
def padConv (tg tp : List Nat) : List Nat := List.zipWith (fun n m => max n m + m - 1) tg tp

/-- crop starts of the `same` mode -/
def sameStarts (tg tp : List Nat) : List Nat := List.zipWith (fun c n => (c - n) / 2) (padConv tg tp) tg

end Pm.C13
