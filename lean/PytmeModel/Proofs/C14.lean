import PytmeModel.Model.C14
import PytmeModel.Proofs.Common
import Mathlib.Data.List.Forall2

/-! What the definitions of `Model/C14` compute, in the forms the theorems of `Props/C14` use. -/
namespace Pm.C14

theorem tileLen_eq (N k : Nat) (hk : 0 < k) (hN : 0 < N) : tileLen N k = (N - 1) / k + 1 :=
  cdiv_eq N k hk hN

theorem tileLen_pos (N k : Nat) (hk : 0 < k) (hN : 0 < N) : 0 < tileLen N k :=
  Pm.cdiv_pos N k hk hN

theorem tileLen_le (N k : Nat) (hk : 0 < k) (hN : 0 < N) : tileLen N k ≤ N :=
  Pm.cdiv_le N k hk hN

theorem le_mul_tileLen (N k : Nat) (hk : 0 < k) : N ≤ k * tileLen N k :=
  le_mul_cdiv N k hk

/-- the place the last tile is shifted back to is at or before its place on the regular grid -/
theorem sub_tileLen_le (N k : Nat) (hk : 0 < k) : N - tileLen N k ≤ (k - 1) * tileLen N k := by
  rw [Nat.sub_one_mul]
  exact Nat.sub_le_sub_right (le_mul_tileLen N k hk) _

/-- end of a tile: the end of its place on the regular grid, cut at the end of the axis -/
theorem tile_snd (N k j : Nat) (hk : 0 < k) (hN : 0 < N) :
    (tile N k j).2 = min ((j + 1) * tileLen N k) N := by
  show min _ _ + _ = _
  rw [← Nat.add_min_add_right, Nat.sub_add_cancel (tileLen_le N k hk hN), Nat.succ_mul]

theorem tileStart_last (N k : Nat) (hk : 0 < k) : tileStart N k (k - 1) = N - tileLen N k :=
  Nat.min_eq_right (sub_tileLen_le N k hk)

theorem tile_last (N k : Nat) (hk : 0 < k) (hN : 0 < N) : (tile N k (k - 1)).2 = N := by
  show tileStart N k (k - 1) + _ = N
  rw [tileStart_last N k hk, Nat.sub_add_cancel (tileLen_le N k hk hN)]

theorem tileStart_mono (N k j j' : Nat) (h : j ≤ j') : tileStart N k j ≤ tileStart N k j' :=
  min_le_min_right _ (Nat.mul_le_mul_right _ h)

theorem splitAxis_length (N k : Nat) : (splitAxis N k).length = max k 1 := by
  rw [splitAxis, List.length_map, List.length_range]

theorem mem_splitAxis (N k : Nat) (t : Nat × Nat) :
    t ∈ splitAxis N k ↔ ∃ j, j < max k 1 ∧ t = tile N (max k 1) j := by
  simp only [splitAxis, List.mem_map, List.mem_range]
  exact exists_congr fun j => and_congr_right fun _ => eq_comm

/-- one part per axis (also for a missing / zero split count): the single tile is the whole axis -/
theorem splitAxis_one (N : Nat) : splitAxis N 1 = [(0, N)] ∧ splitAxis N 0 = [(0, N)] := by
  simp [splitAxis, tile, tileStart, tileLen, cdiv]

theorem tileU_fst (N k j : Nat) : (tileU N k j).1 = j * (N / k) := by
  unfold tileU; split <;> rfl

theorem tileU_snd_of_lt (N k j : Nat) (h : j < k - 1) : (tileU N k j).2 = (j + 1) * (N / k) := by
  unfold tileU; rw [if_pos h]

theorem tileU_snd_of_ge (N k j : Nat) (h : ¬ j < k - 1) : (tileU N k j).2 = N := by
  unfold tileU; rw [if_neg h]

theorem mem_productL {α : Type} : ∀ (ls : List (List α)) (l : List α),
    l ∈ productL ls ↔ List.Forall₂ (· ∈ ·) l ls
  | [], l => by rw [productL, List.mem_singleton, List.forall₂_nil_right_iff]
  | x :: xs, l => by
      simp only [productL, List.mem_flatMap, List.mem_map, mem_productL xs, List.forall₂_cons_right_iff]
      exact ⟨fun ⟨a, ha, r, hr, e⟩ => ⟨a, r, ha, hr, e.symm⟩, fun ⟨a, r, ha, hr, e⟩ => ⟨a, ha, r, hr, e.symm⟩⟩

theorem length_productL {α : Type} : ∀ (ls : List (List α)),
    (productL ls).length = prodL (ls.map List.length)
  | [] => rfl
  | x :: xs => by
      rw [productL, length_flatMap_const x _ (prodL (xs.map List.length))
        (fun a _ => by rw [List.length_map, length_productL xs])]
      rfl

theorem mem_splitShape (shape splits : List Nat) (t : List (Nat × Nat)) :
    t ∈ splitShape shape splits ↔
      List.Forall₂ (fun r (Nk : Nat × Nat) => r ∈ splitAxis Nk.1 Nk.2) t (shape.zip splits) := by
  rw [splitShape, mem_productL, ← List.map_uncurry_zip_eq_zipWith, List.forall₂_map_right_iff]
  rfl

theorem prodL_replicate_one (n : Nat) : prodL (List.replicate n 1) = 1 := by
  induction n with
  | zero => rfl
  | succ n ih => rw [List.replicate_succ, prodL, ih]

theorem reflectIdx_of_le_one (n : Nat) (x : Int) (h : n ≤ 1) : reflectIdx n x = 0 := if_pos h

theorem reflectIdx_of_emod (n : Nat) (x j : Int) (hn : 1 < n) (hj : x % (2 * ((n : Int) - 1)) = j) :
    (reflectIdx n x : Int) = if j < n then j else 2 * ((n : Int) - 1) - j := by
  have hP : (0 : Int) < 2 * ((n : Int) - 1) := by omega
  have h0 := Int.emod_nonneg x (ne_of_gt hP)
  have h1 := Int.emod_lt_of_pos x hP
  unfold reflectIdx
  rw [if_neg (Nat.not_le_of_lt hn)]
  simp only [hj] at *
  split
  · exact Int.toNat_of_nonneg h0
  · exact Int.toNat_of_nonneg (Int.sub_nonneg_of_le (Int.le_of_lt h1))

theorem reflect_mid (n : Nat) (x : Int) (h0 : 0 ≤ x) (h1 : x < n) : (reflectIdx n x : Int) = x := by
  by_cases hn : n ≤ 1
  · rw [reflectIdx_of_le_one n x hn]; omega
  · rw [reflectIdx_of_emod n x x (by omega) (Int.emod_eq_of_lt h0 (by omega)), if_pos h1]

theorem reflect_lo (n : Nat) (x : Int) (h0 : x < 0) (h1 : -x ≤ (n : Int) - 1) : (reflectIdx n x : Int) = -x := by
  have e : x % (2 * ((n : Int) - 1)) = x + 2 * ((n : Int) - 1) := by
    rw [← Int.add_mul_emod_self_left x _ 1, Int.mul_one]
    exact Int.emod_eq_of_lt (by omega) (by omega)
  rw [reflectIdx_of_emod n x _ (by omega) e]
  split <;> omega

theorem reflect_hi (n : Nat) (x : Int) (h0 : (n : Int) ≤ x) (h1 : x ≤ 2 * ((n : Int) - 1)) (hn : 2 ≤ n) :
    (reflectIdx n x : Int) = 2 * ((n : Int) - 1) - x := by
  rcases Int.lt_or_eq_of_le h1 with h | rfl
  · rw [reflectIdx_of_emod n x x hn (Int.emod_eq_of_lt (by omega) h), if_neg (Int.not_lt.mpr h0)]
  · rw [reflectIdx_of_emod n _ 0 hn (Int.emod_self), if_pos (by omega), Int.sub_self]

theorem reflect_lt (n : Nat) (x : Int) (hn : 0 < n) : reflectIdx n x < n := by
  unfold reflectIdx
  split
  · exact hn
  · have hP : (0 : Int) < 2 * ((n : Int) - 1) := by omega
    have ha := Int.emod_nonneg x (ne_of_gt hP)
    have hb := Int.emod_lt_of_pos x hP
    simp only
    split <;> omega

/-! The range `tileAxis` extracts is the requested window `[start - left, stop + left)` cut to the volume; what
the cut removes is mirrored. -/
section
variable (N start stop p : Nat)

theorem tileAxis_arrStart_eq : (tileAxis N start stop p).arrStart = start - (p + p % 2) / 2 := by
  show start - min start _ = _
  rw [← Nat.sub_max_sub_left, Nat.sub_self, Nat.zero_max]

theorem tileAxis_arrStop_eq (h2 : stop ≤ N) :
    (tileAxis N start stop p).arrStop = min N (stop + (p + p % 2) / 2) := by
  show stop + min (N - stop) _ = _
  rw [← Nat.add_min_add_left, Nat.add_sub_cancel' h2]

theorem tileAxis_padLo_eq : (tileAxis N start stop p).padLo = (p + p % 2) / 2 - start := by
  show _ - min start _ = _
  rw [← Nat.sub_max_sub_left, Nat.sub_self, Nat.max_zero]

theorem tileAxis_padHi_eq : (tileAxis N start stop p).padHi = (p + p % 2) / 2 - (N - stop) := by
  show _ - min (N - stop) _ = _
  rw [← Nat.sub_max_sub_left, Nat.sub_self, Nat.max_zero]

end

/-- output position `q` shows the virtual position `pos = start - left + q`: relative to the extracted
range that is `pos - arrStart` -/
theorem tileAxis_src_pos (N start stop p q : Nat) (pos : Int)
    (hpos : pos = (start : Int) - ((p + p % 2) / 2 : Nat) + q) :
    let t := tileAxis N start stop p
    (t.src q : Int) = t.arrStart + reflectIdx (t.arrStop - t.arrStart) (pos - t.arrStart) := by
  intro t
  have f1 : t.arrStart + t.dl = start := Nat.sub_add_cancel (Nat.min_le_left _ _)
  have f3 : t.padLo + t.dl = (p + p % 2) / 2 := Nat.sub_add_cancel (Nat.min_le_right _ _)
  clear_value t
  generalize (p + p % 2) / 2 = left at *
  rw [show pos - t.arrStart = (q : Int) - t.padLo by omega]
  exact Nat.cast_add _ _

theorem targetPadding_mod_two (m : Nat) : targetPadding m % 2 = 0 :=
  Nat.sub_mod_eq_zero_of_mod_eq (Nat.mod_mod m 2).symm

/-- tile of extent `nt` padded by `left` per side, template of extent `m`: extent of the `valid` part … -/
theorem validExtent_padded (nt m left : Nat) (hnt : 0 < nt) (h : 2 * left = m - m % 2) :
    nt + 2 * left - m + m % 2 = nt := by
  have := Nat.mod_le m 2
  have := Nat.mod_lt m Nat.two_pos
  generalize m % 2 = r at *
  omega

/-- … and where it starts in the linear convolution -/
theorem validStart_padded (nt m left : Nat) (hm : 0 < m) :
    (nt + 2 * left + m - 1 - nt) / 2 = left + (m - 1) / 2 := by
  rw [Nat.add_sub_assoc hm, Nat.add_assoc, Nat.add_sub_cancel_left, Nat.mul_add_div Nat.two_pos]

theorem nextFastFrom_ge (f n : Nat) : n ≤ nextFastFrom f n := by
  induction f generalizing n with
  | zero => exact Nat.le_refl _
  | succ f ih =>
    unfold nextFastFrom
    split
    · exact Nat.le_refl _
    · exact Nat.le_trans (Nat.le_succ n) (ih (n + 1))

/-- `split_only_outer=True` (scripts/match_template.py sets it for `--use_gpu`): one core per tile -/
theorem coreAssignments_onlyOuter (maxCores : Nat) : coreAssignments maxCores true = [(1, maxCores)] :=
  if_pos rfl

theorem mem_coreAssignments_false (maxCores : Nat) (io : Nat × Nat) :
    io ∈ coreAssignments maxCores false ↔ ∃ i, i < Nat.sqrt maxCores ∧ maxCores % (i + 1) = 0 ∧
      (io = (i + 1, maxCores / (i + 1)) ∨ io = (maxCores / (i + 1), i + 1)) := by
  simp only [coreAssignments, Bool.false_eq_true, if_false, List.mem_flatMap, List.mem_range]
  refine exists_congr fun i => and_congr_right fun _ => ?_
  split <;> simp [*]

theorem coreAssignments_prod (maxCores : Nat) (oo : Bool) (io : Nat × Nat)
    (h : io ∈ coreAssignments maxCores oo) : io.1 * io.2 = maxCores := by
  cases oo with
  | true =>
    rw [coreAssignments_onlyOuter, List.mem_singleton] at h
    rw [h, Nat.one_mul]
  | false =>
    obtain ⟨i, _, hd, rfl | rfl⟩ := (mem_coreAssignments_false maxCores io).mp h
    · exact Nat.mul_div_cancel' (Nat.dvd_of_mod_eq_zero hd)
    · exact Nat.div_mul_cancel (Nat.dvd_of_mod_eq_zero hd)

theorem maxGroupUsage_nil (outer fuel acc : Nat) : maxGroupUsage [] outer fuel acc = acc := by
  cases fuel <;> rfl

theorem maxGroupUsage_ge_acc (us : List Nat) (outer fuel acc : Nat) :
    acc ≤ maxGroupUsage us outer fuel acc := by
  induction fuel generalizing us acc with
  | zero => exact Nat.le_refl _
  | succ f ih =>
    cases us with
    | nil => exact Nat.le_refl _
    | cons u us' => exact Nat.le_trans (Nat.le_max_left _ _) (ih _ _)

theorem mem_candsFor {P : Problem} {factor : List Nat} {c : Cand} (h : c ∈ candsFor P factor) :
    ∃ inner outer, (inner, outer) ∈ coreAssignments P.maxCores P.onlyOuter ∧ outer ≤ prodL factor ∧
      (let us := (P.widths factor).map (fun w => P.est w inner)
       maxGroupUsage us outer (us.length + 1) 0 < P.maxRam) ∧
      c = ⟨factor, outer, inner, prodL factor, prodL factor / outer⟩ := by
  unfold candsFor at h
  simp only [List.mem_filterMap] at h
  obtain ⟨⟨inner, outer⟩, hmem, hsome⟩ := h
  refine ⟨inner, outer, hmem, ?_⟩
  simp only at hsome
  split at hsome
  · cases hsome
  · rename_i hle
    split at hsome
    · rename_i hram
      exact ⟨Nat.le_of_not_lt hle, hram, (Option.some.inj hsome).symm⟩
    · cases hsome

/-- candidates record `inits = n_splits / outer` and the tile count of their split vector -/
theorem candsFor_fields (P : Problem) (factor : List Nat) (c : Cand) (h : c ∈ candsFor P factor) :
    c.splits = factor ∧ c.nSplits = prodL factor ∧ c.inits = prodL factor / c.outer := by
  obtain ⟨_, _, _, _, _, rfl⟩ := mem_candsFor h
  exact ⟨rfl, rfl, rfl⟩

theorem length_bump (l : List Nat) (ax : Nat) : (bump l ax).length = l.length :=
  List.length_set

theorem searchLoop_mem (P : Problem) (fuel : Nat) (factor : List Nat) (ax ai np : Nat)
    (acc : List Cand) (c : Cand) (h : c ∈ searchLoop P fuel factor ax ai np acc) :
    c ∈ acc ∨ ∃ f, f.length = factor.length ∧ c ∈ candsFor P f := by
  induction fuel generalizing factor ax ai np acc with
  | zero => exact Or.inl h
  | succ n ih =>
    unfold searchLoop at h
    split at h
    · exact Or.inl h
    · rcases ih _ _ _ _ _ h with h | ⟨f, hf, hc⟩
      · rcases List.mem_append.mp h with h | h
        · exact Or.inl h
        · exact Or.inr ⟨factor, rfl, h⟩
      · exact Or.inr ⟨f, hf.trans (length_bump _ _), hc⟩

theorem searchLoop_keeps (P : Problem) (fuel : Nat) (factor : List Nat) (ax ai np : Nat) (acc : List Cand) :
    ∀ c ∈ acc, c ∈ searchLoop P fuel factor ax ai np acc := by
  induction fuel generalizing factor ax ai np acc with
  | zero => exact fun c hc => hc
  | succ f ih =>
    intro c hc
    unfold searchLoop
    split
    · exact hc
    · exact ih _ _ _ _ _ c (List.mem_append_left _ hc)

theorem foldl_select {α : Type} (le : α → α → Prop) (hrefl : ∀ a, le a a)
    (htrans : ∀ a b c, le a b → le b c → le a c) (f : α → α → α)
    (hf : ∀ b x, (f b x = b ∨ f b x = x) ∧ le (f b x) b ∧ le (f b x) x) :
    ∀ (ys : List α) (b : α), ys.foldl f b ∈ b :: ys ∧ ∀ y ∈ b :: ys, le (ys.foldl f b) y
  | [], b => ⟨List.mem_singleton.mpr rfl, fun _ hy => List.mem_singleton.mp hy ▸ hrefl b⟩
  | y :: ys, b => by
    obtain ⟨hm, hl⟩ := foldl_select le hrefl htrans f hf ys (f b y)
    obtain ⟨hc, hb, hy⟩ := hf b y
    have h0 := hl _ List.mem_cons_self
    refine ⟨?_, List.forall_mem_cons.mpr ⟨htrans _ _ _ h0 hb, List.forall_mem_cons.mpr
      ⟨htrans _ _ _ h0 hy, fun z hz => hl z (List.mem_cons_of_mem _ hz)⟩⟩⟩
    have hfm : f b y ∈ b :: y :: ys := by
      rcases hc with e | e <;> rw [e]
      · exact List.mem_cons_self
      · exact List.mem_cons_of_mem _ List.mem_cons_self
    exact List.cons_subset.mpr ⟨hfm, fun _ h => List.mem_cons_of_mem _ (List.mem_cons_of_mem _ h)⟩ hm

end Pm.C14
