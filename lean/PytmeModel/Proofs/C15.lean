import PytmeModel.Model.C15
import PytmeModel.Proofs.Common

/-! One axis of `adjust_box`: what `pyNorm` does to a bound, the four fields of `adjustAxis` in closed
form, the two regimes every composition is made of (a box that contains the axis, `adjustAxis_extend`, and a
box inside it, `adjustAxis_crop`), and the box `pad` hands over. -/
namespace Pm.C15

theorem pyNorm_of_nonneg (n : Nat) {x : Int} (h : 0 ≤ x) : (pyNorm n x : Int) = min x n := by
  unfold pyNorm
  rw [if_neg (by omega)]
  omega

theorem pyNorm_of_neg (n : Nat) {x : Int} (h : x < 0) : (pyNorm n x : Int) = max (x + n) 0 := by
  unfold pyNorm
  rw [if_pos h]
  omega

theorem pyNorm_le (n : Nat) (x : Int) : pyNorm n x ≤ n := by
  rcases lt_or_ge x 0 with h | h
  · have := pyNorm_of_neg n h
    omega
  · have := pyNorm_of_nonneg n h
    omega

theorem AxisPlan.srcOf_eq_some (p : AxisPlan) (j t : Nat) :
    p.srcOf j = some t ↔ (p.left ≤ j ∧ j < p.left + p.len) ∧ p.src + (j - p.left) = t := by
  unfold AxisPlan.srcOf
  by_cases h : p.left ≤ j ∧ j < p.left + p.len
  · rw [if_pos h, Option.some.injEq, and_iff_right h]
  · rw [if_neg h]
    exact ⟨nofun, fun h' => absurd h'.1 h⟩

theorem AxisPlan.srcOf_eq_none (p : AxisPlan) (j : Nat) :
    p.srcOf j = none ↔ ¬ (p.left ≤ j ∧ j < p.left + p.len) := by
  unfold AxisPlan.srcOf
  by_cases h : p.left ≤ j ∧ j < p.left + p.len
  · rw [if_pos h]
    exact ⟨nofun, fun h' => absurd h h'⟩
  · rw [if_neg h]
    exact ⟨fun _ => h, fun _ => rfl⟩

theorem adjustAxis_left (n : Nat) (s e : Int) : ((adjustAxis n s e).left : Int) = max (-s) 0 := by
  show (((-(min s 0)).toNat : Nat) : Int) = _
  omega

theorem adjustAxis_src (n : Nat) (s e : Int) : ((adjustAxis n s e).src : Int) = min (max s 0) n :=
  pyNorm_of_nonneg n (le_max_right s 0)

theorem adjustAxis_len_eq (n : Nat) (s e : Int) :
    (adjustAxis n s e).len = pyNorm n (min e n) - (adjustAxis n s e).src := by
  unfold adjustAxis pySlice
  rfl

theorem adjustAxis_len (n : Nat) (s e : Int) (h : 0 ≤ e) :
    ((adjustAxis n s e).len : Int) = max (min e n - (adjustAxis n s e).src) 0 := by
  have h1 := pyNorm_of_nonneg n (x := min e n) (by omega)
  rw [min_eq_left (min_le_right e (n : Int))] at h1
  rw [adjustAxis_len_eq]
  generalize min e (n : Int) = b at *
  omega

theorem adjustAxis_right (n : Nat) (s e : Int) :
    ((adjustAxis n s e).right : Int) = max (e - max s 0 - (adjustAxis n s e).len) 0 := by
  show (((max (e - (if s > 0 then s else 0) - ((adjustAxis n s e).len : Int)) 0).toNat : Nat) : Int) = _
  rw [show (if s > 0 then s else 0) = max s 0 by split_ifs <;> omega]
  generalize e - max s 0 - ((adjustAxis n s e).len : Int) = x
  omega

/-- also for negative stops: `pyNorm` never exceeds `n` -/
theorem adjustAxis_kept (n : Nat) (s e : Int) (h : 0 < (adjustAxis n s e).len) :
    ((adjustAxis n s e).src : Int) = max s 0 ∧ (adjustAxis n s e).src + (adjustAxis n s e).len ≤ n := by
  have h1 := adjustAxis_src n s e
  have h2 := pyNorm_le n (min e n)
  rw [adjustAxis_len_eq] at h ⊢
  omega

theorem adjustAxis_newLen (n : Nat) (start stop : Int) (h : 0 ≤ stop) :
    ((adjustAxis n start stop).newLen : Int) = max (stop - start) 0 := by
  have f1 := adjustAxis_left n start stop
  have f2 := adjustAxis_src n start stop
  have f3 := adjustAxis_len n start stop h
  have f4 := adjustAxis_right n start stop
  unfold AxisPlan.newLen
  generalize adjustAxis n start stop = p at *
  rcases le_total start 0 with hs | hs
  · rw [max_eq_left (neg_nonneg.mpr hs)] at f1
    rw [max_eq_right hs] at f2 f4
    omega
  · rw [max_eq_right (neg_nonpos.mpr hs)] at f1
    rw [max_eq_left hs] at f2 f4
    omega

theorem adjustAxis_extend (n : Nat) (s e : Int) (hs : s ≤ 0) (he : (n : Int) ≤ e) :
    (adjustAxis n s e).src = 0 ∧ (adjustAxis n s e).len = n ∧
      ((adjustAxis n s e).left : Int) = -s ∧ ((adjustAxis n s e).right : Int) = e - n := by
  have h1 : (adjustAxis n s e).src = 0 := by
    have := adjustAxis_src n s e
    omega
  have h2 : (adjustAxis n s e).len = n := by
    have := adjustAxis_len n s e (by omega)
    omega
  have h3 := adjustAxis_left n s e
  have h4 := adjustAxis_right n s e
  rw [h2] at h4
  exact ⟨h1, h2, by omega, by omega⟩

theorem adjustAxis_crop (n : Nat) (s e : Int) (hs : 0 ≤ s) (hse : s ≤ e) (he : e ≤ n) :
    ((adjustAxis n s e).src : Int) = s ∧ ((adjustAxis n s e).len : Int) = e - s ∧
      (adjustAxis n s e).left = 0 ∧ (adjustAxis n s e).right = 0 := by
  have h1 : ((adjustAxis n s e).src : Int) = s := by
    have := adjustAxis_src n s e
    omega
  have h2 : ((adjustAxis n s e).len : Int) = e - s := by
    have := adjustAxis_len n s e (by omega)
    omega
  have h3 := adjustAxis_left n s e
  have h4 := adjustAxis_right n s e
  rw [h2] at h4
  exact ⟨h1, h2, by omega, by omega⟩

theorem adjustAxis_srcOf_some (n : Nat) (start stop : Int) (j s : Nat)
    (h : (adjustAxis n start stop).srcOf j = some s) : (s : Int) = j + start ∧ s < n := by
  obtain ⟨hc, rfl⟩ := (AxisPlan.srcOf_eq_some _ j s).mp h
  have k := adjustAxis_kept n start stop (by omega)
  have l := adjustAxis_left n start stop
  omega

theorem adjustAxis_srcOf (n : Nat) (start stop : Int) (h : 0 ≤ stop) (j : Nat)
    (hj : j < (adjustAxis n start stop).newLen) :
    (adjustAxis n start stop).srcOf j =
      if 0 ≤ (j : Int) + start ∧ (j : Int) + start < n then some ((j : Int) + start).toNat else none := by
  by_cases hc : 0 ≤ (j : Int) + start ∧ (j : Int) + start < n
  · have hk : (adjustAxis n start stop).left ≤ j ∧
        j < (adjustAxis n start stop).left + (adjustAxis n start stop).len := by
      have f1 := adjustAxis_left n start stop
      have f2 := adjustAxis_src n start stop
      have f3 := adjustAxis_len n start stop h
      have f5 := adjustAxis_newLen n start stop h
      omega
    rw [if_pos hc, AxisPlan.srcOf, if_pos hk]
    have := adjustAxis_srcOf_some n start stop j _ ((AxisPlan.srcOf_eq_some _ j _).mpr ⟨hk, rfl⟩)
    congr 1
    omega
  · rw [if_neg hc]
    cases hs : (adjustAxis n start stop).srcOf j with
    | none => rfl
    | some t =>
      have := adjustAxis_srcOf_some n start stop j t hs
      exact absurd (by omega) hc

theorem padBoxAxis_centered (n new : Nat) :
    (padBoxAxis true n new).1 = -(((new : Int) - n) / 2) ∧
      (padBoxAxis true n new).2 = (n : Int) + ((new : Int) - n) / 2 + ((new : Int) - n) % 2 :=
  ⟨rfl, rfl⟩

theorem padBoxAxis_appended (n new : Nat) :
    (padBoxAxis false n new).1 = 0 ∧ (padBoxAxis false n new).2 = (new : Int) :=
  ⟨rfl, rfl⟩

theorem padBoxAxis_extent (center : Bool) (n new : Nat) :
    (padBoxAxis center n new).2 - (padBoxAxis center n new).1 = new ∧ 0 ≤ (padBoxAxis center n new).2 := by
  cases center
  · obtain ⟨e1, e2⟩ := padBoxAxis_appended n new
    omega
  · obtain ⟨e1, e2⟩ := padBoxAxis_centered n new
    omega

end Pm.C15
