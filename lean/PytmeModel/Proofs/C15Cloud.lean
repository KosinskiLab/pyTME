import PytmeModel.Proofs.C15Nd
import Mathlib.Algebra.BigOperators.Group.List.Basic
import Mathlib.Data.List.Nodup
import Mathlib.Logic.Function.Iterate

/-! Point clouds (`to_pointcloud`), centre of mass and `core_mask` for `Props/C15.lean`. -/
namespace Pm.C15

theorem AxisPlan.srcOf_inj (p : AxisPlan) (j1 j2 s : Nat) (h1 : p.srcOf j1 = some s) (h2 : p.srcOf j2 = some s) : j1 = j2 := by
  rw [AxisPlan.srcOf_eq_some] at h1 h2
  omega

theorem srcIdx_inj (ps : List AxisPlan) (i1 i2 s : List Nat)
    (h1 : srcIdx ps i1 = some s) (h2 : srcIdx ps i2 = some s) : i1 = i2 := by
  induction ps generalizing i1 i2 s with
  | nil => rw [(srcIdx_nil_some h1).1, (srcIdx_nil_some h2).1]
  | cons p ps ih =>
    obtain ⟨j1, t1, u, us, rfl, rfl, e1, f1⟩ := srcIdx_cons_some h1
    obtain ⟨j2, t2, _, _, rfl, hs, e2, f2⟩ := srcIdx_cons_some h2
    cases hs
    rw [p.srcOf_inj j1 j2 u e1 e2, ih t1 t2 us f1 f2]

theorem sum_map_filter_zero {ι : Type} (l : List ι) (p : ι → Bool) (f : ι → Int)
    (h : ∀ x ∈ l, p x = false → f x = 0) : (l.map f).sum = ((l.filter p).map f).sum := by
  induction l with
  | nil => rfl
  | cons x xs ih =>
    have ih' := ih (fun y hy => h y (List.mem_cons_of_mem _ hy))
    by_cases hp : p x = true
    · simp [hp, ih']
    · have hp' : p x = false := by simpa using hp
      simp [hp', ih', h x List.mem_cons_self hp']

theorem sum_comW_cloud (a : Arr Int) (hwf : a.data.size = prodL a.shape) (c : Int) (g : List Nat → Int) :
    ((allIdx a.shape).map (fun idx => comW a (some c) idx * g idx)).sum =
      ((toPointcloud a c).map (fun p => a.getD p 0 * g p)).sum := by
  have hf : toPointcloud a c = (allIdx a.shape).filter (fun idx => decide (c < a.getD idx 0)) :=
    List.filter_congr fun x hx => by rw [getD_default_irrel a hwf x (mem_allIdx.mp hx) c 0]
  rw [sum_map_filter_zero (allIdx a.shape) (fun idx => decide (c < a.getD idx 0)) _
        (fun x _ hx => by simp [comW, comV, of_decide_eq_false hx]), hf]
  congr 1
  refine List.map_congr_left fun x hx => ?_
  simp [comW, comV, of_decide_eq_true (List.mem_filter.mp hx).2]

theorem sum_map_mul_sub {ι : Type} (l : List ι) (w g : ι → Int) (k : Int) :
    (l.map (fun s => w s * (g s - k))).sum = (l.map (fun s => w s * g s)).sum - k * (l.map w).sum := by
  induction l with
  | nil => simp
  | cons x xs ih => simp only [List.map_cons, List.sum_cons, ih]; ring

/-- a sum over `l` is a sum over the images under a partial map `φ`, when what `φ` drops adds nothing -/
theorem sum_map_eq_filterMap {ι κ : Type} (l : List ι) (φ : ι → Option κ) (F : ι → Int) (G : κ → Int)
    (h : ∀ i ∈ l, F i = match φ i with | some k => G k | none => 0) :
    (l.map F).sum = ((l.filterMap φ).map G).sum := by
  induction l with
  | nil => rfl
  | cons x xs ih =>
    rw [List.map_cons, List.sum_cons, ih fun i hi => h i (List.mem_cons_of_mem _ hi), h x List.mem_cons_self]
    cases hφ : φ x with
    | none => rw [List.filterMap_cons_none hφ, zero_add]
    | some k => rw [List.filterMap_cons_some hφ, List.map_cons, List.sum_cons]

theorem sum_map_eq_of_support {κ : Type} [DecidableEq κ] (m' m : List κ) (G : κ → Int) (hm' : m'.Nodup) (hm : m.Nodup)
    (hsub : ∀ k ∈ m', k ∈ m) (hsupp : ∀ k ∈ m, G k ≠ 0 → k ∈ m') :
    (m'.map G).sum = (m.map G).sum := by
  rw [sum_map_filter_zero m (fun k => decide (k ∈ m')) G
    fun k hk hd => by_contra fun hne => of_decide_eq_false hd (hsupp k hk hne)]
  refine (((List.perm_ext_iff_of_nodup hm' (hm.filter _)).mpr fun k => ?_).map G).sum_eq
  rw [List.mem_filter, decide_eq_true_iff]
  exact ⟨fun h => ⟨hsub k h, h⟩, fun h => h.2⟩

/-- the source index maps the voxels that weigh in the adjusted array one to one onto those that weigh in the old one -/
theorem sum_adjust (a : Arr Int) (hwf : a.data.size = prodL a.shape) (box : Box) (pad : Int) (cutoff : Option Int)
    (hlen : box.length = a.shape.length) (hstop : ∀ b ∈ box, 0 ≤ b.2) (hpad : comV cutoff pad = 0)
    (hsupp : ∀ s, inShape a.shape s = true → comW a cutoff s ≠ 0 →
      List.Forall₂ (fun (x : Nat) (b : Int × Int) => b.1 ≤ (x : Int) ∧ (x : Int) < b.2) s box)
    (g g' : List Nat → Int) (hg : ∀ idx s, srcIdx (plans a.shape box) idx = some s → g' idx = g s) :
    ((allIdx (adjustData a box pad).shape).map (fun idx => comW (adjustData a box pad) cutoff idx * g' idx)).sum =
      ((allIdx a.shape).map (fun s => comW a cutoff s * g s)).sum := by
  rw [sum_map_eq_filterMap _ (srcIdx (plans a.shape box)) _ (fun s => comW a cutoff s * g s)]
  · refine sum_map_eq_of_support _ _ _ ((allIdx_nodup _).filterMap fun i j s hi hj => srcIdx_inj _ i j s hi hj)
      (allIdx_nodup _) (fun s hs => ?_) (fun s hs hne => ?_)
    · obtain ⟨idx, _, hsrc⟩ := List.mem_filterMap.mp hs
      exact mem_allIdx.mpr (srcIdx_inShape a.shape box idx s hlen hsrc)
    · have hsin := mem_allIdx.mp hs
      obtain ⟨idx, h1, _, hsrc⟩ := inside_kept a.shape box s hstop hsin (hsupp s hsin (left_ne_zero_of_mul hne))
      exact List.mem_filterMap.mpr ⟨idx, mem_allIdx.mpr h1, hsrc⟩
  · intro idx hi
    have hin := mem_allIdx.mp hi
    cases hs : srcIdx (plans a.shape box) idx with
    | none =>
      show comV cutoff ((adjustData a box pad).getD idx 0) * g' idx = 0
      rw [adjustData_getD a box pad 0 idx hin, hs, readSrc, hpad, zero_mul]
    | some s =>
      show comV cutoff ((adjustData a box pad).getD idx 0) * g' idx = comV cutoff (a.getD s 0) * g s
      rw [adjustData_getD a box pad 0 idx hin, hs, readSrc,
        getD_default_irrel a hwf s (srcIdx_inShape a.shape box idx s hlen hs) pad 0, hg idx s hs]

theorem srcIdx_getD (shape : List Nat) (box : Box) (idx s : List Nat) (ax : Nat)
    (hlen : box.length = shape.length) (h : srcIdx (plans shape box) idx = some s) (hax : ax < box.length) :
    ((s.getD ax 0 : Nat) : Int) = ((idx.getD ax 0 : Nat) : Int) + (box.getD ax (0, 0)).1 := by
  induction shape generalizing box idx s ax with
  | nil => rw [hlen] at hax; cases hax
  | cons n ns ih =>
    cases box with
    | nil => cases hax
    | cons b bs =>
      obtain ⟨j, js, t, ts, rfl, rfl, e1, f1⟩ := srcIdx_cons_some h
      cases ax with
      | zero => exact (adjustAxis_srcOf_some n b.1 b.2 j t e1).1
      | succ k => exact ih bs js ts k (by simpa using hlen) f1 (by simpa using hax)

theorem coreLoop_shape : ∀ (f : Nat) (m : Arr Bool) (acc : Arr Nat), (coreLoop f m acc).shape = acc.shape
  | 0, _, _ => rfl
  | f + 1, m, acc => by
      unfold coreLoop
      split
      · rw [coreLoop_shape f]; rfl
      · rfl

theorem erode_sub (m : Arr Bool) (idx : List Nat) (hin : inShape m.shape idx = true)
    (h : (erode m).getD idx false = true) : m.getD idx false = true := by
  unfold erode at h
  rw [Arr.getD_ofFn _ _ _ _ hin, Bool.and_eq_true] at h
  exact h.1

theorem any_of_getD (m : Arr Bool) (idx : List Nat) (h : m.getD idx false = true) : m.data.toList.any id = true := by
  unfold Arr.getD at h
  split at h
  · rw [List.any_eq_true]
    by_cases hlt : flatIdx m.shape idx < m.data.size
    · refine ⟨m.data[flatIdx m.shape idx], by simp, ?_⟩
      simpa [Array.getD, hlt] using h
    · simp [Array.getD, hlt] at h
  · simp at h

theorem getD_true_inShape (m : Arr Bool) (idx : List Nat) (h : m.getD idx false = true) : inShape m.shape idx = true := by
  unfold Arr.getD at h
  split at h
  · assumption
  · simp at h

theorem iter_erode_shape (k : Nat) (m : Arr Bool) : (erode^[k] m).shape = m.shape := by
  induction k generalizing m with
  | zero => rfl
  | succ k ih => rw [Function.iterate_succ_apply, ih]; rfl

theorem iter_erode_sub (k : Nat) (m : Arr Bool) (idx : List Nat) (h : (erode^[k] m).getD idx false = true) :
    m.getD idx false = true := by
  induction k generalizing m with
  | zero => exact h
  | succ k ih =>
    rw [Function.iterate_succ_apply] at h
    have h1 := ih (erode m) h
    exact erode_sub m idx (getD_true_inShape (erode m) idx h1) h1

theorem coreLoop_count (f : Nat) (m : Arr Bool) (acc : Arr Nat) (hsh : m.shape = acc.shape)
    (idx : List Nat) (hin : inShape acc.shape idx = true) :
    (coreLoop f m acc).getD idx 0 =
      acc.getD idx 0 + ((List.range f).filter (fun k => (erode^[k] m).getD idx false)).length := by
  fun_induction coreLoop f m acc with
  | case1 => simp
  | case2 f m acc hany ih =>
    rw [ih hsh hin, Arr.getD_ofFn _ _ _ _ hin, List.range_succ_eq_map, List.filter_cons]
    simp only [Function.iterate_zero, id_eq]
    by_cases hm : m.getD idx false = true
    · simp only [hm, if_true, List.length_cons, List.filter_map, List.length_map, Function.comp_def,
        Function.iterate_succ_apply]
      omega
    · simp only [hm, if_false, Bool.false_eq_true, List.filter_map, List.length_map, Function.comp_def,
        Function.iterate_succ_apply]
      omega
  | case3 f m acc hany =>
    have hz : ∀ k, (erode^[k] m).getD idx false = false := by
      intro k
      cases hk : (erode^[k] m).getD idx false with
      | false => rfl
      | true => exact absurd (any_of_getD m idx (iter_erode_sub k m idx hk)) hany
    simp [hz]

theorem coreMask_eq_count (a : Arr Int) (idx : List Nat) (hin : inShape a.shape idx = true) :
    (coreMask a).getD idx 0 = ((List.range (prodL a.shape + 1)).filter (fun k =>
      (erode^[k] (Arr.ofFn a.shape (fun i => decide (0 < a.getD i 0)))).getD idx false)).length := by
  unfold coreMask
  rw [coreLoop_count _ _ _ rfl idx hin, Arr.getD_ofFn _ _ _ _ hin, Nat.zero_add]

theorem erode_getD (M : Arr Bool) (idx : List Nat) (hin : inShape M.shape idx = true) :
    (erode M).getD idx false = (M.getD idx false && (List.range M.shape.length).all (fun ax =>
      decide (0 < idx.getD ax 0) && M.getD (idx.set ax (idx.getD ax 0 - 1)) false &&
        M.getD (idx.set ax (idx.getD ax 0 + 1)) false)) :=
  Arr.getD_ofFn _ _ _ _ hin

theorem inShape_getD_lt (shape idx : List Nat) (ax : Nat) (hax : ax < shape.length) (hin : inShape shape idx = true) :
    idx.getD ax 0 < shape.getD ax 0 := by
  induction shape generalizing idx ax with
  | nil => cases hax
  | cons n ns ih =>
    cases idx with
    | nil => cases hin
    | cons j js =>
      rw [inShape_cons] at hin
      cases ax with
      | zero => exact hin.1
      | succ k => exact ih js k (Nat.lt_of_succ_lt_succ hax) hin.2

theorem getD_set_self (l : List Nat) (ax t : Nat) (h : ax < l.length) : (l.set ax t).getD ax 0 = t := by
  rw [List.getD_eq_getElem?_getD, List.getElem?_set_self h, Option.getD_some]

theorem iter_erode_border (k : Nat) (m : Arr Bool) (idx : List Nat) (ax : Nat) (hax : ax < m.shape.length)
    (h : (erode^[k] m).getD idx false = true) :
    k ≤ idx.getD ax 0 ∧ idx.getD ax 0 + k < m.shape.getD ax 0 := by
  induction k generalizing idx with
  | zero => exact ⟨Nat.zero_le _, inShape_getD_lt m.shape idx ax hax (getD_true_inShape m idx h)⟩
  | succ k ih =>
    rw [Function.iterate_succ_apply'] at h
    have hin : inShape (erode^[k] m).shape idx = true := getD_true_inShape (erode (erode^[k] m)) idx h
    have hax' : ax < (erode^[k] m).shape.length := by rwa [iter_erode_shape]
    rw [erode_getD _ idx hin, Bool.and_eq_true, List.all_eq_true] at h
    have h2 := h.2 ax (List.mem_range.mpr hax')
    simp only [Bool.and_eq_true, decide_eq_true_eq] at h2
    have b1 := ih _ h2.1.2
    have b2 := ih _ h2.2
    rw [getD_set_self idx ax _ (inShape_length hin ▸ hax')] at b1 b2
    omega

theorem filter_range_length_le (p : Nat → Bool) (B : Nat) (hp : ∀ k, p k = true → k < B) (f : Nat) :
    ((List.range f).filter p).length ≤ B := by
  have := (List.subperm_of_subset ((List.nodup_range (n := f)).filter p)
    (fun k hk => List.mem_range.mpr (hp k (List.mem_filter.mp hk).2))).length_le
  rwa [List.length_range] at this

theorem filter_range_stable (p : Nat → Bool) (f : Nat) (hp : ∀ k, f ≤ k → p k = false) (K : Nat) (hK : f ≤ K) :
    ((List.range K).filter p).length = ((List.range f).filter p).length := by
  obtain ⟨d, rfl⟩ := Nat.exists_eq_add_of_le hK
  rw [List.range_add, List.filter_append, List.length_append, Nat.add_eq_left, List.length_eq_zero_iff, List.filter_eq_nil_iff]
  intro k hk
  obtain ⟨j, _, rfl⟩ := List.mem_map.mp hk
  rw [hp _ (Nat.le_add_right f j)]
  exact Bool.false_ne_true

theorem first_le_prodL (n : Nat) (ns : List Nat) (idx : List Nat) (h : inShape (n :: ns) idx = true) :
    n ≤ prodL (n :: ns) := by
  cases idx with
  | nil => simp [inShape] at h
  | cons j js =>
    rw [inShape_cons] at h
    have hpos : 0 < prodL ns := Nat.lt_of_le_of_lt (Nat.zero_le _) (flatIdx_lt h.2)
    exact Nat.le_mul_of_pos_right n hpos

/-- read a mask of the old box through the source index (background where there is none) -/
def embB (M : Arr Bool) (ps : List AxisPlan) (idx : List Nat) : Bool :=
  match srcIdx ps idx with
  | some s => M.getD s false
  | none => false

theorem srcIdx_new_inShape (ps : List AxisPlan) (idx s : List Nat) (h : srcIdx ps idx = some s) :
    inShape (ps.map AxisPlan.newLen) idx = true := by
  induction ps generalizing idx s with
  | nil => rw [(srcIdx_nil_some h).1]; rfl
  | cons p ps ih =>
    obtain ⟨j, js, t, ts, rfl, rfl, e1, f1⟩ := srcIdx_cons_some h
    rw [AxisPlan.srcOf_eq_some] at e1
    rw [List.map_cons, inShape_cons]
    exact ⟨by unfold AxisPlan.newLen; omega, ih js ts f1⟩

theorem srcIdx_old_inShape (shape : List Nat) (ps : List AxisPlan)
    (hps : List.Forall₂ (fun (n : Nat) (p : AxisPlan) => p.src = 0 ∧ p.len = n) shape ps)
    (idx s : List Nat) (h : srcIdx ps idx = some s) : inShape shape s = true := by
  induction hps generalizing idx s with
  | nil => rw [(srcIdx_nil_some h).2]; rfl
  | @cons n p ns ps hp _ ih =>
    obtain ⟨j, js, t, ts, rfl, rfl, e1, f1⟩ := srcIdx_cons_some h
    rw [AxisPlan.srcOf_eq_some] at e1
    rw [inShape_cons]
    exact ⟨by omega, ih js ts f1⟩

theorem srcIdx_axis (ps : List AxisPlan) (idx s : List Nat) (ax : Nat) (h : srcIdx ps idx = some s) (hax : ax < ps.length) :
    (ps.getD ax ⟨0, 0, 0, 0⟩).srcOf (idx.getD ax 0) = some (s.getD ax 0) := by
  induction ps generalizing idx s ax with
  | nil => cases hax
  | cons p ps ih =>
    obtain ⟨j, js, t, ts, rfl, rfl, e1, f1⟩ := srcIdx_cons_some h
    cases ax with
    | zero => exact e1
    | succ k => exact ih js ts k f1 (Nat.lt_of_succ_lt_succ hax)

theorem srcIdx_set (ps : List AxisPlan) (idx s : List Nat) (ax j : Nat) (h : srcIdx ps idx = some s) (hax : ax < ps.length) :
    srcIdx ps (idx.set ax j) = ((ps.getD ax ⟨0, 0, 0, 0⟩).srcOf j).map (fun t => s.set ax t) := by
  induction ps generalizing idx s ax with
  | nil => cases hax
  | cons p ps ih =>
    obtain ⟨i, is, t, ts, rfl, rfl, e1, f1⟩ := srcIdx_cons_some h
    cases ax with
    | zero =>
      simp only [List.set_cons_zero, srcIdx, f1, List.getD_cons_zero]
      cases p.srcOf j <;> rfl
    | succ k =>
      simp only [List.set_cons_succ, srcIdx, e1, List.getD_cons_succ]
      rw [ih is ts k f1 (Nat.lt_of_succ_lt_succ hax)]
      cases (ps.getD k ⟨0, 0, 0, 0⟩).srcOf j <;> rfl

theorem forall₂_getD {A B : Type} {R : A → B → Prop} {l1 : List A} {l2 : List B} (h : List.Forall₂ R l1 l2)
    (a : A) (b : B) (ax : Nat) (hax : ax < l1.length) : R (l1.getD ax a) (l2.getD ax b) := by
  have hax' : ax < l2.length := h.length_eq ▸ hax
  simp only [List.getD_eq_getElem?_getD, List.getElem?_eq_getElem hax, List.getElem?_eq_getElem hax', Option.getD_some]
  exact h.get hax hax'

theorem getD_set_out (M : Arr Bool) (s : List Nat) (ax t : Nat) (hax : ax < s.length) (hl : s.length = M.shape.length)
    (ht : M.shape.getD ax 0 ≤ t) : M.getD (s.set ax t) false = false := by
  cases h : M.getD (s.set ax t) false with
  | false => rfl
  | true =>
    have := inShape_getD_lt M.shape (s.set ax t) ax (hl ▸ hax) (getD_true_inShape M _ h)
    rw [getD_set_self s ax t hax] at this
    omega

theorem all_congr_mem {ι : Type} (l : List ι) (f g : ι → Bool) (h : ∀ x ∈ l, f x = g x) : l.all f = l.all g := by
  rw [Bool.eq_iff_iff, List.all_eq_true, List.all_eq_true]
  exact forall₂_congr fun x hx => by rw [h x hx]

theorem embB_set (M : Arr Bool) (ps : List AxisPlan) (idx s : List Nat) (ax j : Nat)
    (hs : srcIdx ps idx = some s) (hax : ax < ps.length) :
    embB M ps (idx.set ax j) =
      match (ps.getD ax ⟨0, 0, 0, 0⟩).srcOf j with
      | some t => M.getD (s.set ax t) false
      | none => false := by
  unfold embB
  rw [srcIdx_set ps idx s ax j hs hax]
  cases (ps.getD ax ⟨0, 0, 0, 0⟩).srcOf j <;> rfl

/-- the one-axis step of `erode_emb`: `g` reads the old mask along the axis and is `false` beyond it -/
theorem srcOf_neighbours (p : AxisPlan) (n j t : Nat) (hp : p.src = 0 ∧ p.len = n) (h : p.srcOf j = some t)
    (g : Nat → Bool) (hg : ∀ u, n ≤ u → g u = false) :
    (decide (0 < j) && (match p.srcOf (j - 1) with | some u => g u | none => false) &&
        (match p.srcOf (j + 1) with | some u => g u | none => false)) =
      (decide (0 < t) && g (t - 1) && g (t + 1)) := by
  obtain ⟨⟨h1, h2⟩, rfl⟩ := (p.srcOf_eq_some j t).mp h
  obtain ⟨hp0, rfl⟩ := hp
  rw [hp0, Nat.zero_add]
  have hU : (match p.srcOf (j + 1) with | some u => g u | none => false) = g (j - p.left + 1) := by
    by_cases hup : j + 1 < p.left + p.len
    · rw [(p.srcOf_eq_some (j + 1) (j - p.left + 1)).mpr ⟨⟨by omega, hup⟩, by omega⟩]
    · rw [(p.srcOf_eq_none (j + 1)).mpr (fun hc => hup hc.2), hg _ (by omega)]
  rw [hU]
  by_cases hlo : p.left < j
  · rw [(p.srcOf_eq_some (j - 1) (j - p.left - 1)).mpr ⟨⟨by omega, by omega⟩, by omega⟩,
      decide_eq_true (show 0 < j by omega), decide_eq_true (show 0 < j - p.left by omega)]
  · rw [decide_eq_false (show ¬ 0 < j - p.left by omega)]
    by_cases hj : 0 < j
    · rw [(p.srcOf_eq_none (j - 1)).mpr (by omega)]
      simp
    · rw [decide_eq_false hj]
      rfl

/-- erosion commutes with reading through a box that only adds background -/
theorem erode_emb (shape : List Nat) (ps : List AxisPlan)
    (hps : List.Forall₂ (fun (n : Nat) (p : AxisPlan) => p.src = 0 ∧ p.len = n) shape ps)
    (M' M : Arr Bool) (hM' : M'.shape = ps.map AxisPlan.newLen) (hM : M.shape = shape)
    (hread : ∀ idx, M'.getD idx false = embB M ps idx) :
    ∀ idx, (erode M').getD idx false = embB (erode M) ps idx := by
  intro idx
  cases hs : srcIdx ps idx with
  | none =>
    rw [embB, hs]
    cases h : (erode M').getD idx false with
    | false => rfl
    | true =>
      have := erode_sub M' idx (getD_true_inShape (erode M') idx h) h
      rw [hread, embB, hs] at this
      cases this
  | some s =>
    have hin : inShape M'.shape idx = true := hM' ▸ srcIdx_new_inShape ps idx s hs
    have hsin : inShape M.shape s = true := hM ▸ srcIdx_old_inShape shape ps hps idx s hs
    have hlen : M.shape.length = ps.length := hM ▸ hps.length_eq
    have e0 : ∀ N : Arr Bool, embB N ps idx = N.getD s false := fun N => by rw [embB, hs]
    rw [erode_getD M' idx hin, e0, erode_getD M s hsin, hread, e0, hM', List.length_map, hlen]
    congr 1
    refine all_congr_mem _ _ _ (fun ax hax => ?_)
    have hax' : ax < ps.length := List.mem_range.mp hax
    have hsl : s.length = M.shape.length := inShape_length hsin
    rw [hread, hread, embB_set M ps idx s ax _ hs hax', embB_set M ps idx s ax _ hs hax']
    refine srcOf_neighbours _ (shape.getD ax 0) _ _
      (forall₂_getD hps 0 ⟨0, 0, 0, 0⟩ ax (hps.length_eq ▸ hax')) (srcIdx_axis ps idx s ax hs hax')
      (fun u => M.getD (s.set ax u) false) (fun u hu => ?_)
    exact getD_set_out M s ax u (by omega) hsl (hM ▸ hu)

theorem iter_erode_emb (shape : List Nat) (ps : List AxisPlan)
    (hps : List.Forall₂ (fun (n : Nat) (p : AxisPlan) => p.src = 0 ∧ p.len = n) shape ps)
    (M' M : Arr Bool) (hM' : M'.shape = ps.map AxisPlan.newLen) (hM : M.shape = shape)
    (hread : ∀ idx, M'.getD idx false = embB M ps idx) (k : Nat) :
    ∀ idx, (erode^[k] M').getD idx false = embB (erode^[k] M) ps idx := by
  induction k with
  | zero => exact hread
  | succ k ih =>
    rw [Function.iterate_succ_apply', Function.iterate_succ_apply']
    exact erode_emb shape ps hps _ _ (by rw [iter_erode_shape]; exact hM') (by rw [iter_erode_shape]; exact hM) ih

end Pm.C15
