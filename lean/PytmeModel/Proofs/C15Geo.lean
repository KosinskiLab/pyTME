import PytmeModel.Model.C15
import Mathlib.Tactic.Ring

/-! Geometry histories of `Props/C15.lean`: extents, origin and rate through box operations and resampling. -/
namespace Pm.C15

/-- one box operation, all axes: with `origin' = origin + start·rate` the coordinate of new index `i`
is the coordinate of old index `i + start` (lists truncate alike on both sides). -/
theorem gphys_zipWith_shift (o : List Int) (r : List Nat) (b : Box) (idx : List Int) :
    List.zipWith (fun (or : Int × Nat) (i : Int) => or.1 + i * (or.2 : Int))
      (List.zip (List.zipWith (fun (or : Int × Nat) (p : Int × Int) => or.1 + p.1 * (or.2 : Int)) (List.zip o r) b) r) idx =
    List.zipWith (fun (or : Int × Nat) (i : Int) => or.1 + i * (or.2 : Int)) (List.zip o r)
      (List.zipWith (fun (i : Int) (p : Int × Int) => i + p.1) idx b) := by
  induction o generalizing r b idx with
  | nil => simp
  | cons a o ih =>
    cases r with
    | nil => simp
    | cons c r =>
      cases b with
      | nil => simp
      | cons p b =>
        cases idx with
        | nil => simp
        | cons i idx =>
          simp only [List.zip_cons_cons, List.zipWith_cons_cons, ih]
          congr 1
          ring

theorem geoRun_append (g : Geo Int) (ops1 ops2 : List GOp) :
    geoRun g (ops1 ++ ops2) = geoRun (geoRun g ops1) ops2 := by
  induction ops1 generalizing g with
  | nil => rfl
  | cons op ops ih => simp only [List.cons_append, geoRun, ih]

end Pm.C15
