import PytmeModel.Proofs.C15
import Mathlib.Tactic.Ring

/-! n-D lifts for `Props/C15.lean`: arrays, frames, trim boxes, histories, the heap. -/
namespace Pm.C15

/-- specification of the source index: `idx + start` on every axis if that voxel exists -/
def shiftIdx : List Nat → Box → List Nat → Option (List Nat)
  | n :: ns, b :: bs, j :: js =>
      if 0 ≤ (j : Int) + b.1 ∧ (j : Int) + b.1 < n then
        (shiftIdx ns bs js).map (fun t => ((j : Int) + b.1).toNat :: t)
      else none
  | [], [], [] => some []
  | _, _, _ => none

theorem plans_cons (n : Nat) (ns : List Nat) (b : Int × Int) (bs : Box) :
    plans (n :: ns) (b :: bs) = adjustAxis n b.1 b.2 :: plans ns bs := rfl

/-- read the old array at an optional source index, the pad value where there is none -/
def readSrc {α : Type} (a : Arr α) (pad : α) : Option (List Nat) → α
  | some s => a.getD s pad
  | none => pad

theorem adjustData_getD {α : Type} (a : Arr α) (box : Box) (pad d : α) (idx : List Nat)
    (hin : inShape (adjustData a box pad).shape idx = true) :
    (adjustData a box pad).getD idx d = readSrc a pad (srcIdx (plans a.shape box) idx) := by
  unfold adjustData at hin ⊢
  refine (Arr.getD_ofFn _ _ _ _ hin).trans ?_
  cases srcIdx (plans a.shape box) idx <;> rfl

theorem srcIdx_nil_some {idx s : List Nat} (h : srcIdx [] idx = some s) : idx = [] ∧ s = [] := by
  cases idx with
  | nil => exact ⟨rfl, (Option.some.inj h).symm⟩
  | cons j js => cases h

theorem srcIdx_cons_some {p : AxisPlan} {ps : List AxisPlan} {idx s : List Nat} (h : srcIdx (p :: ps) idx = some s) :
    ∃ j js t ts, idx = j :: js ∧ s = t :: ts ∧ p.srcOf j = some t ∧ srcIdx ps js = some ts := by
  cases idx with
  | nil => cases h
  | cons j js =>
    unfold srcIdx at h
    split at h
    · next t ts h1 h2 => exact ⟨j, js, t, ts, rfl, (Option.some.inj h).symm, h1, h2⟩
    · cases h

theorem srcIdx_eq_shiftIdx (shape : List Nat) (box : Box) (idx : List Nat)
    (hlen : box.length = shape.length) (hstop : ∀ b ∈ box, 0 ≤ b.2)
    (hin : inShape ((plans shape box).map AxisPlan.newLen) idx = true) :
    srcIdx (plans shape box) idx = shiftIdx shape box idx := by
  induction shape generalizing box idx with
  | nil =>
    cases box with
    | nil => cases idx with
      | nil => rfl
      | cons j js => simp [plans, inShape] at hin
    | cons b bs => simp at hlen
  | cons n ns ih =>
    cases box with
    | nil => simp at hlen
    | cons b bs =>
      cases idx with
      | nil => simp [plans_cons, inShape] at hin
      | cons j js =>
        rw [plans_cons] at hin ⊢
        simp only [List.map_cons, inShape_cons] at hin
        obtain ⟨hj, hrest⟩ := hin
        have hb : 0 ≤ b.2 := hstop b (by simp)
        have ih' := ih bs js (by simpa using hlen) (fun x hx => hstop x (by simp [hx])) hrest
        simp only [srcIdx, shiftIdx]
        rw [adjustAxis_srcOf n b.1 b.2 hb j hj, ih']
        split_ifs with hc
        · cases shiftIdx ns bs js <;> simp
        · rfl

/-- nothing inside the box is lost -/
theorem inside_kept (shape : List Nat) (box : Box) (s : List Nat)
    (hstop : ∀ b ∈ box, 0 ≤ b.2) (hs : inShape shape s = true)
    (hbox : List.Forall₂ (fun (x : Nat) (b : Int × Int) => b.1 ≤ (x : Int) ∧ (x : Int) < b.2) s box) :
    ∃ idx, inShape ((plans shape box).map AxisPlan.newLen) idx = true ∧
      idx.map (fun (x : Nat) => (x : Int)) = List.zipWith (fun (x : Nat) (b : Int × Int) => (x : Int) - b.1) s box ∧
      srcIdx (plans shape box) idx = some s := by
  induction hbox generalizing shape with
  | nil =>
    cases shape with
    | nil => exact ⟨[], rfl, rfl, rfl⟩
    | cons n ns => cases hs
  | @cons x b xs bs hxb _ ih =>
    cases shape with
    | nil => cases hs
    | cons n ns =>
      rw [inShape_cons] at hs
      obtain ⟨idx, h1, h2, h3⟩ := ih ns (fun y hy => hstop y (List.mem_cons_of_mem _ hy)) hs.2
      have hb : 0 ≤ b.2 := hstop b List.mem_cons_self
      have hl := adjustAxis_newLen n b.1 b.2 hb
      have hlt : ((x : Int) - b.1).toNat < (adjustAxis n b.1 b.2).newLen := by omega
      have e : ((((x : Int) - b.1).toNat : Nat) : Int) + b.1 = x := by omega
      refine ⟨((x : Int) - b.1).toNat :: idx, ?_, ?_, ?_⟩
      · rw [plans_cons, List.map_cons, inShape_cons]
        exact ⟨hlt, h1⟩
      · rw [List.map_cons, List.zipWith_cons_cons, h2, Int.toNat_of_nonneg (by omega)]
      · rw [plans_cons, srcIdx, adjustAxis_srcOf n b.1 b.2 hb _ hlt, e, if_pos ⟨by omega, by omega⟩, h3,
          Int.toNat_natCast]

theorem srcIdx_inShape (shape : List Nat) (box : Box) (idx s : List Nat)
    (hlen : box.length = shape.length) (h : srcIdx (plans shape box) idx = some s) :
    inShape shape s = true := by
  induction shape generalizing box idx s with
  | nil =>
    obtain ⟨_, rfl⟩ := srcIdx_nil_some (show srcIdx [] idx = some s from List.zipWith_nil_left ▸ h)
    rfl
  | cons n ns ih =>
    cases box with
    | nil => simp at hlen
    | cons b bs =>
      obtain ⟨j, js, t, ts, rfl, rfl, h1, h2⟩ := srcIdx_cons_some h
      rw [inShape_cons]
      exact ⟨(adjustAxis_srcOf_some n b.1 b.2 j t h1).2, ih bs js ts (by simpa using hlen) h2⟩

theorem phys_adjust {β : Type} [CommRing β] (shape : List Nat) (box : Box) (f : Frame β)
    (idx s : List Nat) (h : srcIdx (plans shape box) idx = some s) :
    phys (adjustFrame f box) idx = phys f s := by
  induction box generalizing shape f idx s with
  | nil =>
    obtain ⟨rfl, rfl⟩ := srcIdx_nil_some (show srcIdx [] idx = some s from List.zipWith_nil_right ▸ h)
    simp [phys]
  | cons b bs ih =>
    cases shape with
    | nil =>
      obtain ⟨rfl, rfl⟩ := srcIdx_nil_some h
      simp [phys]
    | cons n ns =>
      obtain ⟨j, js, t, ts, rfl, rfl, h1, h2⟩ := srcIdx_cons_some h
      cases f with
      | nil => rfl
      | cons o fs =>
        have hc : ((t : Int) : β) = ((j : Int) : β) + (b.1 : β) := by
          rw [(adjustAxis_srcOf_some n b.1 b.2 j t h1).1]
          push_cast
          ring
        have ih' := ih ns fs js ts h2
        simp only [phys, adjustFrame, List.zipWith_cons_cons] at ih' ⊢
        rw [ih', hc]
        congr 1
        ring

theorem padBoxAxis_grow (center : Bool) (n new : Nat) (h : n ≤ new) :
    (padBoxAxis center n new).1 ≤ 0 ∧ (n : Int) ≤ (padBoxAxis center n new).2 := by
  cases center
  · obtain ⟨e1, e2⟩ := padBoxAxis_appended n new
    omega
  · obtain ⟨e1, e2⟩ := padBoxAxis_centered n new
    omega

theorem padBox_extends (center : Bool) (shape newShape : List Nat) (hg : List.Forall₂ (fun n m => n ≤ m) shape newShape) :
    List.Forall₂ (fun (n : Nat) (b : Int × Int) => b.1 ≤ 0 ∧ (n : Int) ≤ b.2) shape (Dens.padBox center shape newShape) := by
  induction hg with
  | nil => exact List.Forall₂.nil
  | @cons n m ns ms hnm _ ih => exact List.Forall₂.cons (padBoxAxis_grow center n m hnm) ih

/-- a box that extends the array on every axis contains every voxel -/
theorem extending_contains {shape : List Nat} {box : Box}
    (h : List.Forall₂ (fun (n : Nat) (b : Int × Int) => b.1 ≤ 0 ∧ (n : Int) ≤ b.2) shape box)
    (s : List Nat) (hs : inShape shape s = true) :
    List.Forall₂ (fun (x : Nat) (b : Int × Int) => b.1 ≤ (x : Int) ∧ (x : Int) < b.2) s box := by
  induction h generalizing s with
  | nil =>
    cases s with
    | nil => exact List.Forall₂.nil
    | cons _ _ => cases hs
  | @cons n b ns bs hb _ ih =>
    cases s with
    | nil => cases hs
    | cons x xs =>
      rw [inShape_cons] at hs
      exact List.Forall₂.cons ⟨by omega, by omega⟩ (ih xs hs.2)

theorem plans_extending : ∀ (shape : List Nat) (box : Box),
    List.Forall₂ (fun (n : Nat) (b : Int × Int) => b.1 ≤ 0 ∧ (n : Int) ≤ b.2) shape box →
    List.Forall₂ (fun (n : Nat) (p : AxisPlan) => p.src = 0 ∧ p.len = n) shape (plans shape box) := by
  intro shape box h
  induction h with
  | nil => exact List.Forall₂.nil
  | @cons n b ns bs hb _ ih =>
    rw [plans_cons]
    obtain ⟨h1, h2, _⟩ := adjustAxis_extend n b.1 b.2 hb.1 hb.2
    exact List.Forall₂.cons ⟨h1, h2⟩ ih

theorem firstHitFrom_spec (p : Nat → Bool) (f k i : Nat) (hk : k ≤ i) (hi : i < k + f) (hp : p i = true) :
    ∃ s, firstHitFrom p f k = some s ∧ k ≤ s ∧ s ≤ i ∧ p s = true := by
  fun_induction firstHitFrom p f k with
  | case1 => omega
  | case2 f k hpk => exact ⟨k, rfl, Nat.le_refl _, hk, hpk⟩
  | case3 f k hpk ih =>
    have : k ≠ i := by rintro rfl; exact hpk hp
    obtain ⟨s, h1, h2, h3, h4⟩ := ih (by omega) (by omega)
    exact ⟨s, h1, by omega, h3, h4⟩

theorem firstHitFrom_some (p : Nat → Bool) (f k s : Nat) (h : firstHitFrom p f k = some s) :
    k ≤ s ∧ s < k + f ∧ p s = true := by
  fun_induction firstHitFrom p f k with
  | case1 => cases h
  | case2 f k hpk => cases h; exact ⟨Nat.le_refl _, by omega, hpk⟩
  | case3 f k hpk ih =>
    obtain ⟨h1, h2, h3⟩ := ih h
    exact ⟨by omega, by omega, h3⟩

theorem lastHit_spec (p : Nat → Bool) (n i : Nat) (hi : i < n) (hp : p i = true) :
    ∃ l, lastHit p n = some l ∧ i ≤ l ∧ l < n ∧ p l = true := by
  fun_induction lastHit p n with
  | case1 => omega
  | case2 n hpn => exact ⟨n, rfl, by omega, by omega, hpn⟩
  | case3 n hpn ih =>
    have : i ≠ n := by rintro rfl; exact hpn hp
    obtain ⟨l, h1, h2, h3, h4⟩ := ih (by omega)
    exact ⟨l, h1, h2, by omega, h4⟩

theorem lastHit_some (p : Nat → Bool) (n l : Nat) (h : lastHit p n = some l) : l < n ∧ p l = true := by
  fun_induction lastHit p n with
  | case1 => cases h
  | case2 n hpn => cases h; exact ⟨by omega, hpn⟩
  | case3 n hpn ih => exact ⟨by have := (ih h).1; omega, (ih h).2⟩

theorem firstHit_lastHit {p : Nat → Bool} {n f l : Nat} (hf : firstHit p n = some f) (hl : lastHit p n = some l) :
    f < n ∧ l < n ∧ p f = true ∧ p l = true ∧ ∀ j, j < n → p j = true → f ≤ j ∧ j ≤ l := by
  obtain ⟨_, f2, f3⟩ := firstHitFrom_some p n 0 f hf
  obtain ⟨l1, l2⟩ := lastHit_some p n l hl
  refine ⟨by omega, l1, f3, l2, fun j hj hp => ?_⟩
  obtain ⟨f', e1, _, e2, _⟩ := firstHitFrom_spec p n 0 j (Nat.zero_le _) (by omega) hp
  obtain ⟨l', g1, g2, _⟩ := lastHit_spec p n j hj hp
  rw [show firstHitFrom p n 0 = some f from hf, Option.some.injEq] at e1
  rw [hl, Option.some.injEq] at g1
  omega

theorem forall₂_right_mem {A B : Type} {R : A → B → Prop} {P : B → Prop} {l1 : List A} {l2 : List B}
    (h : List.Forall₂ R l1 l2) (hp : ∀ a b, R a b → P b) : ∀ b ∈ l2, P b := by
  induction h with
  | nil => intro b hb; simp at hb
  | cons hab _ ih =>
    intro b hb
    rcases List.mem_cons.mp hb with rfl | hb
    · exact hp _ _ hab
    · exact ih b hb

section trim
variable {α : Type} [LT α] [DecidableLT α]

theorem trimAxis_some {a : Arr α} {cutoff : α} {margin : Int} {ax n : Nat} {b : Int × Int}
    (h : trimAxis a cutoff margin ax n = some b) :
    ∃ f l, firstHit (axisHit a cutoff ax) n = some f ∧ lastHit (axisHit a cutoff ax) n = some l ∧
      b = (max 0 ((f : Int) - margin), min (n : Int) ((l : Int) + margin + 1)) := by
  unfold trimAxis at h
  split at h
  · next f l hf hl => exact ⟨f, l, hf, hl, (Option.some.inj h).symm⟩
  · cases h

theorem trimAxis_spec (a : Arr α) (cutoff : α) (margin : Int) (ax n : Nat) (b : Int × Int)
    (hm : 0 ≤ margin) (h : trimAxis a cutoff margin ax n = some b) :
    (0 ≤ b.1 ∧ b.1 < b.2 ∧ b.2 ≤ (n : Int)) ∧
    ∀ j, j < n → axisHit a cutoff ax j = true → b.1 ≤ (j : Int) ∧ (j : Int) < b.2 := by
  obtain ⟨f, l, hf, hl, rfl⟩ := trimAxis_some h
  obtain ⟨h1, h2, h3, _, h5⟩ := firstHit_lastHit hf hl
  have := h5 f h1 h3
  refine ⟨by simp only; omega, fun j hj hp => ?_⟩
  have := h5 j hj hp
  simp only
  omega

theorem trimAxis_isSome (a : Arr α) (cutoff : α) (margin : Int) (ax n j : Nat)
    (hj : j < n) (hp : axisHit a cutoff ax j = true) :
    ∃ b, trimAxis a cutoff margin ax n = some b := by
  obtain ⟨s, e1, _⟩ := firstHitFrom_spec (axisHit a cutoff ax) n 0 j (by omega) (by omega) hp
  obtain ⟨l, g1, _⟩ := lastHit_spec (axisHit a cutoff ax) n j hj hp
  unfold trimAxis firstHit
  rw [e1, g1]
  exact ⟨_, rfl⟩

theorem trimBoxAux_cons_some {a : Arr α} {cutoff : α} {margin : Int} {ax n : Nat} {ns : List Nat} {box : Box}
    (h : trimBoxAux a cutoff margin ax (n :: ns) = some box) :
    ∃ b bs, box = b :: bs ∧ trimAxis a cutoff margin ax n = some b ∧ trimBoxAux a cutoff margin (ax + 1) ns = some bs := by
  unfold trimBoxAux at h
  split at h
  · next b bs h1 h2 => exact ⟨b, bs, (Option.some.inj h).symm, h1, h2⟩
  · cases h

/-- `js` are the trailing coordinates of a voxel whose projections hit on axes `ax, ax+1, …` -/
theorem hits_cons {a : Arr α} {cutoff : α} {ax j : Nat} {js : List Nat}
    (hit : ∀ k (hk : k < (j :: js).length), axisHit a cutoff (ax + k) (j :: js)[k] = true) :
    axisHit a cutoff ax j = true ∧ ∀ k (hk : k < js.length), axisHit a cutoff (ax + 1 + k) js[k] = true :=
  ⟨hit 0 (Nat.zero_lt_succ _), fun k hk => by
    have := hit (k + 1) (Nat.succ_lt_succ hk)
    rwa [List.getElem_cons_succ, Nat.add_comm k 1, ← Nat.add_assoc] at this⟩

theorem trimBoxAux_length (a : Arr α) (cutoff : α) (margin : Int) (ax : Nat) (ns : List Nat) (box : Box)
    (h : trimBoxAux a cutoff margin ax ns = some box) : box.length = ns.length := by
  induction ns generalizing ax box with
  | nil => cases h; rfl
  | cons n ns ih =>
    obtain ⟨b, bs, rfl, _, h2⟩ := trimBoxAux_cons_some h
    rw [List.length_cons, List.length_cons, ih (ax + 1) bs h2]

theorem trimBoxAux_within (a : Arr α) (cutoff : α) (margin : Int) (hm : 0 ≤ margin) (ax : Nat) (ns : List Nat)
    (box : Box) (h : trimBoxAux a cutoff margin ax ns = some box) :
    List.Forall₂ (fun (n : Nat) (b : Int × Int) => 0 ≤ b.1 ∧ b.1 < b.2 ∧ b.2 ≤ (n : Int)) ns box := by
  induction ns generalizing ax box with
  | nil => cases h; exact List.Forall₂.nil
  | cons n ns ih =>
    obtain ⟨b, bs, rfl, h1, h2⟩ := trimBoxAux_cons_some h
    exact List.Forall₂.cons (trimAxis_spec a cutoff margin ax n b hm h1).1 (ih (ax + 1) bs h2)

theorem trimBoxAux_contains (a : Arr α) (cutoff : α) (margin : Int) (hm : 0 ≤ margin) (ax : Nat) (ns js : List Nat)
    (box : Box) (h : trimBoxAux a cutoff margin ax ns = some box) (hin : inShape ns js = true)
    (hit : ∀ k (hk : k < js.length), axisHit a cutoff (ax + k) js[k] = true) :
    List.Forall₂ (fun (x : Nat) (b : Int × Int) => b.1 ≤ (x : Int) ∧ (x : Int) < b.2) js box := by
  induction ns generalizing ax box js with
  | nil =>
    cases h
    cases js with
    | nil => exact List.Forall₂.nil
    | cons j js => cases hin
  | cons n ns ih =>
    cases js with
    | nil => cases hin
    | cons j js =>
      rw [inShape_cons] at hin
      obtain ⟨b, bs, rfl, h1, h2⟩ := trimBoxAux_cons_some h
      obtain ⟨h0, hit'⟩ := hits_cons hit
      exact List.Forall₂.cons ((trimAxis_spec a cutoff margin ax n b hm h1).2 j hin.1 h0)
        (ih (ax + 1) js bs h2 hin.2 hit')

theorem trimBoxAux_isSome (a : Arr α) (cutoff : α) (margin : Int) (ax : Nat) (ns js : List Nat)
    (hin : inShape ns js = true)
    (hit : ∀ k (hk : k < js.length), axisHit a cutoff (ax + k) js[k] = true) :
    ∃ box, trimBoxAux a cutoff margin ax ns = some box := by
  induction ns generalizing ax js with
  | nil => exact ⟨[], rfl⟩
  | cons n ns ih =>
    cases js with
    | nil => cases hin
    | cons j js =>
      rw [inShape_cons] at hin
      obtain ⟨h0, hit'⟩ := hits_cons hit
      obtain ⟨b, hb⟩ := trimAxis_isSome a cutoff margin ax n j hin.1 h0
      obtain ⟨bs, hbs⟩ := ih (ax + 1) js hin.2 hit'
      exact ⟨b :: bs, by rw [trimBoxAux, hb, hbs]⟩

theorem hits_of_above (a : Arr α) (cutoff : α) (idx : List Nat) (hin : inShape a.shape idx = true)
    (hab : cutoff < a.getD idx cutoff) :
    ∀ k (hk : k < idx.length), axisHit a cutoff (0 + k) idx[k] = true := by
  intro k hk
  rw [Nat.zero_add, axisHit, List.any_eq_true]
  exact ⟨idx, mem_allIdx.mpr hin, by simp [hk, hab]⟩

theorem extentAux_contains (a : Arr α) (cutoff : α) (ax : Nat) (ns js : List Nat) (e : List (Nat × Nat))
    (h : extentAux a cutoff ax ns = some e) (hin : inShape ns js = true)
    (hit : ∀ k (hk : k < js.length), axisHit a cutoff (ax + k) js[k] = true) :
    List.Forall₂ (fun (x : Nat) (lh : Nat × Nat) => lh.1 ≤ x ∧ x ≤ lh.2) js e := by
  induction ns generalizing ax e js with
  | nil =>
    cases h
    cases js with
    | nil => exact List.Forall₂.nil
    | cons j js => cases hin
  | cons n ns ih =>
    cases js with
    | nil => cases hin
    | cons j js =>
      rw [inShape_cons] at hin
      unfold extentAux at h
      split at h
      · next f l r hf hl hr =>
        cases h
        obtain ⟨h0, hit'⟩ := hits_cons hit
        exact List.Forall₂.cons ((firstHit_lastHit hf hl).2.2.2.2 j hin.1 h0) (ih (ax + 1) js r hr hin.2 hit')
      · cases h

theorem trimBox_length (a : Arr α) (cutoff : α) (margin : Int) (box : Box)
    (h : trimBox a cutoff margin = some box) : box.length = a.shape.length :=
  trimBoxAux_length a cutoff margin 0 a.shape box h

theorem trimBox_stop_nonneg (a : Arr α) (cutoff : α) (margin : Int) (box : Box) (hm : 0 ≤ margin)
    (h : trimBox a cutoff margin = some box) : ∀ b ∈ box, 0 ≤ b.2 :=
  forall₂_right_mem (trimBoxAux_within a cutoff margin hm 0 a.shape box h) (fun n b hb => by omega)

end trim

theorem getD_default_irrel {α : Type} (a : Arr α) (hwf : a.data.size = prodL a.shape) (idx : List Nat)
    (hin : inShape a.shape idx = true) (x y : α) : a.getD idx x = a.getD idx y := by
  have := flatIdx_lt hin
  simp [Arr.getD, hin, Array.getD, hwf, this]

theorem adjustData_wf {α : Type} (a : Arr α) (box : Box) (pad : α) :
    (adjustData a box pad).data.size = prodL (adjustData a box pad).shape := by
  unfold adjustData
  exact Arr.size_ofFn _ _

section hist
variable {α β : Type} [LT α] [DecidableLT α] [CommRing β]

theorem boxOf_length (data : Arr α) (op : Op α) (bp : Box × α)
    (h : boxOf data.shape data op = some bp) : bp.1.length = data.shape.length := by
  cases op with
  | adjust box pad =>
    simp only [boxOf] at h
    split_ifs at h with hc
    simp only [Option.some.injEq] at h; subst h; exact hc
  | pad ns c v =>
    simp only [boxOf] at h
    split_ifs at h with hc
    simp only [Option.some.injEq] at h; subst h
    simp [Dens.padBox, hc]
  | trim cutoff margin pad =>
    simp only [boxOf, Option.map_eq_some_iff] at h
    obtain ⟨b, hb, rfl⟩ := h
    exact trimBox_length data cutoff margin b hb
  | copy => simp [boxOf] at h

omit [LT α] [DecidableLT α] in
theorem step_trace (d : Dens α β) (box : Box) (pad x : α) (mid s : List Nat)
    (hwf : d.data.data.size = prodL d.data.shape) (hlen : box.length = d.data.shape.length)
    (hin : inShape (d.adjustBox box pad).data.shape mid = true)
    (hs : srcIdx (plans d.data.shape box) mid = some s) :
    (d.adjustBox box pad).data.getD mid x = d.data.getD s x ∧
      phys (d.adjustBox box pad).frame mid = phys d.frame s ∧ inShape d.data.shape s = true := by
  have hsin := srcIdx_inShape d.data.shape box mid s hlen hs
  refine ⟨?_, phys_adjust d.data.shape box d.frame mid s hs, hsin⟩
  show (adjustData d.data box pad).getD mid x = _
  rw [adjustData_getD d.data box pad x mid hin, hs]
  show d.data.getD s pad = _
  exact getD_default_irrel d.data hwf s hsin pad x

end hist

theorem broadcastAxes_length {β : Type} (ndim : Nat) (l r : List β) (h : broadcastAxes ndim l = some r) :
    r.length = ndim := by
  unfold broadcastAxes at h
  split_ifs at h with h0
  simp only at h
  split_ifs at h with h1
  simp only [Option.some.injEq] at h
  subst h; exact h1

theorem broadcastAxes_scalar {β : Type} (ndim : Nat) (x : β) :
    broadcastAxes ndim [x] = some (List.replicate ndim x) := by
  simp [broadcastAxes]

theorem broadcastAxes_full {β : Type} (l : List β) (h : l ≠ []) : broadcastAxes l.length l = some l := by
  have hpos : 0 < l.length := List.length_pos_iff.mpr h
  have hr : l.flatMap (fun x => List.replicate (l.length / l.length) x) = l := by
    rw [Nat.div_self hpos]
    simp only [List.replicate_one, List.flatMap_singleton']
  unfold broadcastAxes
  rw [if_neg (by omega)]
  simp only [hr, if_true]

section heap
variable {γ : Type} [Inhabited γ]

theorem read_alloc_lt (h : Heap γ) (v : γ) (a : Nat) (ha : a < h.cells.length) :
    (h.alloc v).1.read a = h.read a := by
  simp [Heap.alloc, Heap.read, List.getD_eq_getElem?_getD, List.getElem?_append_left ha]

theorem read_alloc_new (h : Heap γ) (v : γ) : (h.alloc v).1.read (h.alloc v).2 = v := by
  simp [Heap.alloc, Heap.read, List.getD_eq_getElem?_getD]

omit [Inhabited γ] in
theorem alloc_length (h : Heap γ) (v : γ) : (h.alloc v).1.cells.length = h.cells.length + 1 := by
  simp [Heap.alloc]

theorem read_write_ne (h : Heap γ) (a b : Nat) (v : γ) (hab : a ≠ b) : (h.write a v).read b = h.read b := by
  simp [Heap.write, Heap.read, List.getD_eq_getElem?_getD, List.getElem?_set_ne hab]

theorem copyD_refs (h : Heap γ) (d : DRef) :
    (copyD h d).2 = ⟨h.cells.length, h.cells.length + 3, h.cells.length + 4, h.cells.length + 2⟩ := by
  simp [copyD, construct, Heap.alloc]

theorem copyD_cells (h : Heap γ) (d : DRef) (hwf : ∀ r ∈ d.refs, r < h.cells.length) :
    (copyD h d).1.cells = h.cells ++ [h.read d.data, h.read d.origin, h.read d.md, h.read d.origin, h.read d.rate] := by
  simp only [DRef.refs, List.mem_cons, List.not_mem_nil, or_false, forall_eq_or_imp, forall_eq] at hwf
  obtain ⟨h1, h2, h3, h4⟩ := hwf
  simp [copyD, construct, Heap.alloc, Heap.read, List.getD_eq_getElem?_getD, List.getElem?_append, h1, h2, h3, h4]

end heap

end Pm.C15
