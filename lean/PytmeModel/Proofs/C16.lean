import PytmeModel.Model.C16

/-! The functions of the C16 model are sequences that stop at the first raise (`andThen`), so a property of worlds
that every step keeps is kept by a block, a pool, a `scan`, a tile and the whole search (`execSteps_inv` …
`scanSubsets_inv`), raised or returned. -/
namespace Pm.C16

/-- `r`, then `k` unless `r` raised.  The alternatives come in the order `scanBody`, `tileFull` and `scanSubsets`
have them, so that these unfold to `andThen` by `rfl` (after `unfold`: leaving the unfolding to `rfl` is slow). -/
def andThen (r : Option Exc × World) (k : World → Option Exc × World) : Option Exc × World :=
  match r with
  | (some e, w) => (some e, w)
  | (none, w) => k w

theorem andThen_fst_none {r : Option Exc × World} {k : World → Option Exc × World} :
    (andThen r k).1 = none ↔ r.1 = none ∧ (k r.2).1 = none := by
  rcases r with ⟨_ | e, w⟩
  · exact ⟨fun h => ⟨rfl, h⟩, fun h => h.2⟩
  · exact ⟨fun h => (by cases h), fun h => (by cases h.1)⟩

theorem andThen_inv_of_none (I : World → Prop) {r : Option Exc × World} {k : World → Option Exc × World}
    (h : (andThen r k).1 = none) (hk : r.1 = none → (k r.2).1 = none → I (k r.2).2) : I (andThen r k).2 := by
  rcases r with ⟨_ | e, w⟩
  · exact hk rfl h
  · cases h

theorem andThen_some {r : Option Exc × World} {k : World → Option Exc × World} {e : Exc}
    (h : (andThen r k).1 = some e) : r.1 = some e ∨ r.1 = none ∧ (k r.2).1 = some e := by
  rcases r with ⟨_ | e', w⟩
  · exact Or.inr ⟨rfl, h⟩
  · exact Or.inl h

theorem andThen_inv (I : World → Prop) {r : Option Exc × World} {k : World → Option Exc × World}
    (hr : I r.2) (hk : r.1 = none → I (k r.2).2) : I (andThen r k).2 := by
  rcases r with ⟨_ | e, w⟩
  · exact hk rfl
  · exact hr

theorem execSteps_cons (plan : Plan) (mgr : Option Nat) (s : Step) (ss : List Step) (w : World) :
    execSteps plan mgr (s :: ss) w = andThen (step plan mgr s w) (execSteps plan mgr ss) := by
  rw [execSteps]
  rcases step plan mgr s w with ⟨_ | e, w'⟩ <;> rfl

theorem execSteps_singleton (plan : Plan) (mgr : Option Nat) (s : Step) (w : World) :
    execSteps plan mgr [s] w = step plan mgr s w := by
  rw [execSteps_cons]
  rcases step plan mgr s w with ⟨_ | e, w'⟩ <;> rfl

theorem scanBody_eq (cfg : Cfg) (plan : Plan) (ts : TileSched) (t : Nat) (w : World) :
    scanBody cfg plan ts t w =
      andThen (execSteps plan (some t) (preSteps cfg t) w) fun w1 =>
        if cfg.inner = 0 then (some .badArg, w1) else
          andThen (runPool (jobFull plan t) (jobPart plan t ts) cfg.inner
              (poolOrder cfg.inner ts.picks (jobsOf cfg t)) w1)
            (execSteps plan (some t) (postSteps cfg t)) := by
  unfold scanBody andThen
  rfl

theorem tileFull_eq (cfg : Cfg) (plan : Plan) (amb : Option Exc) (sch : Sched) (t : Nat) (w : World) :
    tileFull cfg plan amb sch t w =
      andThen (step plan none (.point ⟨.subset, t, 0⟩) w)
        (handler (ambientFor cfg amb) t (scanBody cfg plan (sch.tiles.getD t {}) t)) := by
  rw [← execSteps_singleton]
  unfold tileFull andThen
  rfl

theorem scanSubsets_eq (cfg : Cfg) (plan : Plan) (amb : Option Exc) (pol : Policy) (sch : Sched) (w : World) :
    scanSubsets cfg plan amb pol sch w =
      if cfg.outer = 0 then (some .badArg, w) else
        andThen (runPool (tileFull cfg plan amb sch) (tilePart cfg plan amb pol sch) cfg.outer
            (poolOrder cfg.outer sch.outerPicks (List.range cfg.ntiles)) w)
          (execSteps plan none (outerPost cfg)) := by
  unfold scanSubsets andThen
  rfl

theorem step_fst_none (plan : Plan) (mgr : Option Nat) (s : Step) (w : World) :
    (step plan mgr s w).1 = none ↔ s.bad plan = false := by
  cases s with
  | point p =>
    simp only [step, Step.bad]
    cases plan.contains p
    · exact ⟨fun _ => rfl, fun _ => rfl⟩
    · exact ⟨fun h => (by cases h), fun h => (by cases h)⟩
  | fail e => exact ⟨fun h => (by cases h), fun h => (by cases h)⟩
  | _ => exact ⟨fun _ => rfl, fun _ => rfl⟩

theorem bad_point (plan : Plan) (p : Pos) : (Step.point p).bad plan = false ↔ p ∉ plan := by
  rw [← List.contains_iff_mem, Bool.not_eq_true]; rfl

/-- the steps of a block, in the world-independent sense: none of them raises -/
def StepsOK (plan : Plan) (ss : List Step) : Prop := ∀ s ∈ ss, s.bad plan = false

theorem execSteps_fst_none (plan : Plan) (mgr : Option Nat) (ss : List Step) (w : World) :
    (execSteps plan mgr ss w).1 = none ↔ StepsOK plan ss := by
  unfold StepsOK
  induction ss generalizing w with
  | nil => exact ⟨fun _ _ h => (by cases h), fun _ => rfl⟩
  | cons s ss ih => rw [execSteps_cons, andThen_fst_none, step_fst_none, ih, List.forall_mem_cons]

theorem step_some (plan : Plan) (mgr : Option Nat) (s : Step) (w : World) (e : Exc)
    (h : (step plan mgr s w).1 = some e) : (∃ p ∈ plan, s = .point p ∧ e = .fault p) ∨ s = .fail e := by
  cases s with
  | point p =>
    cases hc : plan.contains p <;> simp only [step, hc] at h
    · cases h
    · exact Or.inl ⟨p, List.contains_iff_mem.mp hc, rfl, (Option.some.inj h).symm⟩
  | fail e0 => exact Or.inr (congrArg Step.fail (Option.some.inj h))
  | _ => cases h

theorem execSteps_some {plan : Plan} {mgr : Option Nat} {ss : List Step} {w : World} {e : Exc}
    (h : (execSteps plan mgr ss w).1 = some e) :
    (∃ p, Step.point p ∈ ss ∧ p ∈ plan ∧ e = .fault p) ∨ Step.fail e ∈ ss := by
  induction ss generalizing w with
  | nil => cases h
  | cons s ss ih =>
    rw [execSteps_cons] at h
    rcases andThen_some h with h | ⟨_, h⟩
    · rcases step_some plan mgr s w e h with ⟨p, hpl, rfl, he⟩ | rfl
      · exact Or.inl ⟨p, List.mem_cons_self, hpl, he⟩
      · exact Or.inr List.mem_cons_self
    · rcases ih h with ⟨p, hp, hpl, he⟩ | hf
      · exact Or.inl ⟨p, List.mem_cons_of_mem _ hp, hpl, he⟩
      · exact Or.inr (List.mem_cons_of_mem _ hf)

/-- the world a step leaves behind; raising or not makes no difference to it -/
def Step.effect (mgr : Option Nat) : Step → World → World
  | .point p, w => { w with trace := w.trace ++ [p] }
  | .alloc n, w => allocSegs mgr n w
  | .write priv, w => if priv then w else { w with inputs := w.inputs + 1 }
  | .fail _, w => w

theorem step_snd (plan : Plan) (mgr : Option Nat) (s : Step) (w : World) :
    (step plan mgr s w).2 = s.effect mgr w := by
  cases s with
  | point p => rw [step]; split <;> rfl
  | _ => rfl

theorem execSteps_inv (plan : Plan) (mgr : Option Nat) (I : World → Prop) (ss : List Step)
    (hstep : ∀ s ∈ ss, ∀ w, I w → I (step plan mgr s w).2) (w : World) (hw : I w) :
    I (execSteps plan mgr ss w).2 := by
  induction ss generalizing w with
  | nil => exact hw
  | cons s ss ih =>
    rw [execSteps_cons]
    have h1 := hstep s List.mem_cons_self w hw
    exact andThen_inv I h1 fun _ => ih (fun s' hs' => hstep s' (List.mem_cons_of_mem _ hs')) _ h1

def LiveExt (mgr : Option Nat) (w w' : World) : Prop :=
  ∃ l, w'.live = w.live ++ l ∧ ∀ s ∈ l, s.mgr = mgr

theorem LiveExt.refl (mgr : Option Nat) (w : World) : LiveExt mgr w w :=
  ⟨[], (List.append_nil _).symm, fun _ h => nomatch h⟩

theorem LiveExt.trans {mgr : Option Nat} {a b c : World} (h1 : LiveExt mgr a b) (h2 : LiveExt mgr b c) :
    LiveExt mgr a c := by
  obtain ⟨l1, e1, o1⟩ := h1
  obtain ⟨l2, e2, o2⟩ := h2
  refine ⟨l1 ++ l2, by rw [e2, e1, List.append_assoc], ?_⟩
  intro s hs
  rcases List.mem_append.mp hs with h | h
  · exact o1 s h
  · exact o2 s h

theorem step_live (plan : Plan) (mgr : Option Nat) (s : Step) (w : World) (h : ∀ n, s ≠ .alloc n) :
    (step plan mgr s w).2.live = w.live := by
  rw [step_snd]
  cases s with
  | alloc n => exact absurd rfl (h n)
  | write b => cases b <;> rfl
  | _ => rfl

theorem step_liveExt (plan : Plan) (mgr : Option Nat) (s : Step) (w : World) :
    LiveExt mgr w (step plan mgr s w).2 := by
  cases s with
  | alloc n =>
    refine ⟨(List.range n).map (fun i => ⟨mgr, w.nalloc + i⟩), rfl, ?_⟩
    intro s hs
    obtain ⟨i, _, rfl⟩ := List.mem_map.mp hs
    rfl
  | _ => rw [LiveExt, step_live _ _ _ _ (fun n h => by cases h)]; exact LiveExt.refl mgr w

theorem execSteps_live_noalloc (plan : Plan) (mgr : Option Nat) (ss : List Step) (w : World)
    (h : ∀ s ∈ ss, ∀ n, s ≠ .alloc n) : (execSteps plan mgr ss w).2.live = w.live :=
  execSteps_inv plan mgr (fun w' => w'.live = w.live) ss
    (fun s hs w' hw' => (step_live plan mgr s w' (h s hs)).trans hw') w rfl

/-- a step that writes into the caller's arrays -/
def Step.touches : Step → Bool
  | .write false => true
  | _ => false

theorem step_inputs (plan : Plan) (mgr : Option Nat) (s : Step) (w : World) (h : s.touches = false) :
    (step plan mgr s w).2.inputs = w.inputs := by
  rw [step_snd]
  cases s with
  | write b =>
    cases b
    · cases h
    · rfl
  | _ => rfl

def TraceSub (w w' : World) : Prop := ∀ p ∈ w.trace, p ∈ w'.trace

theorem TraceSub.refl (w : World) : TraceSub w w := fun _ h => h
theorem TraceSub.trans {a b c : World} (h1 : TraceSub a b) (h2 : TraceSub b c) : TraceSub a c :=
  fun p h => h2 p (h1 p h)

theorem step_trace (plan : Plan) (mgr : Option Nat) (s : Step) (w : World) :
    (step plan mgr s w).2.trace = w.trace ++ s.pts := by
  rw [step_snd]
  cases s with
  | point p => rfl
  | write b => cases b <;> exact (List.append_nil _).symm
  | _ => exact (List.append_nil _).symm

theorem step_traceSub (plan : Plan) (mgr : Option Nat) (s : Step) (w : World) :
    TraceSub w (step plan mgr s w).2 :=
  fun p hp => by rw [step_trace]; exact List.mem_append_left _ hp

theorem execSteps_traceSub (plan : Plan) (mgr : Option Nat) (ss : List Step) (w : World) :
    TraceSub w (execSteps plan mgr ss w).2 :=
  execSteps_inv plan mgr (TraceSub w) ss (fun s _ w' h => h.trans (step_traceSub plan mgr s w')) w
    (TraceSub.refl w)

theorem ptsOf_cons (s : Step) (ss : List Step) : ptsOf (s :: ss) = s.pts ++ ptsOf ss := List.flatMap_cons

theorem execSteps_trace_of_none {plan : Plan} {mgr : Option Nat} {ss : List Step} {w : World}
    (h : (execSteps plan mgr ss w).1 = none) :
    (execSteps plan mgr ss w).2.trace = w.trace ++ ptsOf ss := by
  induction ss generalizing w with
  | nil => exact (List.append_nil _).symm
  | cons s ss ih =>
    rw [execSteps_cons] at h ⊢
    refine andThen_inv_of_none (fun w' => w'.trace = w.trace ++ ptsOf (s :: ss)) h fun _ hss => ?_
    rw [ih hss, step_trace, List.append_assoc, ptsOf_cons]

theorem mem_ptsOf {p : Pos} {ss : List Step} : p ∈ ptsOf ss ↔ Step.point p ∈ ss := by
  rw [ptsOf, List.mem_flatMap]
  constructor
  · rintro ⟨s, hs, hp⟩
    cases s with
    | point q => rw [List.mem_singleton.mp hp]; exact hs
    | _ => cases hp
  · exact fun h => ⟨_, h, List.mem_singleton.mpr rfl⟩

theorem not_planned_of_stepsOK {plan : Plan} {ss : List Step} (h : StepsOK plan ss) {p : Pos}
    (hp : p ∈ plan) : p ∉ ptsOf ss := fun hm =>
  Bool.false_ne_true ((h _ (mem_ptsOf.mp hm)).symm.trans (List.contains_iff_mem.mpr hp))

theorem extract_perm {α : Type} (i : Nat) (x : α) (xs : List α) :
    List.Perm (x :: xs) ((extract i x xs).1 :: (extract i x xs).2) := by
  induction i generalizing x xs with
  | zero => exact List.Perm.refl _
  | succ i ih =>
    cases xs with
    | nil => exact List.Perm.refl _
    | cons y ys => exact ((ih y ys).cons x).trans (List.Perm.swap _ _ _)

/-- the completion order chosen by a schedule is a permutation of the submitted tasks: no job or tile is dropped,
none runs twice, whatever the picks -/
theorem pickOrder_perm {α : Type} (picks : List Nat) (l : List α) : List.Perm l (pickOrder picks l) := by
  induction picks generalizing l with
  | nil => cases l <;> exact List.Perm.refl _
  | cons k ks ih =>
    cases l with
    | nil => exact List.Perm.refl _
    | cons x xs => exact (extract_perm _ x xs).trans ((ih _).cons _)

theorem pickOrder_mem {α : Type} {picks : List Nat} {l : List α} {a : α} :
    a ∈ pickOrder picks l ↔ a ∈ l :=
  (pickOrder_perm picks l).mem_iff.symm

theorem pickOrder_length {α : Type} (picks : List Nat) (l : List α) :
    (pickOrder picks l).length = l.length :=
  (pickOrder_perm picks l).length_eq.symm

theorem poolOrder_mem {α : Type} {n : Nat} {picks : List Nat} {l : List α} {a : α} :
    a ∈ poolOrder n picks l ↔ a ∈ l := by
  unfold poolOrder; split
  · rfl
  · exact pickOrder_mem

theorem forall_mem_poolOrder {α : Type} {n : Nat} {picks : List Nat} {l : List α} {P : α → Prop} :
    (∀ a ∈ poolOrder n picks l, P a) ↔ ∀ a ∈ l, P a :=
  forall_congr' fun a => by rw [poolOrder_mem]

theorem runPool_cons_of_none {τ : Type} {full : τ → World → Option Exc × World} {part : τ → World → World}
    {njobs : Nat} {t : τ} {w : World} (h : (full t w).1 = none) (rest : List τ) :
    runPool full part njobs (t :: rest) w = runPool full part njobs rest (full t w).2 := by
  rw [runPool]
  generalize full t w = r at h ⊢
  rcases r with ⟨_ | e, w'⟩
  · rfl
  · cases h

theorem runPool_cons_of_some {τ : Type} {full : τ → World → Option Exc × World} {part : τ → World → World}
    {njobs : Nat} {t : τ} {w : World} {e : Exc} (h : (full t w).1 = some e) (rest : List τ) :
    runPool full part njobs (t :: rest) w =
      (some e, (rest.take (inFlight njobs)).foldl (fun w s => part s w) (full t w).2) := by
  rw [runPool]
  generalize full t w = r at h ⊢
  rcases r with ⟨_ | e', w'⟩
  · cases h
  · cases h; rfl

section pool
variable {τ : Type} (full : τ → World → Option Exc × World) (part : τ → World → World) (njobs : Nat)

theorem runPool_fst_none (ok : τ → Prop) (hfull : ∀ t w, (full t w).1 = none ↔ ok t)
    (ts : List τ) (w : World) :
    (runPool full part njobs ts w).1 = none ↔ ∀ t ∈ ts, ok t := by
  induction ts generalizing w with
  | nil => exact ⟨fun _ _ h => (by cases h), fun _ => rfl⟩
  | cons t rest ih =>
    rw [List.forall_mem_cons, ← hfull t w]
    cases h : (full t w).1 with
    | none => rw [runPool_cons_of_none h, ih]; exact ⟨fun h => ⟨rfl, h⟩, fun h => h.2⟩
    | some e => rw [runPool_cons_of_some h]; exact ⟨fun h => (by cases h), fun h => (by cases h.1)⟩

theorem runPool_some (ts : List τ) (w : World) (e : Exc)
    (h : (runPool full part njobs ts w).1 = some e) : ∃ t ∈ ts, ∃ w0, (full t w0).1 = some e := by
  induction ts generalizing w with
  | nil => cases h
  | cons t rest ih =>
    cases hf : (full t w).1 with
    | none =>
      rw [runPool_cons_of_none hf] at h
      obtain ⟨t', ht', hw0⟩ := ih _ h
      exact ⟨t', List.mem_cons_of_mem _ ht', hw0⟩
    | some e' =>
      rw [runPool_cons_of_some hf] at h
      exact ⟨t, List.mem_cons_self, w, hf.trans h⟩

theorem foldl_part_inv (I : World → Prop) (l : List τ) (hpart : ∀ t ∈ l, ∀ w, I w → I (part t w)) (w : World)
    (hw : I w) : I (l.foldl (fun w s => part s w) w) := by
  induction l generalizing w with
  | nil => exact hw
  | cons s l ih =>
    exact ih (fun t ht => hpart t (List.mem_cons_of_mem _ ht)) _ (hpart s List.mem_cons_self w hw)

theorem runPool_inv (I : World → Prop) (ts : List τ) (hfull : ∀ t ∈ ts, ∀ w, I w → I (full t w).2)
    (hpart : inFlight njobs = 0 ∨ ∀ t ∈ ts, ∀ w, I w → I (part t w)) (w : World) (hw : I w) :
    I (runPool full part njobs ts w).2 := by
  induction ts generalizing w with
  | nil => exact hw
  | cons t rest ih =>
    have h := hfull t List.mem_cons_self w hw
    cases hf : (full t w).1 with
    | none =>
      rw [runPool_cons_of_none hf]
      exact ih (fun t' ht' => hfull t' (List.mem_cons_of_mem _ ht'))
        (hpart.imp_right fun hp t' ht' => hp t' (List.mem_cons_of_mem _ ht')) _ h
    | some e =>
      rw [runPool_cons_of_some hf]
      rcases hpart with h0 | hp
      · rw [h0]; exact h
      · exact foldl_part_inv part I _ (fun t' ht' => hp t' (List.mem_cons_of_mem _ (List.mem_of_mem_take ht'))) _ h

theorem runPool_inv_of_none (I : World → Prop) (hfull : ∀ t w, I w → I (full t w).2)
    (ts : List τ) (w : World) (hw : I w) (hn : (runPool full part njobs ts w).1 = none) :
    I (runPool full part njobs ts w).2 := by
  induction ts generalizing w with
  | nil => exact hw
  | cons t rest ih =>
    cases hf : (full t w).1 with
    | none =>
      rw [runPool_cons_of_none hf] at hn ⊢
      exact ih _ (hfull t w hw) hn
    | some e => rw [runPool_cons_of_some hf] at hn; cases hn

theorem runPool_trace_of_none (pts : τ → List Pos)
    (hfull : ∀ t w, TraceSub w (full t w).2 ∧ ((full t w).1 = none → ∀ p ∈ pts t, p ∈ (full t w).2.trace))
    (ts : List τ) (w : World) (hn : (runPool full part njobs ts w).1 = none) :
    TraceSub w (runPool full part njobs ts w).2 ∧
      ∀ t ∈ ts, ∀ p ∈ pts t, p ∈ (runPool full part njobs ts w).2.trace := by
  induction ts generalizing w with
  | nil => exact ⟨TraceSub.refl _, fun _ h => (by cases h)⟩
  | cons t rest ih =>
    cases hf : (full t w).1 with
    | none =>
      rw [runPool_cons_of_none hf] at hn ⊢
      obtain ⟨hs, hp⟩ := ih _ hn
      refine ⟨(hfull t w).1.trans hs, ?_⟩
      intro t' ht' p hpp
      rcases List.mem_cons.mp ht' with rfl | ht'
      · exact hs p ((hfull t' w).2 hf p hpp)
      · exact hp t' ht' p hpp
    | some e => rw [runPool_cons_of_some hf] at hn; cases hn

end pool

theorem handler_snd (amb : Option Exc) (id : Nat) (body : World → Option Exc × World) (w : World) :
    (handler amb id body w).2 = release id (body w).2 := by
  unfold handler
  dsimp only
  split
  · rfl
  · split <;> rfl

theorem handler_fst (amb : Option Exc) (id : Nat) (body : World → Option Exc × World) (w : World) :
    (handler amb id body w).1 =
      match (body w).1 with
      | some e => some (.wrapped e)
      | none => amb.map .wrapped := by
  unfold handler
  dsimp only
  split
  · rename_i h; rw [h]
  · rename_i h; rw [h]; split <;> rfl

theorem handler_fst_none (amb : Option Exc) (id : Nat) (body : World → Option Exc × World) (w : World) :
    (handler amb id body w).1 = none ↔ (body w).1 = none ∧ amb = none := by
  rw [handler_fst]
  rcases (body w).1 with _ | e
  · cases amb
    · exact ⟨fun _ => ⟨rfl, rfl⟩, fun _ => rfl⟩
    · exact ⟨fun h => (by cases h), fun h => (by cases h.2)⟩
  · exact ⟨fun h => (by cases h), fun h => (by cases h.1)⟩

/-- leaving the `with SharedMemoryManager()` block removes exactly what the body allocated -/
theorem handler_live (amb : Option Exc) (id : Nat) (body : World → Option Exc × World) (w : World)
    (hbody : LiveExt (some id) w (body w).2) (hw : ∀ s ∈ w.live, s.mgr ≠ some id) :
    (handler amb id body w).2.live = w.live := by
  obtain ⟨l, hl, ho⟩ := hbody
  have h1 : w.live.filter (fun s => s.mgr != some id) = w.live :=
    List.filter_eq_self.mpr fun s hs => bne_iff_ne.mpr (hw s hs)
  have h2 : l.filter (fun s => s.mgr != some id) = [] :=
    List.filter_eq_nil_iff.mpr fun s hs => by rw [ho s hs, bne_self_eq_false]; exact Bool.false_ne_true
  rw [handler_snd, release, hl, List.filter_append, h1, h2, List.append_nil]

theorem handler_trace (amb : Option Exc) (id : Nat) (body : World → Option Exc × World) (w : World) :
    (handler amb id body w).2.trace = (body w).2.trace := by
  rw [handler_snd]; rfl

theorem handler_some {amb : Option Exc} {id : Nat} {body : World → Option Exc × World} {w : World} {e : Exc}
    (h : (handler amb id body w).1 = some e) :
    (∃ e0, (body w).1 = some e0 ∧ e = .wrapped e0) ∨ ((body w).1 = none ∧ ∃ a, amb = some a ∧ e = .wrapped a) := by
  rw [handler_fst] at h
  generalize (body w).1 = o at h ⊢
  rcases o with _ | e0
  · cases amb with
    | none => cases h
    | some a => exact Or.inr ⟨rfl, a, rfl, (Option.some.inj h).symm⟩
  · exact Or.inl ⟨e0, rfl, (Option.some.inj h).symm⟩

theorem mem_map_add_range (lo hi g : Nat) : g ∈ (List.range (hi - lo)).map (· + lo) ↔ lo ≤ g ∧ g < hi := by
  rw [List.mem_map]
  constructor
  · rintro ⟨i, hi', rfl⟩
    exact ⟨Nat.le_add_left lo i, Nat.add_lt_of_lt_sub (List.mem_range.mp hi')⟩
  · rintro ⟨h1, h2⟩
    exact ⟨g - lo, List.mem_range.mpr (Nat.sub_lt_sub_right h1 h2), Nat.sub_add_cancel h1⟩

theorem mem_chunk (R n j g : Nat) :
    g ∈ chunk R n j ↔ j * (R / n) ≤ g ∧ g < (if j + 1 = n then R else j * (R / n) + R / n) :=
  mem_map_add_range _ _ g

theorem mem_chunk_of_ne {R n j : Nat} (h : j + 1 ≠ n) (g : Nat) :
    g ∈ chunk R n j ↔ j * (R / n) ≤ g ∧ g < j * (R / n) + R / n := by
  rw [mem_chunk, if_neg h]

theorem mem_chunk_last {R n : Nat} (hn : 1 ≤ n) (g : Nat) :
    g ∈ chunk R n (n - 1) ↔ (n - 1) * (R / n) ≤ g ∧ g < R := by
  rw [mem_chunk, if_pos (Nat.sub_add_cancel hn)]

/-- `_split_rotations_on_jobs` (modelled on lists as `Pm.C02.splitRotations`, on indices here) loses no rotation: every
rotation index is in the chunk of some job -/
theorem chunk_cover (R n g : Nat) (hn : 1 ≤ n) (hg : g < R) : ∃ j < n, g ∈ chunk R n j := by
  by_cases hlt : g < (n - 1) * (R / n)
  · -- below the last chunk, `g` is in chunk number `g / (R / n)`
    have hpos : 0 < R / n := Nat.pos_of_ne_zero fun h0 => by rw [h0] at hlt; exact Nat.not_lt_zero _ hlt
    have hj : g / (R / n) < n - 1 := Nat.div_lt_of_lt_mul (by rw [Nat.mul_comm]; exact hlt)
    exact ⟨g / (R / n), Nat.lt_of_lt_of_le hj (Nat.sub_le n 1),
      (mem_chunk_of_ne (Nat.ne_of_lt (Nat.add_lt_of_lt_sub hj)) g).mpr
        ⟨Nat.div_mul_le_self g _, Nat.lt_div_mul_add hpos⟩⟩
  · exact ⟨n - 1, Nat.sub_lt hn Nat.one_pos, (mem_chunk_last hn g).mpr ⟨Nat.le_of_not_lt hlt, hg⟩⟩

/-- an index in chunk `i` is in no later chunk: chunk `i` ends where chunk `i + 1` begins -/
theorem not_mem_chunk_of_lt {R n i j g : Nat} (hij : i < j) (hj : j < n) (hi : g ∈ chunk R n i) :
    g ∉ chunk R n j := fun hjm =>
  have h1 : g < i * (R / n) + R / n :=
    ((mem_chunk_of_ne (Nat.ne_of_lt (Nat.lt_of_le_of_lt hij hj)) g).mp hi).2
  have h2 : (i + 1) * (R / n) ≤ j * (R / n) := Nat.mul_le_mul_right _ hij
  Nat.lt_irrefl g (Nat.lt_of_lt_of_le h1 (Nat.le_trans (Nat.succ_mul i _ ▸ h2) ((mem_chunk R n j g).mp hjm).1))

/-- and no rotation is scored twice -/
theorem chunk_disjoint (R n i j g : Nat) (hi : i < n) (hj : j < n) (h1 : g ∈ chunk R n i)
    (h2 : g ∈ chunk R n j) : i = j := by
  rcases Nat.lt_trichotomy i j with h | h | h
  · exact absurd h2 (not_mem_chunk_of_lt h hj h1)
  · exact h
  · exact absurd h1 (not_mem_chunk_of_lt h hi h2)

theorem enumFrom_map_snd {α : Type} (n : Nat) (l : List α) : (enumFrom n l).map (·.2) = l := by
  induction l generalizing n with
  | nil => rfl
  | cons x xs ih => rw [enumFrom, List.map_cons, ih]

theorem mem_enumFrom_snd {α : Type} (n : Nat) (l : List α) (p : Nat × α) (h : p ∈ enumFrom n l) : p.2 ∈ l := by
  rw [← enumFrom_map_snd n l]; exact List.mem_map_of_mem h

def BodyOK (cfg : Cfg) (plan : Plan) (t : Nat) : Prop :=
  StepsOK plan (preSteps cfg t) ∧ cfg.inner ≠ 0 ∧ (∀ j ∈ jobsOf cfg t, StepsOK plan j.2) ∧
    StepsOK plan (postSteps cfg t)

theorem scanBody_fst_none (cfg : Cfg) (plan : Plan) (ts : TileSched) (t : Nat) (w : World) :
    (scanBody cfg plan ts t w).1 = none ↔ BodyOK cfg plan t := by
  rw [scanBody_eq, andThen_fst_none, execSteps_fst_none, BodyOK]
  refine and_congr_right fun _ => ?_
  by_cases hi : cfg.inner = 0
  · rw [if_pos hi]
    exact ⟨fun h => (by cases h), fun h => absurd hi h.1⟩
  · rw [if_neg hi, andThen_fst_none, execSteps_fst_none,
      runPool_fst_none _ _ _ (fun j => StepsOK plan j.2) (fun j w => execSteps_fst_none plan (some t) j.2 w),
      forall_mem_poolOrder]
    exact (and_iff_right hi).symm

theorem jobFull_fst_none (plan : Plan) (t : Nat) (j : Nat × List Step) (w : World) :
    (jobFull plan t j w).1 = none ↔ (j.2.any (·.bad plan)) = false := by
  rw [jobFull, execSteps_fst_none, List.any_eq_false]
  exact forall₂_congr fun _ _ => by rw [Bool.not_eq_true]

theorem mem_flatSteps {cfg : Cfg} {t : Nat} {s : Step} :
    s ∈ flatSteps cfg t ↔ s ∈ preSteps cfg t ∨ (∃ j ∈ jobsOf cfg t, s ∈ j.2) ∨ s ∈ postSteps cfg t := by
  rw [flatSteps, List.mem_append, List.mem_append, List.mem_flatMap, or_assoc]

theorem forall_mem_flatSteps {cfg : Cfg} {t : Nat} {P : Step → Prop} :
    (∀ s ∈ flatSteps cfg t, P s) ↔
      (∀ s ∈ preSteps cfg t, P s) ∧ (∀ j ∈ jobsOf cfg t, ∀ s ∈ j.2, P s) ∧ ∀ s ∈ postSteps cfg t, P s := by
  rw [flatSteps, List.forall_mem_append, List.forall_mem_append, List.forall_mem_flatMap, and_assoc]

theorem mem_jobsOf (cfg : Cfg) (t : Nat) (j : Nat × List Step) (h : j ∈ jobsOf cfg t) :
    ∃ i < cfg.inner, j.2 = jobSteps cfg t i := by
  obtain ⟨i, hi, he⟩ := List.mem_map.mp (mem_enumFrom_snd _ _ _ h)
  exact ⟨i, List.mem_range.mp hi, he.symm⟩

theorem jobsOf_mem (cfg : Cfg) (t i : Nat) (hi : i < cfg.inner) : ∃ j ∈ jobsOf cfg t, j.2 = jobSteps cfg t i := by
  have h : jobSteps cfg t i ∈ (jobsOf cfg t).map (·.2) := by
    rw [jobsOf, enumFrom_map_snd]; exact List.mem_map.mpr ⟨i, List.mem_range.mpr hi, rfl⟩
  exact List.mem_map.mp h

theorem bodyOK_iff (cfg : Cfg) (plan : Plan) (t : Nat) :
    BodyOK cfg plan t ↔ cfg.inner ≠ 0 ∧ StepsOK plan (flatSteps cfg t) := by
  unfold BodyOK StepsOK
  rw [forall_mem_flatSteps]
  exact and_left_comm

/-- the only kinds of steps a `scan` consists of -/
def Step.plain (c : Bool) (s : Step) : Prop := (∃ p, s = .point p) ∨ (∃ n, s = .alloc n) ∨ s = .write c

theorem plain_point (c : Bool) (p : Pos) : (Step.point p).plain c := Or.inl ⟨p, rfl⟩

theorem allocSteps_plain (c : Bool) (t k0 n : Nat) : ∀ s ∈ allocSteps t k0 n, s.plain c :=
  List.forall_mem_flatMap.mpr fun _ _ =>
    List.forall_mem_cons.mpr ⟨plain_point c _, List.forall_mem_singleton.mpr (Or.inr (Or.inl ⟨_, rfl⟩))⟩

theorem plain_of_mem_ite {c : Bool} {b : Bool} {l : List Step} (hl : ∀ s ∈ l, s.plain c) :
    ∀ s ∈ (if b = true then l else []), s.plain c := by
  split
  · exact hl
  · exact List.forall_mem_nil _

theorem filterSteps_plain (cfg : Cfg) (t : Nat) : ∀ s ∈ filterSteps cfg t, s.plain cfg.copies :=
  List.forall_mem_append.mpr
    ⟨plain_of_mem_ite (List.forall_mem_singleton.mpr (plain_point _ _)),
      plain_of_mem_ite (List.forall_mem_singleton.mpr (plain_point _ _))⟩

theorem preSteps_plain (cfg : Cfg) (t : Nat) : ∀ s ∈ preSteps cfg t, s.plain cfg.copies := by
  refine List.forall_mem_append.mpr ⟨List.forall_mem_append.mpr ⟨?_, List.forall_mem_append.mpr
    ⟨List.forall_mem_append.mpr ⟨?_, ?_⟩, ?_⟩⟩, plain_of_mem_ite (List.forall_mem_flatMap.mpr fun k _ => ?_)⟩
  · -- `to_backend` and the user's filters
    exact List.forall_mem_cons.mpr ⟨plain_point _ _, filterSteps_plain cfg t⟩
  · -- entry of the setup function and its write into the (copied) arrays
    exact List.forall_mem_cons.mpr ⟨plain_point _ _, List.forall_mem_singleton.mpr (Or.inr (Or.inr rfl))⟩
  · exact allocSteps_plain _ _ _ _
  · -- end of the setup function, the template filter's segment
    exact List.forall_mem_cons.mpr ⟨plain_point _ _, allocSteps_plain _ _ _ _⟩
  · -- one analyzer instance
    exact List.forall_mem_cons.mpr ⟨plain_point _ _, allocSteps_plain _ _ _ _⟩

theorem jobSteps_plain (cfg : Cfg) (t j : Nat) : ∀ s ∈ jobSteps cfg t j, s.plain cfg.copies :=
  List.forall_mem_cons.mpr ⟨plain_point _ _, List.forall_mem_flatMap.mpr fun _ _ =>
    List.forall_mem_cons.mpr ⟨plain_point _ _, plain_of_mem_ite (List.forall_mem_singleton.mpr (plain_point _ _))⟩⟩

theorem postSteps_plain (cfg : Cfg) (t : Nat) : ∀ s ∈ postSteps cfg t, s.plain cfg.copies :=
  plain_of_mem_ite (List.forall_mem_append.mpr
    ⟨List.forall_mem_flatMap.mpr fun _ _ => List.forall_mem_append.mpr
        ⟨List.forall_mem_cons.mpr ⟨plain_point _ _, allocSteps_plain _ _ _ _⟩,
          List.forall_mem_singleton.mpr (plain_point _ _)⟩,
      List.forall_mem_singleton.mpr (plain_point _ _)⟩)

theorem flatSteps_plain (cfg : Cfg) (t : Nat) : ∀ s ∈ flatSteps cfg t, s.plain cfg.copies :=
  forall_mem_flatSteps.mpr ⟨preSteps_plain cfg t, fun j hj => by
    obtain ⟨i, _, he⟩ := mem_jobsOf cfg t j hj
    rw [he]; exact jobSteps_plain cfg t i, postSteps_plain cfg t⟩

theorem flatSteps_nofail (cfg : Cfg) (t : Nat) : ∀ s ∈ flatSteps cfg t, ∀ e, s ≠ .fail e := by
  intro s hs e he
  subst he
  rcases flatSteps_plain cfg t _ hs with ⟨p, h⟩ | ⟨n, h⟩ | h <;> cases h

theorem flatSteps_touches (cfg : Cfg) (t : Nat) (hc : cfg.copies = true) :
    ∀ s ∈ flatSteps cfg t, s.touches = false := by
  intro s hs
  rcases flatSteps_plain cfg t _ hs with ⟨p, rfl⟩ | ⟨n, rfl⟩ | rfl
  · rfl
  · rfl
  · rw [hc]; rfl

theorem stepsOK_of_no_planned_point (plan : Plan) (ss : List Step) (hnf : ∀ s ∈ ss, ∀ e, s ≠ .fail e)
    (h : ∀ p ∈ plan, p ∉ ptsOf ss) : StepsOK plan ss := by
  intro s hs
  cases s with
  | point p =>
    exact Bool.eq_false_iff.mpr fun hc => h p (List.contains_iff_mem.mp hc) (mem_ptsOf.mpr hs)
  | fail e => exact absurd rfl (hnf _ hs e)
  | _ => rfl

theorem bad_mono (plan plan' : Plan) (h : ∀ p ∈ plan, p ∈ plan') (s : Step) (hb : s.bad plan' = false) :
    s.bad plan = false := by
  cases s with
  | point p => exact (bad_point plan p).mpr fun hm => (bad_point plan' p).mp hb (h p hm)
  | fail e => exact hb
  | _ => rfl

theorem stepsOK_mono (plan plan' : Plan) (h : ∀ p ∈ plan, p ∈ plan') (ss : List Step)
    (hs : StepsOK plan' ss) : StepsOK plan ss :=
  fun s m => bad_mono plan plan' h s (hs s m)

theorem bodyOK_mono (cfg : Cfg) (plan plan' : Plan) (t : Nat) (h : ∀ p ∈ plan, p ∈ plan')
    (hb : BodyOK cfg plan' t) : BodyOK cfg plan t :=
  ⟨stepsOK_mono plan plan' h _ hb.1, hb.2.1, fun j hj => stepsOK_mono plan plan' h _ (hb.2.2.1 j hj),
    stepsOK_mono plan plan' h _ hb.2.2.2⟩

/-- jobs, complete or killed in flight, run only steps of the sequentialised listing -/
theorem scanBody_inv (cfg : Cfg) (plan : Plan) (ts : TileSched) (t : Nat) (I : World → Prop)
    (hstep : ∀ s ∈ flatSteps cfg t, ∀ w, I w → I (step plan (some t) s w).2) (w : World) (hw : I w) :
    I (scanBody cfg plan ts t w).2 := by
  obtain ⟨h1, h2, h3⟩ := forall_mem_flatSteps.mp hstep
  have hpre := execSteps_inv plan (some t) I _ h1 w hw
  rw [scanBody_eq]
  refine andThen_inv I hpre fun _ => ?_
  split
  · exact hpre
  · have hpool := runPool_inv (jobFull plan t) (jobPart plan t ts) cfg.inner I
      (poolOrder cfg.inner ts.picks (jobsOf cfg t))
      (forall_mem_poolOrder.mpr fun j hj => execSteps_inv plan (some t) I _ (h2 j hj))
      (Or.inr (forall_mem_poolOrder.mpr fun j hj => execSteps_inv plan (some t) I _ fun s hs =>
        h2 j hj s (List.mem_of_mem_take hs))) _ hpre
    exact andThen_inv I hpool fun _ => execSteps_inv plan (some t) I _ h3 _ hpool

theorem scanBody_liveExt (cfg : Cfg) (plan : Plan) (ts : TileSched) (t : Nat) (w : World) :
    LiveExt (some t) w (scanBody cfg plan ts t w).2 :=
  scanBody_inv cfg plan ts t (LiveExt (some t) w) (fun s _ w' h => h.trans (step_liveExt plan (some t) s w')) w
    (LiveExt.refl _ w)

theorem scanBody_traceSub (cfg : Cfg) (plan : Plan) (ts : TileSched) (t : Nat) (w : World) :
    TraceSub w (scanBody cfg plan ts t w).2 :=
  scanBody_inv cfg plan ts t (TraceSub w) (fun s _ w' h => h.trans (step_traceSub plan (some t) s w')) w
    (TraceSub.refl w)

theorem scanBody_trace_of_none (cfg : Cfg) (plan : Plan) (ts : TileSched) (t : Nat) (w : World)
    (h : (scanBody cfg plan ts t w).1 = none) :
    ∀ p ∈ ptsOf (flatSteps cfg t), p ∈ (scanBody cfg plan ts t w).2.trace := by
  rw [scanBody_eq] at h ⊢
  refine andThen_inv_of_none (fun w' => ∀ p ∈ ptsOf (flatSteps cfg t), p ∈ w'.trace) h fun hpre h => ?_
  have hi : ¬ cfg.inner = 0 := fun hi => by rw [if_pos hi] at h; cases h
  rw [if_neg hi] at h ⊢
  refine andThen_inv_of_none (fun w' => ∀ p ∈ ptsOf (flatSteps cfg t), p ∈ w'.trace) h fun hpool hpost => ?_
  obtain ⟨hsub, hjobs⟩ := runPool_trace_of_none (jobFull plan t) (jobPart plan t ts) cfg.inner (fun j => ptsOf j.2)
    (fun j w' => ⟨execSteps_traceSub plan (some t) j.2 w', fun hn p hp => by
      rw [jobFull, execSteps_trace_of_none hn]; exact List.mem_append_right _ hp⟩) _ _ hpool
  intro p hp
  rcases mem_flatSteps.mp (mem_ptsOf.mp hp) with hs | ⟨j, hj, hs⟩ | hs
  · refine execSteps_traceSub _ _ _ _ p (hsub p ?_)
    rw [execSteps_trace_of_none hpre]; exact List.mem_append_right _ (mem_ptsOf.mpr hs)
  · exact execSteps_traceSub _ _ _ _ p (hjobs j (poolOrder_mem.mpr hj) p (mem_ptsOf.mpr hs))
  · rw [execSteps_trace_of_none hpost]; exact List.mem_append_right _ (mem_ptsOf.mpr hs)

theorem fault_of_flatSteps {cfg : Cfg} {plan : Plan} {mgr : Option Nat} {t : Nat} {ss : List Step} {w : World} {e : Exc}
    (hss : ∀ s ∈ ss, s ∈ flatSteps cfg t) (h : (execSteps plan mgr ss w).1 = some e) :
    ∃ p ∈ plan, p ∈ ptsOf (flatSteps cfg t) ∧ e = .fault p := by
  rcases execSteps_some h with ⟨p, hps, hpl, he⟩ | hf
  · exact ⟨p, hpl, mem_ptsOf.mpr (hss _ hps), he⟩
  · exact absurd rfl (flatSteps_nofail cfg t _ (hss _ hf) e)

theorem scanBody_some (cfg : Cfg) (plan : Plan) (ts : TileSched) (t : Nat) (w : World) (e0 : Exc)
    (hb : (scanBody cfg plan ts t w).1 = some e0) :
    (∃ p ∈ plan, p ∈ ptsOf (flatSteps cfg t) ∧ e0 = .fault p) ∨ e0 = .badArg := by
  obtain ⟨h1, h2, h3⟩ := forall_mem_flatSteps.mp fun s (hs : s ∈ flatSteps cfg t) => hs
  rw [scanBody_eq] at hb
  rcases andThen_some hb with h | ⟨_, h⟩
  · exact Or.inl (fault_of_flatSteps h1 h)
  · split at h
    · exact Or.inr (Option.some.inj h).symm
    · rcases andThen_some h with h | ⟨_, h⟩
      · obtain ⟨j, hj, w0, hj0⟩ := runPool_some _ _ _ _ _ _ h
        exact Or.inl (fault_of_flatSteps (h2 j (poolOrder_mem.mp hj)) hj0)
      · exact Or.inl (fault_of_flatSteps h3 h)

theorem handled_scan_some {cfg : Cfg} {plan : Plan} {amb : Option Exc} {ts : TileSched} {t : Nat} {w : World} {e : Exc}
    (h : (handler amb t (scanBody cfg plan ts t) w).1 = some e) :
    ∃ e0, e = .wrapped e0 ∧
      ((∃ p ∈ plan, p ∈ ptsOf (flatSteps cfg t) ∧ e0 = .fault p) ∨ e0 = .badArg ∨ amb = some e0) := by
  rcases handler_some h with ⟨e0, hb, rfl⟩ | ⟨_, a, ha, rfl⟩
  · exact ⟨e0, rfl, (scanBody_some cfg plan ts t w e0 hb).imp_right Or.inl⟩
  · exact ⟨a, rfl, Or.inr (Or.inr ha)⟩

def TileOK (cfg : Cfg) (plan : Plan) (amb : Option Exc) (t : Nat) : Prop :=
  (⟨.subset, t, 0⟩ : Pos) ∉ plan ∧ BodyOK cfg plan t ∧ ambientFor cfg amb = none

theorem TileOK.inner_ne_zero {cfg : Cfg} {plan : Plan} {amb : Option Exc} {t : Nat} (h : TileOK cfg plan amb t) :
    cfg.inner ≠ 0 := h.2.1.2.1

theorem ambientFor_some {cfg : Cfg} {amb : Option Exc} {a : Exc} (h : ambientFor cfg amb = some a) : amb = some a := by
  unfold ambientFor at h
  split at h
  · exact h
  · cases h

theorem ambientFor_none (cfg : Cfg) : ambientFor cfg none = none := by
  unfold ambientFor; split <;> rfl

theorem tileFull_fst_none (cfg : Cfg) (plan : Plan) (amb : Option Exc) (sch : Sched) (t : Nat) (w : World) :
    (tileFull cfg plan amb sch t w).1 = none ↔ TileOK cfg plan amb t := by
  rw [tileFull_eq, andThen_fst_none, step_fst_none, bad_point, handler_fst_none, scanBody_fst_none, TileOK]

theorem tileOK_mono (cfg : Cfg) (plan plan' : Plan) (amb : Option Exc) (t : Nat) (h : ∀ p ∈ plan, p ∈ plan')
    (ht : TileOK cfg plan' amb t) : TileOK cfg plan amb t :=
  ⟨fun hm => ht.1 (h _ hm), bodyOK_mono cfg plan plan' t h ht.2.1, ht.2.2⟩

theorem mem_allPoints (cfg : Cfg) (p : Pos) :
    p ∈ allPoints cfg ↔
      (∃ t < cfg.ntiles, p = ⟨.subset, t, 0⟩ ∨ p ∈ ptsOf (flatSteps cfg t)) ∨ p ∈ ptsOf (outerPost cfg) := by
  unfold allPoints
  simp only [List.mem_append, List.mem_flatMap, List.mem_range, List.mem_cons]

theorem point_of_flatSteps {cfg : Cfg} {t : Nat} (ht : t < cfg.ntiles) {p : Pos}
    (h : Step.point p ∈ flatSteps cfg t) : p ∈ allPoints cfg :=
  (mem_allPoints cfg p).mpr (Or.inl ⟨t, ht, Or.inr (mem_ptsOf.mpr h)⟩)

theorem alloc_mem_allocSteps (t k0 n i : Nat) (hi : i < n) : Step.point ⟨.alloc, t, k0 + i⟩ ∈ allocSteps t k0 n :=
  List.mem_flatMap.mpr ⟨i, List.mem_range.mpr hi, List.mem_cons_self⟩

theorem outerPost_point (cfg : Cfg) : ∀ s ∈ outerPost cfg, s = .point ⟨.outerMerge, 0, 0⟩ := by
  intro s hs
  unfold outerPost at hs
  split at hs
  · exact List.mem_singleton.mp hs
  · cases hs

theorem handled_scan_inv (cfg : Cfg) (plan : Plan) (amb : Option Exc) (ts : TileSched) (t : Nat) (I : World → Prop)
    (hstep : ∀ s ∈ flatSteps cfg t, ∀ w, I w → I (step plan (some t) s w).2)
    (hrel : ∀ w, I w → I (release t w)) (w : World) (hw : I w) :
    I (handler amb t (scanBody cfg plan ts t) w).2 := by
  rw [handler_snd]
  exact hrel _ (scanBody_inv cfg plan ts t I hstep w hw)

theorem tileFull_inv (cfg : Cfg) (plan : Plan) (amb : Option Exc) (sch : Sched) (t : Nat) (I : World → Prop)
    (hpar : ∀ p w, I w → I (step plan none (.point p) w).2)
    (hstep : ∀ s ∈ flatSteps cfg t, ∀ w, I w → I (step plan (some t) s w).2)
    (hrel : ∀ w, I w → I (release t w)) (w : World) (hw : I w) : I (tileFull cfg plan amb sch t w).2 := by
  rw [tileFull_eq]
  exact andThen_inv I (hpar _ w hw) fun _ => handled_scan_inv cfg plan _ _ t I hstep hrel _ (hpar _ w hw)

theorem tilePart_inv (cfg : Cfg) (plan : Plan) (amb : Option Exc) (pol : Policy) (sch : Sched) (t : Nat)
    (I : World → Prop) (hpar : ∀ p w, I w → I (step plan none (.point p) w).2)
    (hstep : ∀ s ∈ flatSteps cfg t, ∀ w, I w → I (step plan (some t) s w).2)
    (hrel : ∀ w, I w → I (release t w)) (w : World) (hw : I w) : I (tilePart cfg plan amb pol sch t w) := by
  cases pol with
  | drain => exact tileFull_inv cfg plan amb sch t I hpar hstep hrel w hw
  | kill =>
    have h2 := execSteps_inv plan (some t) I ((flatSteps cfg t).take (sch.progress.getD t {}).steps)
      (fun s hs => hstep s (List.mem_of_mem_take hs)) _ (hpar ⟨.subset, t, 0⟩ w hw)
    unfold tilePart
    dsimp only
    rw [execSteps_singleton]
    split
    · exact hrel _ h2
    · exact h2

theorem scanSubsets_inv_of_tiles (cfg : Cfg) (plan : Plan) (amb : Option Exc) (pol : Policy) (sch : Sched)
    (I : World → Prop) (hfull : ∀ t w, I w → I (tileFull cfg plan amb sch t w).2)
    (hpart : inFlight cfg.outer = 0 ∨ ∀ t w, I w → I (tilePart cfg plan amb pol sch t w))
    (hpost : ∀ w, I w → I (execSteps plan none (outerPost cfg) w).2) (w : World) (hw : I w) :
    I (scanSubsets cfg plan amb pol sch w).2 := by
  rw [scanSubsets_eq]
  split
  · exact hw
  · have hpool := runPool_inv (tileFull cfg plan amb sch) (tilePart cfg plan amb pol sch) cfg.outer I
      (poolOrder cfg.outer sch.outerPicks (List.range cfg.ntiles)) (fun t _ => hfull t)
      (hpart.imp_right fun h t _ => h t) w hw
    exact andThen_inv I hpool fun _ => hpost _ hpool

theorem scanSubsets_inv (cfg : Cfg) (plan : Plan) (amb : Option Exc) (pol : Policy) (sch : Sched) (I : World → Prop)
    (hpar : ∀ p w, I w → I (step plan none (.point p) w).2)
    (hstep : ∀ t, ∀ s ∈ flatSteps cfg t, ∀ w, I w → I (step plan (some t) s w).2)
    (hrel : ∀ t w, I w → I (release t w)) (w : World) (hw : I w) : I (scanSubsets cfg plan amb pol sch w).2 :=
  scanSubsets_inv_of_tiles cfg plan amb pol sch I
    (fun t => tileFull_inv cfg plan amb sch t I hpar (hstep t) (hrel t))
    (Or.inr fun t => tilePart_inv cfg plan amb pol sch t I hpar (hstep t) (hrel t))
    (execSteps_inv plan none I _ fun s hs => by rw [outerPost_point cfg s hs]; exact hpar _) w hw

theorem tileFull_trace (cfg : Cfg) (plan : Plan) (amb : Option Exc) (sch : Sched) (t : Nat) (w : World) :
    TraceSub w (tileFull cfg plan amb sch t w).2 ∧
      ((tileFull cfg plan amb sch t w).1 = none →
        ∀ p ∈ (⟨.subset, t, 0⟩ : Pos) :: ptsOf (flatSteps cfg t), p ∈ (tileFull cfg plan amb sch t w).2.trace) := by
  refine ⟨tileFull_inv cfg plan amb sch t (TraceSub w) (fun _ w' h => h.trans (step_traceSub plan none _ w'))
    (fun s _ w' h => h.trans (step_traceSub plan (some t) s w')) (fun w' h => h) w (TraceSub.refl w), ?_⟩
  intro hn
  rw [tileFull_eq] at hn ⊢
  refine andThen_inv_of_none (fun w' => ∀ p ∈ (⟨.subset, t, 0⟩ : Pos) :: ptsOf (flatSteps cfg t), p ∈ w'.trace) hn
    fun _ hn p hp => ?_
  rw [handler_trace]
  rcases List.mem_cons.mp hp with rfl | hp
  · apply scanBody_traceSub
    rw [step_trace]; exact List.mem_append_right _ List.mem_cons_self
  · exact scanBody_trace_of_none cfg plan _ t _ ((handler_fst_none _ _ _ _).mp hn).1 p hp

theorem outerPost_live (cfg : Cfg) (plan : Plan) (w : World) :
    (execSteps plan none (outerPost cfg) w).2.live = w.live :=
  execSteps_live_noalloc plan none _ w fun s hs n => by rw [outerPost_point cfg s hs]; exact fun h => nomatch h
/-- a complete tile hands back the ledger it found, as long as that held no tracked segment: its manager releases what its
`scan` allocated -/
theorem tileFull_keeps_live (cfg : Cfg) (plan : Plan) (amb : Option Exc) (sch : Sched) {w : World}
    (hw : ∀ s ∈ w.live, s.mgr = none) (t : Nat) (w' : World) (hw' : w'.live = w.live) :
    (tileFull cfg plan amb sch t w').2.live = w.live := by
  have hl := (step_live plan none (.point ⟨.subset, t, 0⟩) w' (fun n h => nomatch h)).trans hw'
  rw [tileFull_eq]
  refine andThen_inv (fun w'' => w''.live = w.live) hl fun _ => ?_
  rw [handler_live _ _ _ _ (scanBody_liveExt cfg plan _ t _), hl]
  intro s hs
  rw [hl] at hs; rw [hw s hs]; exact fun h => nomatch h

end Pm.C16
