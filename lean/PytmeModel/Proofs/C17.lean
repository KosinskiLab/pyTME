import PytmeModel.Model.C17
import Mathlib.Tactic.Ring
import Mathlib.Tactic.Linarith
import Mathlib.Algebra.QuadraticDiscriminant

/-! Helper definitions (contracts of the numerical kernels, state invariants) and lemmas for
`Props/C17.lean`. -/
namespace Pm.C17

theorem writeOut_full {α : Type} (buf vals : List α) (h : vals.length = buf.length) :
    writeOut buf vals = vals := by
  unfold writeOut
  rw [List.drop_of_length_le (by omega)]
  simp

theorem fillWith_length {α : Type} (buf : List α) (v : α) : (fillWith buf v).length = buf.length := by
  simp [fillWith]

theorem pySlice_inside (n a b : Nat) (hab : a ≤ b) (hbn : b ≤ n) : pySlice n a b = (a, b) := by
  have ha : ¬ (a : Int) < 0 := by omega
  have hb : ¬ (b : Int) < 0 := by omega
  simp only [pySlice, ha, hb, if_false, Int.toNat_natCast, Nat.min_eq_left (hab.trans hbn),
    Nat.min_eq_left hbn, Nat.max_eq_right hab]

theorem sliceLen_inside (n : Nat) (s e : Int) (h0 : 0 ≤ s) (h1 : s ≤ e) (h2 : e ≤ n) :
    sliceLen n s e = (e - s).toNat := by
  obtain ⟨a, rfl⟩ := Int.eq_ofNat_of_zero_le h0
  obtain ⟨b, rfl⟩ := Int.eq_ofNat_of_zero_le (h0.trans h1)
  rw [sliceLen, pySlice_inside n a b (by omega) (by omega)]
  exact (Int.toNat_sub b a).symm

theorem sliceLen_same (n : Nat) (s : Int) : sliceLen n s s = 0 := by
  unfold sliceLen pySlice
  simp only
  omega

theorem flcWindow_eq (n N : Nat) (v : Int) :
    flcWindow n N v =
      ⟨min (max v 0) (N : Int) - v, max (min (v + n) (N : Int)) (min (max v 0) (N : Int)) - v,
       min (max v 0) (N : Int), max (min (v + n) (N : Int)) (min (max v 0) (N : Int))⟩ := by
  have e1 : v + ((n / 2 : Nat) : Int) - ((n / 2 : Nat) : Int) = v := add_sub_cancel_right _ _
  have e2 : v + ((n / 2 : Nat) : Int) + ((n : Int) - ((n / 2 : Nat) : Int)) = v + n := by ring
  simp only [flcWindow, e1, e2, Win.mk.injEq, and_true, true_and]
  ring

theorem flcWindow_of_overlap (n N : Nat) (v : Int) (h1 : -(n : Int) < v) (h2 : v < N) :
    flcWindow n N v = ⟨max v 0 - v, min (v + n) (N : Int) - v, max v 0, min (v + n) (N : Int)⟩ := by
  have hlo : min (max v 0) (N : Int) = max v 0 := min_eq_left (by omega)
  have hhi : max (min (v + n) (N : Int)) (max v 0) = min (v + n) (N : Int) := max_eq_left (by omega)
  rw [flcWindow_eq, hlo, hhi]

theorem flcWindow_of_disjoint (n N : Nat) (v : Int) (h : v ≤ -(n : Int) ∨ (N : Int) ≤ v) :
    flcWindow n N v = ⟨min (max v 0) (N : Int) - v, min (max v 0) (N : Int) - v,
      min (max v 0) (N : Int), min (max v 0) (N : Int)⟩ := by
  have hhi : max (min (v + n) (N : Int)) (min (max v 0) (N : Int)) = min (max v 0) (N : Int) :=
    max_eq_right (by omega)
  rw [flcWindow_eq, hhi]

/-- contract of the numerical kernels: `rigid_transform(..., out=)` produces one value per cell of
the buffer it writes -/
structure C2DContract {α β : Type} (S : C2DStatic α β) (n m : Nat) : Prop where
  rigid : ∀ x, (S.rigid x).length = n
  rigidMask : ∀ x, (S.rigidMask x).length = m

/-- invariant of a score object: buffer sizes fixed at construction; `self.denominator` is still
its initial value for the classes that never write it -/
structure C2DWf {α β : Type} (S : C2DStatic α β) (hasMask : Bool) (n m : Nat) (st : C2DState α) :
    Prop where
  rot : st.rotated.length = n
  mask : match st.maskRotated with
    | some mm => hasMask = true ∧ mm.length = m
    | none => hasMask = false
  den : S.kind ≠ .normalised → st.denominator = S.one

section
variable {α β : Type} {S : C2DStatic α β} {hasMask : Bool} {n m : Nat} {st : C2DState α}

theorem C2DWf.write_rotated (hw : C2DWf S hasMask n m st) (hc : C2DContract S n m) (x : List α) :
    writeOut st.rotated (S.rigid x) = S.rigid x :=
  writeOut_full _ _ (by rw [hc.rigid, hw.rot])

theorem C2DWf.write_mask (hw : C2DWf S hasMask n m st) (hc : C2DContract S n m) (x : List α) :
    st.maskRotated.map (fun mm => writeOut mm (S.rigidMask x)) =
      if hasMask then some (S.rigidMask x) else none := by
  have hm := hw.mask
  cases hmr : st.maskRotated with
  | none => rw [hmr] at hm; rw [hm]; rfl
  | some mm =>
    rw [hmr] at hm
    rw [Option.map_some, writeOut_full _ _ (by rw [hc.rigidMask, hm.2]), hm.1]; rfl

end

structure D2DContract {α β : Type} (S : D2DStatic α β) (L : Nat) : Prop where
  affine : ∀ x g, (S.affine x g).length = g.length
  interpT : ∀ p, (S.interpT p).length = L
  interpM : ∀ p, (S.interpM p).length = L
  normalize : ∀ t m, (S.normalize t m).length = t.length
  mask0 : S.mask0.length = L

/-- invariant: buffer sizes; an un-rotated mask buffer still holds the mask; a cached grid was
built for the template's shape and `grid_out` has its size -/
structure D2DWf {α β : Type} (S : D2DStatic α β) (L : Nat) (st : D2DState α) : Prop where
  tr : st.templateRot.length = L
  mr : st.maskRot.length = L
  mrConst : S.rotateMask = false → st.maskRot = S.mask0
  cache : ∀ pc g, st.cache = some (pc, g) →
    pc = centerOf S.shape ∧ g = S.mkGrid S.shape ∧ st.gridOut.length = g.length

/-- the grid handed to the interpolation is the template's grid, and `grid_out` is fully
overwritten -/
theorem gridFor_spec {α β : Type} (S : D2DStatic α β) (L : Nat) (st : D2DState α)
    (hw : D2DWf S L st) :
    (gridFor S st S.shape).1 = some (centerOf S.shape, S.mkGrid S.shape) ∧
      (gridFor S st S.shape).2.1 = S.mkGrid S.shape ∧
      (gridFor S st S.shape).2.2.length = (S.mkGrid S.shape).length := by
  unfold gridFor
  cases hcache : st.cache with
  | none => simp [fillWith]
  | some pg =>
    obtain ⟨pc, g⟩ := pg
    obtain ⟨h1, h2, h3⟩ := hw.cache pc g hcache
    simp only [h1, if_true]
    subst h2
    exact ⟨rfl, rfl, h3⟩

/-- under the invariant every `out=` write replaces its whole buffer, so a call returns the value of
a fresh object and leaves the object in a state that depends on the pose only -/
theorem d2dStep_eq {α β : Type} (S : D2DStatic α β) (L : Nat) (hc : D2DContract S L)
    (st : D2DState α) (hw : D2DWf S L st) (x : List α) :
    d2dStep S st x =
      (d2dPure S x,
       { cache := some (centerOf S.shape, S.mkGrid S.shape)
         gridOut := S.affine x (S.mkGrid S.shape)
         templateRot := S.normalize (S.interpT (S.affine x (S.mkGrid S.shape)))
           (if S.rotateMask then S.interpM (S.affine x (S.mkGrid S.shape)) else S.mask0)
         maskRot := if S.rotateMask then S.interpM (S.affine x (S.mkGrid S.shape)) else S.mask0
         wins := windows S.shape S.targetShape (S.voxel x) }) := by
  obtain ⟨g1, g2, g3⟩ := gridFor_spec S L st hw
  unfold d2dStep d2dPure
  generalize gridFor S st S.shape = gf at g1 g2 g3
  obtain ⟨cache, grid, go0⟩ := gf
  simp only at g1 g2 g3
  subst g1 g2
  simp only [writeOut_full go0 _ ((hc.affine x _).trans g3.symm),
    writeOut_full (fillWith st.templateRot S.zeroA) _
      ((hc.interpT _).trans ((fillWith_length _ _).trans hw.tr).symm)]
  cases hrm : S.rotateMask with
  | true =>
    simp only [if_true, writeOut_full (fillWith st.maskRot S.zeroA) _
      ((hc.interpM _).trans ((fillWith_length _ _).trans hw.mr).symm)]
  | false => simp only [Bool.false_eq_true, if_false, hw.mrConst hrm]

theorem length_of_ite_some {β : Type} {p : Prop} [Decidable p] {d : List β} {o : Option (List β)} {k : Nat}
    (hd : d.length = k) (ho : ∀ t, o = some t → t.length = k) (t : List β)
    (h : (if p then some d else o) = some t) : t.length = k := by
  split at h
  · cases h; exact hd
  · exact ho t h

theorem V3.eq_iff {α : Type} (p q : V3 α) : p = q ↔ p.x = q.x ∧ p.y = q.y ∧ p.z = q.z := by
  cases p; cases q; simp

def M3.transpose {α : Type} (A : M3 α) : M3 α :=
  ⟨A.a11, A.a21, A.a31, A.a12, A.a22, A.a32, A.a13, A.a23, A.a33⟩

section ring
variable {α : Type} [CommRing α]

theorem vsum_map_affine (R : M3 α) (t : V3 α) (l : List (V3 α)) :
    vsum 0 (l.map (fun q => V3.add (V3.mulM q R) t)) =
      V3.add (V3.mulM (vsum 0 l) R) (V3.smul (l.length : α) t) := by
  induction l with
  | nil => simp [vsum, V3.add, V3.mulM, V3.smul]
  | cons p ps ih =>
    simp only [List.map_cons, vsum, ih, List.length_cons, Nat.cast_add, Nat.cast_one]
    rw [V3.eq_iff]
    simp only [V3.add, V3.mulM, V3.smul]
    refine ⟨?_, ?_, ?_⟩ <;> ring

theorem vsum_map_mulV_sub (R : M3 α) (c : V3 α) (l : List (V3 α)) :
    vsum 0 (l.map (fun p => M3.mulV R (V3.sub p c))) =
      M3.mulV R (V3.sub (vsum 0 l) (V3.smul (l.length : α) c)) := by
  induction l with
  | nil => simp [vsum, V3.sub, M3.mulV, V3.smul]
  | cons p ps ih =>
    simp only [List.map_cons, vsum, ih, List.length_cons, Nat.cast_add, Nat.cast_one]
    rw [V3.eq_iff]
    simp only [V3.add, V3.sub, M3.mulV, V3.smul]
    refine ⟨?_, ?_, ?_⟩ <;> ring

theorem mulV_eq_mulM_transpose (R : M3 α) (p : V3 α) : M3.mulV R p = V3.mulM p (M3.transpose R) := by
  rw [V3.eq_iff]; simp only [M3.mulV, V3.mulM, M3.transpose]; refine ⟨?_, ?_, ?_⟩ <;> ring

theorem det_mul (A B : M3 α) : M3.det (M3.mul A B) = M3.det A * M3.det B := by
  simp only [M3.det, M3.mul]; ring

theorem det_negRow3 (A : M3 α) : M3.det (M3.negRow3 A) = - M3.det A := by
  simp only [M3.det, M3.negRow3]; ring

theorem sqDev_self (l : List (V3 α)) : sqDev 0 l l = 0 := by
  induction l with
  | nil => rfl
  | cons p ps ih => simp [sqDev, ih, V3.sub]

theorem plsq_self (v : List α) : plsq 0 v v = 0 := by
  induction v with
  | nil => rfl
  | cons a v ih => simp [plsq, ih]

end ring

section field
variable {α : Type} [Field α]

theorem plsq_scaled_expand : ∀ (v w : List α) (x : α), v.length = w.length →
    plsq 0 (v.map (· * x)) w = dot 0 v v * (x * x) + (-(2 * dot 0 v w)) * x + dot 0 w w
  | [], [], x, _ => by simp only [List.map_nil, plsq, dot]; ring
  | [], _ :: _, _, h => nomatch h
  | _ :: _, [], _, h => nomatch h
  | a :: v, b :: w, x, h => by
      simp only [List.map_cons, plsq, dot, plsq_scaled_expand v w x (Nat.succ.inj h)]
      ring

end field

section ordered
variable {α : Type} [CommRing α] [LinearOrder α] [IsStrictOrderedRing α]

theorem zero_le_plsq : ∀ (v w : List α), 0 ≤ plsq 0 v w
  | [], _ => le_rfl
  | _ :: _, [] => le_rfl
  | a :: v, b :: w => add_nonneg (mul_self_nonneg (a - b)) (zero_le_plsq v w)

end ordered

section cs
variable {α : Type} [Field α] [LinearOrder α] [IsStrictOrderedRing α]

theorem dot_sq_le (v w : List α) (h : v.length = w.length) :
    dot 0 v w ^ 2 ≤ dot 0 v v * dot 0 w w := by
  have hq : ∀ x : α, 0 ≤ dot 0 v v * (x * x) + (-(2 * dot 0 v w)) * x + dot 0 w w := by
    intro x
    rw [← plsq_scaled_expand v w x h]
    exact zero_le_plsq _ _
  have := discrim_le_zero hq
  unfold discrim at this
  linarith

end cs

end Pm.C17
