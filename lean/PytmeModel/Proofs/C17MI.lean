import PytmeModel.Proofs.C17Scores
import Mathlib.Data.List.Count
import Mathlib.Data.List.Zip
import Mathlib.Algebra.BigOperators.Group.List.Basic

/-! Helper lemmas for the MutualInformation theorems of `Props/C17.lean` (10 × 10 contingency table of
paired bin indices). -/
namespace Pm.C17

theorem count_swap (pairs : List (Nat × Nat)) (i j : Nat) :
    (pairs.map Prod.swap).count (i, j) = pairs.count (j, i) := by
  have : (i, j) = Prod.swap (j, i) := rfl
  rw [this, List.count_map_of_injective _ _ Prod.swap_injective]

theorem ite_sum_zero (a b j : Nat) : ∀ (l : List Nat), a ∉ l →
    (l.map (fun i => if (a, b) == (i, j) then 1 else 0)).sum = 0
  | [], _ => rfl
  | x :: l, h => by
      have hx : a ≠ x := fun e => h (e ▸ List.mem_cons_self)
      have hl : a ∉ l := fun e => h (List.mem_cons_of_mem _ e)
      simp only [List.map_cons, List.sum_cons, ite_sum_zero a b j l hl]
      simp [hx]

theorem ite_sum_le (a b j : Nat) : ∀ (l : List Nat), l.Nodup →
    (l.map (fun i => if (a, b) == (i, j) then 1 else 0)).sum ≤ if b = j then 1 else 0
  | [], _ => by simp
  | x :: l, h => by
      have hn := List.nodup_cons.mp h
      simp only [List.map_cons, List.sum_cons]
      by_cases hx : a = x
      · subst hx
        rw [ite_sum_zero a b j l hn.1]
        by_cases hb : b = j <;> simp [hb]
      · have := ite_sum_le a b j l hn.2
        have h0 : (if (a, b) == (x, j) then 1 else 0) = 0 := by simp [hx]
        omega

theorem colsum_le (l : List Nat) (hl : l.Nodup) (j : Nat) : ∀ (pairs : List (Nat × Nat)),
    (l.map (fun i => pairs.count (i, j))).sum ≤ (pairs.map (·.2)).count j
  | [] => by simp
  | (a, b) :: ps => by
      have ih := colsum_le l hl j ps
      have e : (l.map (fun i => ((a, b) :: ps).count (i, j))).sum =
          (l.map (fun i => ps.count (i, j))).sum + (l.map (fun i => if (a, b) == (i, j) then 1 else 0)).sum := by
        rw [← List.sum_map_add]
        apply congrArg
        apply List.map_congr_left
        intro i _
        rw [List.count_cons]
      have h2 := ite_sum_le a b j l hl
      have h3 : (if ((a, b).2 == j) then 1 else 0) = (if b = j then 1 else 0) := by simp
      rw [e, List.map_cons, List.count_cons, h3]
      omega

theorem count_zip_self (i j : Nat) : ∀ b : List Nat,
    (b.zip b).count (i, j) = if i = j then b.count i else 0
  | [] => by simp
  | a :: b => by
      rw [List.zip_cons_cons, List.count_cons, count_zip_self i j b, List.count_cons]
      by_cases hij : i = j
      · subst hij
        by_cases ha : a = i <;> simp [ha]
      · have : ¬ ((a, a) == (i, j)) = true := by
          simp only [beq_iff_eq, Prod.mk.injEq]; rintro ⟨h1, h2⟩; exact hij (h1 ▸ h2)
        simp [hij, this]

section
variable {α : Type} [Field α]

theorem sumL_eq_zero {ι : Type} (f : ι → α) : ∀ l : List ι, (∀ j ∈ l, f j = 0) → sumL 0 (l.map f) = 0
  | [], _ => rfl
  | a :: l, h => by
      rw [List.map_cons, sumL, h a List.mem_cons_self,
        sumL_eq_zero f l (fun j hj => h j (List.mem_cons_of_mem _ hj)), add_zero]

theorem sumL_map_add {ι : Type} (f g : ι → α) : ∀ l : List ι,
    sumL 0 (l.map (fun i => f i + g i)) = sumL 0 (l.map f) + sumL 0 (l.map g)
  | [] => by simp [sumL]
  | a :: l => by simp only [List.map_cons, sumL, sumL_map_add f g l]; ring

theorem sumL_swap {ι κ : Type} (f : ι → κ → α) (m : List κ) : ∀ (l : List ι),
    sumL 0 (l.map (fun i => sumL 0 (m.map (fun j => f i j)))) =
      sumL 0 (m.map (fun j => sumL 0 (l.map (fun i => f i j))))
  | [] => (sumL_eq_zero _ m fun _ _ => rfl).symm
  | a :: l => by
      simp only [List.map_cons, sumL, sumL_swap f m l]
      rw [← sumL_map_add]

theorem sumL_map_cast {ι : Type} (f : ι → Nat) : ∀ l : List ι,
    sumL (0 : α) (l.map (fun i => (f i : α))) = ((l.map f).sum : α)
  | [] => by simp [sumL]
  | a :: l => by simp only [List.map_cons, sumL, sumL_map_cast f l, List.sum_cons]; push_cast; ring

theorem sumL_map_mul_right {ι : Type} (f : ι → α) (c : α) : ∀ l : List ι,
    sumL 0 (l.map (fun i => f i * c)) = sumL 0 (l.map f) * c
  | [] => by simp [sumL]
  | a :: l => by simp only [List.map_cons, sumL, sumL_map_mul_right f c l]; ring

theorem sumL_map_div {ι : Type} (f : ι → α) (s : α) (l : List ι) :
    sumL 0 (l.map (fun i => f i / s)) = sumL 0 (l.map f) / s := by
  simp only [div_eq_mul_inv, sumL_map_mul_right]

theorem sumL_eq_single (i : Nat) (f : Nat → α) : ∀ l : List Nat, l.Nodup → i ∈ l →
    (∀ j ∈ l, j ≠ i → f j = 0) → sumL 0 (l.map f) = f i
  | [], _, h, _ => nomatch h
  | a :: l, hn, h, h0 => by
      have hn' := List.nodup_cons.mp hn
      have h0' : ∀ j ∈ l, j ≠ i → f j = 0 := fun j hj => h0 j (List.mem_cons_of_mem _ hj)
      rw [List.map_cons, sumL]
      rcases List.mem_cons.mp h with rfl | hi
      · rw [sumL_eq_zero f l (fun j hj => h0' j hj (fun e => hn'.1 (e ▸ hj))), add_zero]
      · rw [sumL_eq_single i f l hn'.2 hi h0', h0 a List.mem_cons_self (fun e => hn'.1 (e ▸ hi)), zero_add]

/-- on identical partitions the table is diagonal -/
theorem miScore_self_eps (eps : α) (b : List Nat) :
    miScore 0 eps (fun k => (k : α)) b b =
      sumL 0 ((List.range 10).map (fun i =>
        (b.count i : α) / (b.length : α) * ((b.count i : α) / (b.length : α)) /
          ((b.count i : α) / (b.length : α) * ((b.count i : α) / (b.length : α)) + eps))) := by
  unfold miScore
  dsimp only
  rw [List.map_fst_zip (le_refl _), List.map_snd_zip (le_refl _), List.length_zip, Nat.min_self]
  apply congrArg
  apply List.map_congr_left
  intro i hi
  rw [sumL_eq_single i _ (List.range 10) List.nodup_range hi, count_zip_self, if_pos rfl]
  intro j _ hji
  rw [count_zip_self, if_neg (Ne.symm hji), Nat.cast_zero, zero_div, zero_mul, zero_div]

end

section
variable {α : Type} [Field α] [LinearOrder α] [IsStrictOrderedRing α]

theorem sumL_le_sumL {ι : Type} (f g : ι → α) : ∀ l : List ι, (∀ i ∈ l, f i ≤ g i) →
    sumL 0 (l.map f) ≤ sumL 0 (l.map g)
  | [], _ => le_rfl
  | a :: l, h =>
      add_le_add (h a List.mem_cons_self) (sumL_le_sumL f g l fun i hi => h i (List.mem_cons_of_mem _ hi))

theorem sq_div_le (a b d e : α) (ha : 0 ≤ a) (hab : a ≤ b) (hd : 0 < d) (he : 0 ≤ e) :
    a * a / (b * d + e) ≤ a / d := by
  rcases ha.eq_or_lt with rfl | ha
  · rw [mul_zero, zero_div, zero_div]
  · calc a * a / (b * d + e) ≤ a * a / (a * d) :=
          div_le_div_of_nonneg_left (mul_nonneg ha.le ha.le) (mul_pos ha hd)
            (le_add_of_le_of_nonneg (mul_le_mul_of_nonneg_right hab hd.le) he)
      _ = a / d := mul_div_mul_left a d ha.ne'

theorem mi_term_le (eps : α) (heps : 0 ≤ eps) (c r s n : Nat) (hcr : c ≤ r) (hcs : c ≤ s) (hcn : c ≤ n) :
    (c : α) / n * ((c : α) / n) / ((r : α) / n * ((s : α) / n) + eps) ≤ (c : α) / (s : α) := by
  rcases Nat.eq_zero_or_pos c with rfl | hc
  · rw [Nat.cast_zero, zero_div, zero_mul, zero_div, zero_div]
  · have hn : (0 : α) < (n : α) := Nat.cast_pos.mpr (hc.trans_le hcn)
    have hs : (0 : α) < (s : α) := Nat.cast_pos.mpr (hc.trans_le hcs)
    rw [← div_div_div_cancel_right₀ hn.ne' (c : α) (s : α)]
    exact sq_div_le _ _ _ eps (div_nonneg (Nat.cast_nonneg c) hn.le)
      (div_le_div_of_nonneg_right (Nat.cast_le.mpr hcr) hn.le) (div_pos hs hn) heps

/-- one column of the table sums to at most 1, and to 0 when its weight bin is empty -/
theorem mi_column_le (eps : α) (heps : 0 ≤ eps) (pairs : List (Nat × Nat)) (j : Nat) :
    sumL 0 ((List.range 10).map (fun i =>
      (pairs.count (i, j) : α) / (pairs.length : α) * ((pairs.count (i, j) : α) / (pairs.length : α)) /
        (((pairs.map (·.1)).count i : α) / (pairs.length : α) *
          (((pairs.map (·.2)).count j : α) / (pairs.length : α)) + eps))) ≤
      if 0 < (pairs.map (·.2)).count j then 1 else 0 := by
  refine (sumL_le_sumL _ (fun i => (pairs.count (i, j) : α) / ((pairs.map (·.2)).count j : α)) _
    fun i _ => mi_term_le eps heps _ _ _ _ (List.count_le_count_map (f := (·.1)) (x := (i, j)))
      (List.count_le_count_map (f := (·.2)) (x := (i, j))) List.count_le_length).trans ?_
  rw [sumL_map_div, sumL_map_cast]
  have hcs := colsum_le (List.range 10) List.nodup_range j pairs
  by_cases h0 : 0 < (pairs.map (·.2)).count j
  · rw [if_pos h0]
    have hp : (0 : α) < ((pairs.map (·.2)).count j : α) := by exact_mod_cast h0
    rw [div_le_one hp]
    exact_mod_cast hcs
  · rw [if_neg h0]
    have : (pairs.map (·.2)).count j = 0 := by omega
    rw [this]; simp

/-- `q/(q + e) = 1 − e/(q + e) ≥ 1 − e·M` when `1/q ≤ M` -/
theorem one_sub_le_div_add (q e M : α) (hq : 0 < q) (he : 0 ≤ e) (hM : 0 ≤ M) (h : 1 ≤ M * q) :
    1 - e * M ≤ q / (q + e) := by
  rw [le_div_iff₀ (add_pos_of_pos_of_nonneg hq he)]
  have h1 : 0 ≤ e * (M * q - 1) := mul_nonneg he (sub_nonneg.mpr h)
  have h2 : 0 ≤ e * e * M := mul_nonneg (mul_nonneg he he) hM
  have e1 : (1 - e * M) * (q + e) = q - (e * (M * q - 1) + e * e * M) := by ring
  rw [e1]
  exact sub_le_self q (add_nonneg h1 h2)

theorem mi_diag_ge (eps : α) (heps : 0 ≤ eps) (r n : Nat) (hr : 0 < r) (hrn : r ≤ n) :
    1 - eps * ((n : α) * (n : α)) ≤
      (r : α) / (n : α) * ((r : α) / (n : α)) / ((r : α) / (n : α) * ((r : α) / (n : α)) + eps) := by
  have r1 : (1 : α) ≤ (r : α) := Nat.one_le_cast.mpr hr
  have hn : (0 : α) < (n : α) := Nat.cast_pos.mpr (hr.trans_le hrn)
  have hx : 0 < (r : α) / (n : α) := div_pos (zero_lt_one.trans_le r1) hn
  refine one_sub_le_div_add _ eps _ (mul_pos hx hx) heps (mul_nonneg hn.le hn.le) ?_
  rw [mul_mul_mul_comm, mul_div_cancel₀ _ hn.ne']
  exact one_le_mul_of_one_le_of_one_le r1 r1

/-- planted value with the regulariser ≥ (number of non-empty bins)·(1 − eps·n²) -/
theorem miScore_self_ge (eps : α) (heps : 0 ≤ eps) (b : List Nat) :
    sumL 0 ((List.range 10).map (fun i => if 0 < b.count i then (1 : α) else 0)) *
        (1 - eps * ((b.length : α) * (b.length : α))) ≤
      miScore 0 eps (fun k => (k : α)) b b := by
  rw [miScore_self_eps, ← sumL_map_mul_right]
  apply sumL_le_sumL
  intro i _
  by_cases h0 : 0 < b.count i
  · rw [if_pos h0, one_mul]
    exact mi_diag_ge eps heps _ _ h0 List.count_le_length
  · rw [if_neg h0, zero_mul]
    have : b.count i = 0 := by omega
    rw [this]; simp

end
end Pm.C17
