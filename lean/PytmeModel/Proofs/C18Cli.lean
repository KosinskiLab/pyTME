import PytmeModel.Model.C18Cli
import PytmeModel.Proofs.Common
import Mathlib.Data.List.Nodup

/-! What the functions of `Model/C18.lean` and `Model/C18Cli.lean` compute, case by case,
for the theorems of `Props/C18.lean`. -/
namespace Pm.C18

/-- the record `write_pickle` pickles for item number `i` -/
def itemRec (fresh : Nat → String) (i : Nat) : Item → Rec
  | .obj p => .obj p
  | .tup a b => .tup a b
  | .memmap sh dt _ _ => .tup "np.memmap" (encShape sh dt (fresh i))

theorem writeItems_cons_fst (fresh : Nat → String) (i : Nat) (fs : FS) (it : Item) (rest : List Item) :
    ∃ fs', (writeItems fresh i fs (it :: rest)).1 = itemRec fresh i it :: (writeItems fresh (i + 1) fs' rest).1 := by
  cases it with
  | obj p => exact ⟨fs, rfl⟩
  | tup a b => exact ⟨fs, rfl⟩
  | memmap sh dt f c => exact ⟨FS.move fs f (fresh i), rfl⟩

theorem loadRec_tup (a b : String) : loadRec (.tup a b) = if a == "np.memmap" then .memmap b else .tup a b := rfl

theorem loadRec_itemRec (fresh : Nat → String) (i : Nat) {it : Item} {rest : List Item}
    (h : NoFakeMarker (it :: rest)) :
    loadRec (itemRec fresh i it) = expected fresh i it ∧ NoFakeMarker rest := by
  cases it with
  | obj p => exact ⟨rfl, h⟩
  | tup a b => exact ⟨(loadRec_tup a b).trans (if_neg fun hb => h.1 (eq_of_beq hb)), h.2⟩
  | memmap sh dt f c => exact ⟨(loadRec_tup _ _).trans (if_pos (beq_self_eq_true _)), h⟩

theorem keptAt_iff (d n x : Nat) : keptAt d n x = true ↔ d ≤ x ∧ x + d < n := by
  rw [keptAt, Bool.and_eq_true, decide_eq_true_eq, decide_eq_true_eq]

theorem keptAt_iff_le_min {n x : Nat} (hx : x < n) (d : Nat) :
    keptAt d n x = true ↔ d ≤ min x (n - 1 - x) := by
  rw [keptAt_iff, Nat.le_min, Nat.sub_right_comm, Nat.le_sub_one_iff_lt (Nat.sub_pos_of_lt hx),
    Nat.lt_sub_iff_add_lt, Nat.add_comm]

theorem maskVox_pos (d : Nat) (shape : List Nat) (v : Vox) : (maskVox d shape v).pos = v.pos := by
  unfold maskVox; split <;> rfl

theorem maskVox_of_inWindow (d : Nat) (shape : List Nat) (v : Vox) (h : inWindow d shape v.pos = true) :
    maskVox d shape v = v := by
  rw [maskVox, h, Bool.not_true, Bool.and_false]; rfl

theorem maskVox_zero (shape : List Nat) (v : Vox) : maskVox 0 shape v = v := rfl

theorem maskVox_of_kept {d : Nat} {shape : List Nat} {v : Vox} (h : d = 0 ∨ inWindow d shape v.pos = true) :
    maskVox d shape v = v := by
  rcases h with rfl | h
  · exact maskVox_zero shape v
  · exact maskVox_of_inWindow d shape v h

theorem survive_iff (d : Nat) (shape : List Nat) (lo hi : Option Int) (v : Vox) :
    survive d shape lo hi v = true ↔ (d = 0 ∨ inWindow d shape v.pos = true) ∧ inRange lo hi v.score = true := by
  rw [survive, Bool.and_eq_true, Bool.or_eq_true, beq_iff_eq]

theorem maskVox_score (d : Nat) (shape : List Nat) (v : Vox) :
    (maskVox d shape v).score = v.score ∨ (maskVox d shape v).score = 0 := by
  unfold maskVox; split
  · exact Or.inr rfl
  · exact Or.inl rfl

theorem filter_map_mask_le (d : Nat) (shape : List Nat) (s : Int) (hs : d = 0 ∨ 0 < s) (vox : List Vox) :
    ((vox.map (maskVox d shape)).filter (fun w => decide (s ≤ w.score))).length ≤
      (vox.filter (fun w => decide (s ≤ w.score))).length := by
  rw [← List.countP_eq_length_filter, ← List.countP_eq_length_filter, List.countP_map]
  refine List.countP_mono_left fun v _ hv => ?_
  have hv : s ≤ (maskVox d shape v).score := of_decide_eq_true hv
  rcases hs with rfl | hs
  · exact decide_eq_true hv
  rcases maskVox_score d shape v with h | h
  · exact decide_eq_true (h ▸ hv)
  · exact absurd (Int.lt_of_lt_of_le hs (h ▸ hv)) (Int.lt_irrefl 0)

theorem insertDesc_cons (v w : Vox) (ws : List Vox) :
    insertDesc v (w :: ws) = if w.score < v.score then v :: w :: ws else w :: insertDesc v ws := rfl

theorem insertDesc_perm (v : Vox) (l : List Vox) : (insertDesc v l).Perm (v :: l) := by
  induction l with
  | nil => exact List.Perm.refl _
  | cons w ws ih =>
    rw [insertDesc_cons]
    split
    · exact List.Perm.refl _
    · exact (ih.cons w).trans (List.Perm.swap v w ws)

theorem sortDesc_perm (l : List Vox) : (sortDesc l).Perm l := by
  induction l with
  | nil => exact List.Perm.refl _
  | cons v vs ih => exact (insertDesc_perm v (sortDesc vs)).trans (ih.cons v)

def Desc (l : List Vox) : Prop := l.Pairwise (fun a b => b.score ≤ a.score)

theorem insertDesc_desc (v : Vox) (l : List Vox) (h : Desc l) : Desc (insertDesc v l) := by
  induction l with
  | nil => exact List.pairwise_singleton _ _
  | cons w ws ih =>
    have hw := List.pairwise_cons.mp h
    rw [insertDesc_cons]
    split
    · next hlt =>
      exact List.pairwise_cons.mpr ⟨List.forall_mem_cons.mpr
        ⟨Int.le_of_lt hlt, fun b hb => Int.le_trans (hw.1 b hb) (Int.le_of_lt hlt)⟩, h⟩
    · next hge =>
      have hall : ∀ b ∈ v :: ws, b.score ≤ w.score := List.forall_mem_cons.mpr ⟨Int.not_lt.mp hge, hw.1⟩
      exact List.pairwise_cons.mpr ⟨fun b hb => hall b ((insertDesc_perm v ws).subset hb), ih hw.2⟩

theorem sortDesc_desc (l : List Vox) : Desc (sortDesc l) := by
  induction l with
  | nil => exact List.Pairwise.nil
  | cons v vs ih => exact insertDesc_desc v _ ih

theorem Desc.le_head {l : List Vox} (hd : Desc l) {h : Vox} {t : List Vox} (e : l = h :: t) {c : Vox} (hc : c ∈ l) :
    c.score ≤ h.score := by
  subst e
  rcases List.mem_cons.mp hc with rfl | hc
  · exact Int.le_refl _
  · exact (List.pairwise_cons.mp hd).1 c hc

theorem Desc.head?_eq {l : List Vox} (hd : Desc l) {p : Vox} (hp : p ∈ l)
    (hu : ∀ c ∈ l, p.score ≤ c.score → c = p) :
    l.head? = some p := by
  cases l with
  | nil => cases hp
  | cons h t => exact congrArg some (hu h List.mem_cons_self (hd.le_head rfl hp))

theorem mem_take_count_of_desc (c : Vox) (l : List Vox) (hd : Desc l) (h : c ∈ l) :
    c ∈ l.take (l.filter (fun w => decide (c.score ≤ w.score))).length := by
  induction l with
  | nil => cases h
  | cons a t ih =>
    have hd := List.pairwise_cons.mp hd
    have ha : c.score ≤ a.score := by
      rcases List.mem_cons.mp h with rfl | ht
      · exact Int.le_refl _
      · exact hd.1 c ht
    rw [List.filter_cons_of_pos (p := fun w : Vox => decide (c.score ≤ w.score)) (a := a) (decide_eq_true ha),
      List.length_cons, List.take_succ_cons]
    rcases List.mem_cons.mp h with rfl | ht
    · exact List.mem_cons_self
    · exact List.mem_cons_of_mem _ (ih hd.2 ht)

theorem map_pos_zipWith (l1 : List (List Nat)) (l2 : List Int) :
    (List.zipWith Vox.mk l1 l2).map Vox.pos = l1.take l2.length := by
  induction l1 generalizing l2 with
  | nil => exact List.take_nil.symm
  | cons a l1 ih =>
    cases l2 with
    | nil => rfl
    | cons b l2 => exact congrArg (a :: ·) (ih l2)

theorem mem_voxOf_iff_index (shape : List Nat) (scores : List Int) (mask : Option (List Int)) (c : Vox) :
    c ∈ voxOf shape scores mask ↔ ∃ i, i < prodL shape ∧ i < (maskedVals scores mask).length ∧
      c = ⟨unflat shape i, (maskedVals scores mask).getD i 0⟩ := by
  unfold voxOf allIdx
  generalize maskedVals scores mask = vals
  simp only [List.mem_iff_getElem, List.length_zipWith, List.length_map, List.length_range, Nat.lt_min,
    List.getElem_zipWith, List.getElem_map, List.getElem_range]
  constructor
  · rintro ⟨i, hi, rfl⟩
    exact ⟨i, hi.1, hi.2, by rw [List.getD_eq_getElem?_getD, List.getElem?_eq_getElem hi.2]; rfl⟩
  · rintro ⟨i, h1, h2, rfl⟩
    exact ⟨i, ⟨h1, h2⟩, by rw [List.getD_eq_getElem?_getD, List.getElem?_eq_getElem h2]; rfl⟩

theorem voxOf_nodup (shape : List Nat) (scores : List Int) (mask : Option (List Int)) :
    (voxOf shape scores mask).Nodup := by
  refine List.Nodup.of_map Vox.pos ?_
  rw [voxOf, map_pos_zipWith]
  exact (allIdx_nodup shape).sublist (List.take_sublist _ _)

theorem length_le_one_of_nodup_all_eq {α} (a : α) :
    ∀ l : List α, l.Nodup → (∀ x ∈ l, x = a) → l.length ≤ 1 := by
  intro l hn hall
  rw [List.eq_replicate_of_mem hall] at hn
  exact List.nodup_replicate.mp hn

/-- the case analysis of `bgNorm`, on the numerator and denominator of the quotient `(fg - bg) / (1 - bg)` -/
def bgSel (num den : Int) : BgVal :=
  if den == 0 then (if 0 < num then .inf else .fin 0 1)
  else if den < 0 then (if 0 ≤ num then .fin 0 1 else .fin (-num) (-den).toNat)
  else (if num ≤ 0 then .fin 0 1 else .fin num den.toNat)

theorem bgNorm_eq (fg bg : Int × Nat) :
    bgNorm fg bg = bgSel (fg.1 * bg.2 - bg.1 * fg.2) (fg.2 * ((bg.2 : Int) - bg.1)) := rfl

theorem bgSel_of_pos {num den : Int} (h : 0 < den) :
    bgSel num den = if num ≤ 0 then .fin 0 1 else .fin num den.toNat := by
  rw [bgSel, if_neg fun e => Int.ne_of_gt h (eq_of_beq e), if_neg (Int.not_lt.mpr (Int.le_of_lt h))]

theorem bgSel_of_neg {num den : Int} (h : den < 0) :
    bgSel num den = if 0 ≤ num then .fin 0 1 else .fin (-num) (-den).toNat := by
  rw [bgSel, if_neg fun e => Int.ne_of_lt h (eq_of_beq e), if_pos h]

theorem bgSel_zero_left {den : Int} (h : den ≠ 0) : bgSel 0 den = .fin 0 1 := by
  rcases Int.lt_or_gt_of_ne h with hd | hd
  · rw [bgSel_of_neg hd, if_pos (Int.le_refl 0)]
  · rw [bgSel_of_pos hd, if_pos (Int.le_refl 0)]

theorem bgSel_fin {num den n : Int} {d : Nat} (h : bgSel num den = .fin n d) : 0 ≤ n ∧ 0 < d := by
  rcases Int.lt_trichotomy den 0 with hd | rfl | hd
  · rw [bgSel_of_neg hd] at h
    by_cases hn : 0 ≤ num
    · rw [if_pos hn] at h; cases h; exact ⟨Int.le_refl 0, Nat.one_pos⟩
    · rw [if_neg hn] at h; cases h
      exact ⟨Int.le_of_lt (Int.neg_pos_of_neg (Int.not_le.mp hn)), Int.pos_iff_toNat_pos.mp (Int.neg_pos_of_neg hd)⟩
  · change (if 0 < num then _ else _) = _ at h
    by_cases hn : 0 < num
    · rw [if_pos hn] at h; cases h
    · rw [if_neg hn] at h; cases h; exact ⟨Int.le_refl 0, Nat.one_pos⟩
  · rw [bgSel_of_pos hd] at h
    by_cases hn : num ≤ 0
    · rw [if_pos hn] at h; cases h; exact ⟨Int.le_refl 0, Nat.one_pos⟩
    · rw [if_neg hn] at h; cases h
      exact ⟨Int.le_of_lt (Int.not_le.mp hn), Int.pos_iff_toNat_pos.mp hd⟩

theorem mergeStep_of_lt {cur : Int × Nat} {new : Int} (h : cur.1 < new) (label : Nat) :
    mergeStep cur new label = (new, label) := if_pos h

theorem mergeStep_of_le {cur : Int × Nat} {new : Int} (h : new ≤ cur.1) (label : Nat) :
    mergeStep cur new label = cur := if_neg (Int.not_lt.mpr h)

theorem mergeStep_ge (cur : Int × Nat) (new : Int) (label : Nat) :
    cur.1 ≤ (mergeStep cur new label).1 ∧ new ≤ (mergeStep cur new label).1 := by
  by_cases h : cur.1 < new
  · rw [mergeStep_of_lt h]; exact ⟨Int.le_of_lt h, Int.le_refl _⟩
  · rw [mergeStep_of_le (Int.not_lt.mp h)]; exact ⟨Int.le_refl _, Int.not_lt.mp h⟩

theorem mergeVoxelFrom_cons (cur : Int × Nat) (label : Nat) (x : Int) (xs : List Int) :
    mergeVoxelFrom cur label (x :: xs) = mergeVoxelFrom (mergeStep cur x label) (label + 1) xs := rfl

theorem rotPlan_of_some_ge {a : RotArgs} {s : Int} (h : a.angular = some s) (hs : 180000 ≤ s) :
    rotPlan a = .identity s (!a.noOptimized) := by
  rw [rotPlan, h]; exact if_pos hs

theorem rotPlan_of_some_lt {a : RotArgs} {s : Int} (h : a.angular = some s) (hs : s < 180000) :
    rotPlan a = .grid s (!a.noOptimized) := by
  rw [rotPlan, h]; exact if_neg (Int.not_le.mpr hs)

theorem rotPlan_of_none {a : RotArgs} (h : a.angular = none) :
    rotPlan a = .cone a.coneAngle a.coneSampling a.axisAngle (optOr a.axisSampling a.coneSampling) a.axisSymmetry := by
  rw [rotPlan, h]

theorem maskCheck_of_length_eq {ms ts mr tr : List Int} (h1 : ms.length = ts.length) (h2 : mr.length = tr.length) :
    maskCheck true ms ts mr tr =
      if all2 (closeQ 1) ms ts then
        (if all2 (closeQ 100) (mr.map roundCenti) (tr.map roundCenti) then .ok else .samplingMismatch)
      else .shapeMismatch := by
  have h2' : (mr.map roundCenti).length = (tr.map roundCenti).length := by rw [List.length_map, List.length_map, h2]
  unfold maskCheck allcloseL
  rw [if_pos (beq_iff_eq.mpr h1), if_pos (beq_iff_eq.mpr h2')]
  cases all2 (closeQ 1) ms ts <;> cases all2 (closeQ 100) (mr.map roundCenti) (tr.map roundCenti) <;> rfl

theorem maskCheck_verdict (x y : Bool) :
    let r : MaskCheck := if x then (if y then .ok else .samplingMismatch) else .shapeMismatch
    (r = .ok ↔ x = true ∧ y = true) ∧ (r = .shapeMismatch ↔ ¬ x = true) ∧
      (r = .samplingMismatch ↔ x = true ∧ ¬ y = true) := by
  revert x y
  decide +kernel

theorem mem_candidateBackends {available : List String} {req : Option String} {g m pc : Bool} {av : List String}
    (hc : candidateBackends available req g m pc = some av) {x : String} (hx : x ∈ av) :
    x ∈ available ∧ x ∈ beSelection g m ∧ ∀ r, req = some r → x = r := by
  unfold candidateBackends at hc
  rw [Option.map_eq_some_iff] at hc
  obtain ⟨av0, h0, rfl⟩ := hc
  dsimp only at hx
  -- the restrictions for peak calling only remove candidates
  have hx' : x ∈ av0.filter (beSelection g m).contains := by
    cases pc with
    | false => exact hx
    | true =>
      rw [if_pos rfl] at hx
      split at hx
      · next hcond =>
        rw [List.mem_singleton.mp hx]
        exact (List.mem_filter.mp (List.contains_iff_mem.mp ((Bool.and_eq_true _ _).mp hcond).2)).1
      · exact (List.mem_filter.mp hx).1
  obtain ⟨hx0, hsel⟩ := List.mem_filter.mp hx'
  cases req with
  | none => cases h0; exact ⟨hx0, List.contains_iff_mem.mp hsel, fun _ e => nomatch e⟩
  | some r =>
    dsimp only at h0
    by_cases hr : available.contains r = true
    · rw [if_pos hr] at h0; cases h0
      rw [List.mem_singleton.mp hx0]
      exact ⟨List.contains_iff_mem.mp hr, List.mem_singleton.mp hx0 ▸ List.contains_iff_mem.mp hsel,
        fun _ e => Option.some.inj e⟩
    · rw [if_neg hr] at h0; cases h0

theorem roundCenti_cases (m : Int) :
    (m % 10 ≤ 5 ∧ roundCenti m = m / 10 ∨ 5 ≤ m % 10 ∧ roundCenti m = m / 10 + 1) ∧
      (m % 10 = 5 → roundCenti m % 2 = 0) := by
  by_cases h1 : m % 10 < 5
  · exact ⟨Or.inl ⟨Int.le_of_lt h1, if_pos h1⟩, fun h => absurd h (Int.ne_of_lt h1)⟩
  · by_cases h2 : 5 < m % 10
    · exact ⟨Or.inr ⟨Int.le_of_lt h2, (if_neg h1).trans (if_pos h2)⟩, fun h => absurd h (Int.ne_of_gt h2)⟩
    · by_cases h3 : m / 10 % 2 = 0
      · have e : roundCenti m = m / 10 := (if_neg h1).trans ((if_neg h2).trans (if_pos (beq_iff_eq.mpr h3)))
        exact ⟨Or.inl ⟨Int.not_lt.mp h2, e⟩, fun _ => e ▸ h3⟩
      · have e : roundCenti m = m / 10 + 1 :=
          (if_neg h1).trans ((if_neg h2).trans (if_neg fun e => h3 (eq_of_beq e)))
        refine ⟨Or.inr ⟨Int.not_lt.mp h1, e⟩, fun _ => ?_⟩
        rw [e, Int.add_emod, (Int.emod_two_eq_zero_or_one _).resolve_left h3]; rfl

end Pm.C18
