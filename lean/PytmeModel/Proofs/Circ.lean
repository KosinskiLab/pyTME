import PytmeModel.Model.C01
import Mathlib.Algebra.BigOperators.Group.Finset.Basic
import Mathlib.Algebra.BigOperators.Intervals
import Mathlib.Tactic.Ring
import Mathlib.Tactic.Linarith

/-! Circular-convolution reindexing: the central index lemma of C01/C02, in any dimension. -/
open Finset
namespace Pm.C01

theorem sumRange_eq_sum {α} [AddCommMonoid α] (n : Nat) (f : Nat → α) :
    sumRange n f = ∑ i ∈ range n, f i := by
  induction n with
  | zero => simp [sumRange]
  | succ k ih => simp [sumRange, ih, Finset.sum_range_succ]

theorem sumRange_congr {α} [Add α] [Zero α] (n : Nat) (f g : Nat → α) (h : ∀ i, i < n → f i = g i) :
    sumRange n f = sumRange n g := by
  induction n with
  | zero => rfl
  | succ k ih =>
    simp only [sumRange]
    rw [ih (fun i hi => h i (Nat.lt_succ_of_lt hi)), h k (Nat.lt_succ_self k)]

theorem sumShape_congr {α} [Add α] [Zero α] (ns : List Nat) (F G : List Nat → α)
    (h : ∀ idx, inShape ns idx = true → F idx = G idx) : sumShape ns F = sumShape ns G := by
  induction ns generalizing F G with
  | nil => exact h [] rfl
  | cons n ns ih =>
    simp only [sumShape]
    apply sumRange_congr
    intro i hi
    apply ih
    intro idx hidx
    apply h
    simp [inShape, hi, hidx]

theorem sumShape_zero {α} [AddCommMonoid α] (ns : List Nat) : sumShape ns (fun _ => (0:α)) = 0 := by
  induction ns with
  | nil => rfl
  | cons a as ih =>
    simp only [sumShape]
    rw [ih, sumRange_eq_sum, Finset.sum_const_zero]

theorem emod_cases' (x : Int) (N : Int) (hN : 0 < N) (h1 : -N ≤ x) (h2 : x < N) :
    x % N = if x < 0 then x + N else x := by
  split
  · rw [← Int.add_emod_right]
    exact Int.emod_eq_of_lt (by omega) (by omega)
  · exact Int.emod_eq_of_lt (by omega) h2

theorem sum_range_eq_sum_window {α} [AddCommMonoid α] (N m : Nat) (u : Int) (H : Int → α)
    (hH : ∀ z, H z ≠ 0 → 0 ≤ z ∧ z < N ∧ u - ((m:Int) - 1) ≤ z ∧ z ≤ u) :
    ∑ j ∈ range N, H j = ∑ k ∈ range m, H (u - ((m:Int) - 1) + k) := by
  refine Finset.sum_bij_ne_zero (fun j _ _ => ((j:Int) - u + ((m:Int) - 1)).toNat) ?_ ?_ ?_ ?_
  · intro j _ hne
    obtain ⟨_, _, h2, h3⟩ := hH _ hne
    simp only [mem_range]; omega
  · intro j1 _ hne1 j2 _ hne2 h
    obtain ⟨_, _, a2, _⟩ := hH _ hne1
    obtain ⟨_, _, b2, _⟩ := hH _ hne2
    omega
  · intro k _ hne
    obtain ⟨h0, h1, _, _⟩ := hH _ hne
    refine ⟨(u - ((m:Int) - 1) + k).toNat, by simp only [mem_range]; omega, ?_, ?_⟩
    · rwa [Int.toNat_of_nonneg h0]
    · rw [Int.toNat_of_nonneg h0]; omega
  · intro j _ hne
    obtain ⟨_, _, h2, _⟩ := hH _ hne
    rw [Int.toNat_of_nonneg (by omega)]
    congr 1; ring

/-- General 1-D reindexing: `F j r` is the summand for target index `j` and (reversed,
top-left padded) template index `r`; it vanishes outside `[0,n) × [0,m)`.  Reading the circular
sum at raw position `u` gives the windowed sum.  `hwrap` covers both paddings: with full padding
(`N ≥ n+m-1`) it holds for every `u`, without padding it holds when the window lies inside. -/
theorem circ_reindex_1d {α} [AddCommMonoid α] (n m N : Nat) (hm : 0 < m) (hnN : n ≤ N)
    (F : Int → Int → α)
    (hF : ∀ j r : Int, (j < 0 ∨ (n:Int) ≤ j ∨ r < 0 ∨ (m:Int) ≤ r) → F j r = 0)
    (u : Int)
    (hwrap : u + N - ((n:Int) - 1) ≥ m ∨ u ≥ (n:Int) - 1)
    (huN : u < N) (hu : 0 ≤ u) :
    ∑ j ∈ range N, F (j:Int) ((u - j) % (N:Int))
      = ∑ k ∈ range m, F (u - ((m:Int) - 1) + k) ((m:Int) - 1 - k) := by
  -- wrapped reads contribute nothing: `(u - j) % N` is `u - j`, or both template indices lie outside `[0, m)`
  have hmod : ∀ j ∈ range N, F (j:Int) ((u - j) % (N:Int)) = F j (u - j) := by
    intro j hj
    have hjN : (j:Int) < N := by exact_mod_cast mem_range.mp hj
    rw [emod_cases' _ _ (by omega) (by omega) (by omega)]
    split
    · rw [hF _ (u - j + N) (by omega), hF _ (u - j) (by omega)]
    · rfl
  rw [Finset.sum_congr rfl hmod, sum_range_eq_sum_window N m u (fun z => F z (u - z))]
  · apply Finset.sum_congr rfl
    intro k _
    rw [show u - (u - ((m:Int) - 1) + k) = (m:Int) - 1 - k by ring]
  · intro z hz
    by_contra h
    exact hz (hF z (u - z) (by omega))

/-- per-axis side conditions of the reindexing, for all axes -/
def AxesOk : List Nat → List Nat → List Nat → List Int → Prop
  | [], [], [], [] => True
  | n :: ns, m :: ms, N :: Ns, u :: us =>
      (0 < m ∧ n ≤ N ∧ (u + N - ((n:Int) - 1) ≥ m ∨ u ≥ (n:Int) - 1) ∧ u < N ∧ 0 ≤ u) ∧ AxesOk ns ms Ns us
  | _, _, _, _ => False

/-- `(j, r)` lies outside the support box `[0,ns) × [0,ms)` on some axis -/
def OutOfRange : List Nat → List Nat → List Int → List Int → Prop
  | n :: ns, m :: ms, j :: js, r :: rs =>
      (j < 0 ∨ (n:Int) ≤ j ∨ r < 0 ∨ (m:Int) ≤ r) ∨ OutOfRange ns ms js rs
  | _, _, _, _ => False

/-- `j` lies outside the box `[0, ns)` on some axis -/
def OutOfBox : List Nat → List Int → Prop
  | n :: ns, j :: js => (j < 0 ∨ (n:Int) ≤ j) ∨ OutOfBox ns js
  | _, _ => False

/-- **n-D reindexing** (any number of axes): the circular sum over the torus `Ns`, read at raw
position `us`, equals the sum over the template box `ms` of the summand at the window position. -/
theorem circ_reindex_nd {α} [AddCommMonoid α] :
    ∀ (ns ms Ns : List Nat) (us : List Int) (F : List Int → List Int → α),
      AxesOk ns ms Ns us →
      (∀ j r, OutOfRange ns ms j r → F j r = 0) →
      sumShape Ns (fun j => F (natsToInts j) (wrapSub Ns us j))
        = sumShape ms (fun k => F (winIdx ms us k) (revK ms k))
  | [], [], [], [], F, _, _ => rfl
  | n :: ns, m :: ms, N :: Ns, u :: us, F, ⟨⟨hm, hnN, hwrap, huN, hu⟩, hrest⟩, hF => by
    simp only [sumShape]
    rw [sumRange_eq_sum, sumRange_eq_sum]
    refine (circ_reindex_1d n m N hm hnN
      (fun j0 r0 => sumShape Ns (fun idx => F (j0 :: natsToInts idx) (r0 :: wrapSub Ns us idx))) ?_ u hwrap huN hu).trans
      (Finset.sum_congr rfl fun k _ => circ_reindex_nd ns ms Ns us
        (fun j r => F ((u - ((m:Int) - 1) + (k:Int)) :: j) (((m:Int) - 1 - (k:Int)) :: r)) hrest
        fun j r h => hF _ _ (Or.inr h))
    intro j r h
    exact (sumShape_congr Ns _ _ fun idx _ => hF (j :: natsToInts idx) (r :: wrapSub Ns us idx) (Or.inl h)).trans
      (sumShape_zero Ns)
  | [], _ :: _, _, _, _, h, _ => h.elim
  | [], [], _ :: _, _, _, h, _ => h.elim
  | [], [], [], _ :: _, _, h, _ => h.elim
  | _ :: _, [], _, _, _, h, _ => h.elim
  | _ :: _, _ :: _, [], _, _, h, _ => h.elim
  | _ :: _, _ :: _, _ :: _, [], _, h, _ => h.elim

end Pm.C01
