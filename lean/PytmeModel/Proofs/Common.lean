import PytmeModel.Model.Common
import Mathlib.Tactic.Ring
import Mathlib.Tactic.Linarith

/-! Lemmas about the shared vocabulary: ceil division and the source index of a roll; `flatIdx`/`unflat`
are mutually inverse on a shape, `allIdx` lists the indices of a shape once each, reading an `Arr.ofFn` returns
the generating function; and list facts several properties need (running maximum / minimum of a fold, length
of a `flatMap`, `getD` inside the list and of a mapped list, a list as the map of its `getD` over a range,
`mapM` into `Option`). -/
namespace Pm

theorem cdiv_eq (N k : Nat) (hk : 0 < k) (hN : 0 < N) : cdiv N k = (N - 1) / k + 1 := by
  unfold cdiv
  rw [Nat.sub_add_comm (show 1 ≤ N from hN), Nat.add_div_right _ hk]

theorem cdiv_pos (N k : Nat) (hk : 0 < k) (hN : 0 < N) : 0 < cdiv N k :=
  cdiv_eq N k hk hN ▸ Nat.succ_pos _

theorem cdiv_le (N k : Nat) (hk : 0 < k) (hN : 0 < N) : cdiv N k ≤ N :=
  cdiv_eq N k hk hN ▸ Nat.lt_of_le_of_lt (Nat.div_le_self _ _) (Nat.sub_lt hN Nat.one_pos)

theorem le_mul_cdiv (N k : Nat) (hk : 0 < k) : N ≤ k * cdiv N k := by
  have h := Nat.lt_mul_div_succ (N + k - 1) hk
  rw [Nat.mul_succ] at h
  unfold cdiv
  omega

theorem rollSrc_lt {n : Nat} (hn : 0 < n) (s : Int) (i : Nat) : rollSrc n s i < n := by
  have hn' : (0 : Int) < n := Int.natCast_pos.mpr hn
  have a := Int.emod_nonneg ((i : Int) - s) (Int.ne_of_gt hn')
  have b := Int.emod_lt_of_pos ((i : Int) - s) hn'
  unfold rollSrc
  omega

theorem getD_mem {α : Type} (l : List α) (i : Nat) (d : α) (h : i < l.length) : l.getD i d ∈ l := by
  rw [List.getD_eq_getElem?_getD, List.getElem?_eq_getElem h, Option.getD_some]
  exact List.getElem_mem h

theorem getD_map {α β : Type} (f : α → β) (l : List α) (k : Nat) (d : α) :
    (l.map f).getD k (f d) = f (l.getD k d) := by
  rw [List.getD_eq_getElem?_getD, List.getD_eq_getElem?_getD, List.getElem?_map]
  cases l[k]? <;> rfl

theorem getD_map_of_lt {α β : Type} (f : α → β) (l : List α) (k : Nat) (d : β) (h : k < l.length) :
    (l.map f).getD k d = f l[k] := by
  rw [List.getD_eq_getElem?_getD, List.getElem?_map, List.getElem?_eq_getElem h]
  rfl

theorem getD_map_range {α : Type} (f : Nat → α) (d : α) (n k : Nat) (h : k < n) :
    ((List.range n).map f).getD k d = f k := by
  rw [getD_map_of_lt f _ k d (by rwa [List.length_range]), List.getElem_range]

theorem map_getD_range {α : Type} (l : List α) (d : α) (n : Nat) (h : l.length = n) :
    (List.range n).map (fun i => l.getD i d) = l := by
  apply List.ext_getElem
  · simp [h]
  · intro i _ h2
    rw [List.getElem_map, List.getElem_range, List.getD_eq_getElem?_getD, List.getElem?_eq_getElem h2, Option.getD_some]

theorem mapM_cons_eq_some {α β : Type} {f : α → Option β} {a : α} {l : List α} {l' : List β}
    (h : (a :: l).mapM f = some l') : ∃ b u, f a = some b ∧ l.mapM f = some u ∧ l' = b :: u := by
  simp only [List.mapM_cons, Option.pure_def, Option.bind_eq_bind, Option.bind_eq_some_iff, Option.some.injEq] at h
  obtain ⟨b, hb, u, hu, rfl⟩ := h
  exact ⟨b, u, hb, hu, rfl⟩

theorem length_mapM {α β : Type} (f : α → Option β) :
    ∀ (l : List α) (l' : List β), l.mapM f = some l' → l'.length = l.length
  | [], l', h => by rw [List.mapM_nil] at h; cases h; rfl
  | a :: l, l', h => by
    obtain ⟨b, u, _, hu, rfl⟩ := mapM_cons_eq_some h
    rw [List.length_cons, List.length_cons, length_mapM f l u hu]

theorem length_flatMap_const {α β : Type} (l : List α) (f : α → List β) (w : Nat)
    (hw : ∀ x ∈ l, (f x).length = w) : (l.flatMap f).length = l.length * w := by
  induction l with
  | nil => simp
  | cons x xs ih =>
    rw [List.flatMap_cons, List.length_append, hw x List.mem_cons_self,
      ih fun y hy => hw y (List.mem_cons_of_mem _ hy), List.length_cons, Nat.succ_mul, Nat.add_comm]

/-- a running maximum dominates its start value and every element folded in -/
theorem foldl_max_ge {α : Type} [LinearOrder α] (l : List α) (a : α) :
    a ≤ l.foldl max a ∧ ∀ x ∈ l, x ≤ l.foldl max a := by
  induction l generalizing a with
  | nil => exact ⟨le_refl a, fun _ h => nomatch h⟩
  | cons y ys ih =>
    obtain ⟨h1, h2⟩ := ih (max a y)
    refine ⟨le_trans (le_max_left a y) h1, fun x hx => ?_⟩
    rcases List.mem_cons.mp hx with rfl | hx
    · exact le_trans (le_max_right a x) h1
    · exact h2 x hx

theorem foldl_min_le {α : Type} [LinearOrder α] (l : List α) (a : α) :
    l.foldl min a ≤ a ∧ ∀ x ∈ l, l.foldl min a ≤ x :=
  foldl_max_ge (α := αᵒᵈ) l a

theorem foldl_min_le_mem {α : Type} [LinearOrder α] (a : α) (t : List α) (x : α) (h : x ∈ a :: t) :
    t.foldl min a ≤ x := by
  rcases List.mem_cons.mp h with rfl | h
  · exact (foldl_min_le t _).1
  · exact (foldl_min_le t a).2 x h

theorem inShape_cons {s i : Nat} {ss is : List Nat} :
    inShape (s :: ss) (i :: is) = true ↔ i < s ∧ inShape ss is = true := by
  simp [inShape]

theorem inShape_length : ∀ {shape idx : List Nat}, inShape shape idx = true → idx.length = shape.length
  | [], [], _ => rfl
  | [], _ :: _, h => by simp [inShape] at h
  | _ :: _, [], h => by simp [inShape] at h
  | s :: ss, i :: is, h => by
      have := (inShape_cons.mp h).2
      simp [inShape_length this]

theorem flatIdx_lt : ∀ {shape idx : List Nat}, inShape shape idx = true → flatIdx shape idx < prodL shape
  | [], [], _ => by simp [flatIdx, prodL]
  | [], _ :: _, h => by simp [inShape] at h
  | _ :: _, [], h => by simp [inShape] at h
  | s :: ss, i :: is, h => by
      obtain ⟨hi, hr⟩ := inShape_cons.mp h
      have ih := flatIdx_lt hr
      simp only [flatIdx, prodL]
      calc i * prodL ss + flatIdx ss is < i * prodL ss + prodL ss := by omega
        _ = (i + 1) * prodL ss := by ring
        _ ≤ s * prodL ss := Nat.mul_le_mul_right _ hi

theorem unflat_flatIdx : ∀ {shape idx : List Nat}, inShape shape idx = true →
    unflat shape (flatIdx shape idx) = idx
  | [], [], _ => rfl
  | [], _ :: _, h => by simp [inShape] at h
  | _ :: _, [], h => by simp [inShape] at h
  | s :: ss, i :: is, h => by
      obtain ⟨_, hr⟩ := inShape_cons.mp h
      have hlt := flatIdx_lt hr
      have ih := unflat_flatIdx hr
      have hpos : 0 < prodL ss := by omega
      simp only [flatIdx, unflat]
      have h1 : (i * prodL ss + flatIdx ss is) / prodL ss = i := by
        rw [Nat.add_comm, Nat.add_mul_div_right _ _ hpos, Nat.div_eq_of_lt hlt]; simp
      have h2 : (i * prodL ss + flatIdx ss is) % prodL ss = flatIdx ss is := by
        rw [Nat.add_comm, Nat.add_mul_mod_self_right, Nat.mod_eq_of_lt hlt]
      rw [h1, h2, ih]

theorem inShape_unflat : ∀ (shape : List Nat) (k : Nat), k < prodL shape → inShape shape (unflat shape k) = true
  | [], _, _ => rfl
  | s :: ss, k, h => by
      simp only [prodL] at h
      have hpos : 0 < prodL ss := by
        rcases Nat.eq_zero_or_pos (prodL ss) with h0 | h0
        · rw [h0] at h; simp at h
        · exact h0
      simp only [unflat, inShape_cons]
      refine ⟨?_, inShape_unflat ss _ (Nat.mod_lt _ hpos)⟩
      exact Nat.div_lt_of_lt_mul (by rw [Nat.mul_comm]; exact h)

theorem flatIdx_unflat : ∀ (shape : List Nat) (k : Nat), k < prodL shape → flatIdx shape (unflat shape k) = k
  | [], k, h => by simp only [prodL] at h; simp only [flatIdx]; omega
  | s :: ss, k, h => by
      have hpos : 0 < prodL ss := Nat.pos_of_ne_zero fun h0 => by simp [prodL, h0] at h
      simp only [unflat, flatIdx, flatIdx_unflat ss _ (Nat.mod_lt _ hpos)]
      rw [Nat.mul_comm]; exact Nat.div_add_mod k (prodL ss)

theorem mem_allIdx {shape idx : List Nat} : idx ∈ allIdx shape ↔ inShape shape idx = true := by
  unfold allIdx
  rw [List.mem_map]
  constructor
  · rintro ⟨k, hk, rfl⟩
    exact inShape_unflat shape k (List.mem_range.mp hk)
  · exact fun h => ⟨flatIdx shape idx, List.mem_range.mpr (flatIdx_lt h), unflat_flatIdx h⟩

theorem allIdx_nodup (shape : List Nat) : (allIdx shape).Nodup := by
  unfold allIdx
  rw [List.Nodup, List.pairwise_map]
  refine List.nodup_range.imp_of_mem fun {x y} hx hy hne h => hne ?_
  rw [← flatIdx_unflat shape x (List.mem_range.mp hx), ← flatIdx_unflat shape y (List.mem_range.mp hy), h]

theorem Arr.ofFn_congr {α : Type} (shape : List Nat) (f g : List Nat → α)
    (h : ∀ idx, inShape shape idx = true → f idx = g idx) : Arr.ofFn shape f = Arr.ofFn shape g := by
  unfold Arr.ofFn
  congr 2
  funext k
  exact h _ (inShape_unflat shape k.val k.isLt)

/-- Reading an array built from a function returns the function, inside the shape. -/
theorem Arr.getD_ofFn {α : Type} (shape idx : List Nat) (f : List Nat → α) (d : α)
    (h : inShape shape idx = true) : (Arr.ofFn shape f).getD idx d = f idx := by
  have hlt := flatIdx_lt h
  simp [Arr.getD, Arr.ofFn, h, Array.getD, hlt, unflat_flatIdx h]

/-- … and the default outside. -/
theorem Arr.getD_ofFn_out {α : Type} (shape idx : List Nat) (f : List Nat → α) (d : α)
    (h : inShape shape idx = false) : (Arr.ofFn shape f).getD idx d = d := by
  simp [Arr.getD, Arr.ofFn, h]

theorem Arr.size_ofFn {α : Type} (shape : List Nat) (f : List Nat → α) :
    (Arr.ofFn shape f).data.size = prodL shape := by
  simp [Arr.ofFn]

end Pm
