import PytmeModel.Model.C01
import PytmeModel.Proofs.Circ
import Mathlib.Algebra.BigOperators.Group.Finset.Basic
import Mathlib.Algebra.BigOperators.Ring.Finset
import Mathlib.Algebra.BigOperators.Intervals
import Mathlib.Tactic.Ring
import Mathlib.Tactic.Linarith

/-! The convolution theorem for the discrete Fourier transform, purely algebraically: over any commutative ring
and any `ω` with `ω^N = 1` (for ℂ: `ω = exp(-2πi/N)`), the transform of the circular convolution is the product of
the transforms.  This is the mathematical content behind "`irfftn(rfftn(a)·rfftn(b))` is `circ`"; what remains
trusted is that pyFFTW computes this transform and its inverse. -/
open Finset
namespace Pm.C01

variable {R : Type} [CommRing R]

/-- discrete Fourier transform of length `N` with respect to `ω` -/
def dftN (N : Nat) (ω : R) (a : Nat → R) (k : Nat) : R := ∑ j ∈ range N, a j * ω ^ (j * k)

/-- 1-D circular convolution on `ℤ/N` of sequences indexed by `0..N-1` -/
def cconvN (N : Nat) (a b : Nat → R) (u : Nat) : R := ∑ j ∈ range N, a j * b ((u + N - j) % N)

theorem pow_mod_of_pow_eq_one (ω : R) (N : Nat) (hω : ω ^ N = 1) (x : Nat) : ω ^ (x % N) = ω ^ x := by
  conv_rhs => rw [← Nat.div_add_mod x N]
  rw [pow_add, pow_mul, hω, one_pow, one_mul]

theorem add_mod_add_mod_cancel (N a c u : Nat) (hu : u < N) (h : (a + c) % N = 0) : ((u + a) % N + c) % N = u := by
  rw [Nat.mod_add_mod, Nat.add_assoc, Nat.add_mod, h, Nat.add_zero, Nat.mod_mod, Nat.mod_eq_of_lt hu]

theorem shifted_sum (N : Nat) (ω : R) (hω : ω ^ N = 1) (b : Nat → R) (j k : Nat) (hj : j < N) :
    ∑ u ∈ range N, b ((u + N - j) % N) * ω ^ (u * k) = ω ^ (j * k) * ∑ r ∈ range N, b r * ω ^ (r * k) := by
  rw [Finset.mul_sum]
  have hN := Nat.zero_lt_of_lt hj
  refine Finset.sum_nbij' (fun u => (u + N - j) % N) (fun r => (r + j) % N) ?_ ?_ ?_ ?_ ?_
  · intro u _; exact mem_range.mpr (Nat.mod_lt _ hN)
  · intro r _; exact mem_range.mpr (Nat.mod_lt _ hN)
  · intro u hu
    show ((u + N - j) % N + j) % N = u
    rw [Nat.add_sub_assoc hj.le]
    exact add_mod_add_mod_cancel N (N - j) j u (mem_range.mp hu) (by rw [Nat.sub_add_cancel hj.le, Nat.mod_self])
  · intro r hr
    show ((r + j) % N + N - j) % N = r
    rw [Nat.add_sub_assoc hj.le]
    exact add_mod_add_mod_cancel N j (N - j) r (mem_range.mp hr) (by rw [Nat.add_sub_cancel' hj.le, Nat.mod_self])
  · intro u _
    -- `ω^(j k) · ω^(((u+N-j)%N) k) = (ω^j · ω^(u+N-j))^k = (ω^(u+N))^k = ω^(u k)`
    have key : ω ^ (j * k) * ω ^ ((u + N - j) % N * k) = ω ^ (u * k) := by
      rw [pow_mul, pow_mul, pow_mod_of_pow_eq_one ω N hω, ← mul_pow, ← pow_add,
        show j + (u + N - j) = u + N by omega, pow_add, hω, mul_one, pow_mul]
    rw [← key]; ring

/-- **Convolution theorem.**  The length-`N` transform of the circular convolution is the product of the transforms. -/
theorem dft_cconv (N : Nat) (ω : R) (hω : ω ^ N = 1) (a b : Nat → R) (k : Nat) :
    dftN N ω (cconvN N a b) k = dftN N ω a k * dftN N ω b k := by
  unfold dftN cconvN
  calc ∑ u ∈ range N, (∑ j ∈ range N, a j * b ((u + N - j) % N)) * ω ^ (u * k)
      = ∑ u ∈ range N, ∑ j ∈ range N, a j * (b ((u + N - j) % N) * ω ^ (u * k)) := by
        apply Finset.sum_congr rfl; intro u _; rw [Finset.sum_mul]
        apply Finset.sum_congr rfl; intro j _; ring
    _ = ∑ j ∈ range N, ∑ u ∈ range N, a j * (b ((u + N - j) % N) * ω ^ (u * k)) := Finset.sum_comm
    _ = ∑ j ∈ range N, a j * (ω ^ (j * k) * ∑ r ∈ range N, b r * ω ^ (r * k)) := by
        apply Finset.sum_congr rfl; intro j hj
        rw [← Finset.mul_sum, shifted_sum N ω hω b j k (mem_range.mp hj)]
    _ = (∑ j ∈ range N, a j * ω ^ (j * k)) * ∑ r ∈ range N, b r * ω ^ (r * k) := by
        rw [Finset.sum_mul]; apply Finset.sum_congr rfl; intro j _; ring

/-- n-D discrete Fourier transform on the box `Ns` (one root per axis), defined as the iteration of the 1-D
transform over the axes (what `rfftn`/`fftn` compute, up to the half-spectrum storage) -/
def dftS : List Nat → List R → (List Int → R) → List Nat → R
  | [], _, F, _ => F []
  | N :: Ns, ωs, F, ks =>
      dftN N (ωs.headD 1) (fun i => dftS Ns ωs.tail (fun idx => F ((i : Int) :: idx)) ks.tail) (ks.headD 0)

/-- every axis has a root of unity of its own length -/
def RootsOk : List Nat → List R → Prop
  | [], _ => True
  | N :: Ns, ωs => (ωs.headD 1) ^ N = 1 ∧ RootsOk Ns ωs.tail

theorem dftS_sum : ∀ (Ns : List Nat) (ωs : List R) (M : Nat) (G : Nat → List Int → R) (ks : List Nat),
    dftS Ns ωs (fun idx => ∑ j ∈ range M, G j idx) ks = ∑ j ∈ range M, dftS Ns ωs (G j) ks
  | [], _, _, _, _ => rfl
  | N :: Ns, ωs, M, G, ks => by
    simp only [dftS, dftN]
    have : ∀ i, dftS Ns ωs.tail (fun idx => ∑ j ∈ range M, G j ((i : Int) :: idx)) ks.tail
        = ∑ j ∈ range M, dftS Ns ωs.tail (fun idx => G j ((i : Int) :: idx)) ks.tail :=
      fun i => dftS_sum Ns ωs.tail M (fun j idx => G j ((i : Int) :: idx)) ks.tail
    simp only [this, Finset.sum_mul]
    exact Finset.sum_comm

theorem dftS_congr : ∀ (Ns : List Nat) (ωs : List R) (F G : List Int → R) (ks : List Nat),
    (∀ idx : List Nat, inShape Ns idx = true → F (natsToInts idx) = G (natsToInts idx)) →
    dftS Ns ωs F ks = dftS Ns ωs G ks
  | [], _, F, G, _, h => h [] rfl
  | N :: Ns, ωs, F, G, ks, h => by
    simp only [dftS, dftN]
    apply Finset.sum_congr rfl
    intro i hi
    congr 1
    apply dftS_congr Ns ωs.tail _ _ ks.tail
    intro idx hidx
    have := h (i :: idx) (by simp [inShape, mem_range.mp hi, hidx])
    simpa [natsToInts] using this

theorem circ_cons (N : Nat) (Ns : List Nat) (a b : List Int → R) (i : Nat) (idx : List Int) :
    circ (N :: Ns) a b ((i : Int) :: idx)
      = ∑ j ∈ range N, circ Ns (fun x => a ((j : Int) :: x)) (fun x => b ((((i + N - j) % N : Nat) : Int) :: x)) idx := by
  unfold circ
  simp only [sumShape, sumRange_eq_sum]
  apply Finset.sum_congr rfl
  intro j hj
  have hj' := mem_range.mp hj
  have e : ((i : Int) - (j : Int)) % (N : Int) = (((i + N - j) % N : Nat) : Int) := by
    rw [Int.natCast_mod, show ((i + N - j : Nat) : Int) = (i : Int) - j + N by omega, Int.add_emod_right]
  rw [← e]
  rfl

/-- **Convolution theorem in n dimensions.**  On every box, for every choice of per-axis roots of unity, the
separable transform of the model's circular convolution `circ` is the pointwise product of the transforms. -/
theorem dftS_circ : ∀ (Ns : List Nat) (ωs : List R) (_ : RootsOk Ns ωs) (a b : List Int → R) (ks : List Nat),
    dftS Ns ωs (fun u => circ Ns a b u) ks = dftS Ns ωs a ks * dftS Ns ωs b ks
  | [], _, _, a, b, _ => by simp [dftS, circ, sumShape, natsToInts, wrapSub]
  | N :: Ns, ωs, ⟨hω0, hωt⟩, a, b, ks => by
    -- along the first axis the slice transforms of `circ` are the 1-D circular convolution of the slice transforms
    have hslice : ∀ i : Nat, dftS Ns ωs.tail (fun idx => circ (N :: Ns) a b ((i : Int) :: idx)) ks.tail
        = cconvN N (fun j => dftS Ns ωs.tail (fun x => a ((j : Int) :: x)) ks.tail)
            (fun r => dftS Ns ωs.tail (fun x => b ((r : Int) :: x)) ks.tail) i := by
      intro i
      simp only [circ_cons, dftS_sum]
      exact Finset.sum_congr rfl fun j _ => dftS_circ Ns ωs.tail hωt _ _ ks.tail
    simp only [dftS, hslice]
    exact dft_cconv N (ωs.headD 1) hω0 _ _ (ks.headD 0)

/-- **1-D: `circ` is the function whose DFT is the product of the DFTs.** -/
theorem dft_circ1 (N : Nat) (ω : R) (hω : ω ^ N = 1) (a b : List Int → R) (k : Nat) :
    dftN N ω (fun u => circ [N] a b [(u : Int)]) k
      = dftN N ω (fun j => a [(j : Int)]) k * dftN N ω (fun r => b [(r : Int)]) k :=
  dftS_circ [N] [ω] ⟨hω, trivial⟩ a b [k]

end Pm.C01
