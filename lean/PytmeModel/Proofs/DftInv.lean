import PytmeModel.Proofs.DftConv
import Mathlib.Algebra.Ring.GeomSum
import Mathlib.Algebra.Field.Basic
import Mathlib.Tactic.Ring
import Mathlib.Tactic.Linarith
import Mathlib.Tactic.FieldSimp

/-! Fourier inversion on `ℤ/N` over a field that contains a primitive `N`-th root of unity and in which `N` is
invertible (ℂ with `ω = exp(-2πi/N)`): the transform is injective, so "the array whose transform is the product of the
transforms" is *the* circular convolution. -/
open Finset
namespace Pm.C01

variable {K : Type} [Field K]

/-- `ω` is a primitive `N`-th root of unity (stated without Mathlib's bundled notion) -/
structure PrimRoot (N : Nat) (ω : K) : Prop where
  pow_N : ω ^ N = 1
  ne_one : ∀ l, 0 < l → l < N → ω ^ l ≠ 1

theorem geom_sum_root (ζ : K) (N : Nat) (h1 : ζ ^ N = 1) (hne : ζ ≠ 1) : ∑ k ∈ range N, ζ ^ k = 0 := by
  have h := geom_sum_mul ζ N
  rw [h1, sub_self] at h
  rcases mul_eq_zero.mp h with h | h
  · exact h
  · exact absurd (sub_eq_zero.mp h) hne

theorem char_orth (N : Nat) (ω : K) (hp : PrimRoot N ω) (i j : Nat) (hi : i < N) (hj : j < N) :
    ∑ k ∈ range N, ω ^ (i * k) * ω ^ ((N - j) * k) = if i = j then (N : K) else 0 := by
  have e : ∀ k, ω ^ (i * k) * ω ^ ((N - j) * k) = (ω ^ (i + (N - j))) ^ k := by
    intro k; rw [← pow_add, ← pow_mul, Nat.add_mul]
  simp only [e]
  split
  · rename_i h
    subst h
    rw [Nat.add_sub_cancel' hi.le, hp.pow_N]
    simp only [one_pow, sum_const, card_range, nsmul_eq_mul, mul_one]
  · rename_i h
    apply geom_sum_root
    · rw [← pow_mul, mul_comm, pow_mul, hp.pow_N, one_pow]
    · -- the exponent is `i + N - j` or `N + (i - j)`, a proper power of the primitive root either way
      rcases Nat.lt_or_gt_of_ne h with hlt | hgt
      · exact hp.ne_one _ (by omega) (by omega)
      · rw [show i + (N - j) = N + (i - j) by omega, pow_add, hp.pow_N, one_mul]
        exact hp.ne_one _ (by omega) (by omega)

/-- **Fourier inversion** (un-normalised): `Σ_k â(k) ω^{-jk} = N · a(j)` for `j < N` -/
theorem idft_dft (N : Nat) (ω : K) (hp : PrimRoot N ω) (a : Nat → K) (j : Nat) (hj : j < N) :
    ∑ k ∈ range N, dftN N ω a k * ω ^ ((N - j) * k) = (N : K) * a j := by
  unfold dftN
  calc ∑ k ∈ range N, (∑ i ∈ range N, a i * ω ^ (i * k)) * ω ^ ((N - j) * k)
      = ∑ k ∈ range N, ∑ i ∈ range N, a i * (ω ^ (i * k) * ω ^ ((N - j) * k)) := by
        apply Finset.sum_congr rfl; intro k _; rw [Finset.sum_mul]
        apply Finset.sum_congr rfl; intro i _; ring
    _ = ∑ i ∈ range N, ∑ k ∈ range N, a i * (ω ^ (i * k) * ω ^ ((N - j) * k)) := Finset.sum_comm
    _ = ∑ i ∈ range N, a i * (if i = j then (N : K) else 0) := by
        apply Finset.sum_congr rfl; intro i hi
        rw [← Finset.mul_sum, char_orth N ω hp i j (mem_range.mp hi) hj]
    _ = (N : K) * a j := by
        rw [Finset.sum_eq_single_of_mem j (mem_range.mpr hj) fun i _ hij => by rw [if_neg hij, mul_zero],
          if_pos rfl, mul_comm]

theorem dftN_injective (N : Nat) (ω : K) (hp : PrimRoot N ω) (hN : (N : K) ≠ 0) (a b : Nat → K)
    (h : ∀ k, k < N → dftN N ω a k = dftN N ω b k) (j : Nat) (hj : j < N) : a j = b j := by
  have ha := idft_dft N ω hp a j hj
  have hb := idft_dft N ω hp b j hj
  have : ∑ k ∈ range N, dftN N ω a k * ω ^ ((N - j) * k) = ∑ k ∈ range N, dftN N ω b k * ω ^ ((N - j) * k) := by
    apply Finset.sum_congr rfl; intro k hk; rw [h k (mem_range.mp hk)]
  rw [ha, hb] at this
  exact mul_left_cancel₀ hN this

/-- every axis has a primitive root of its own length and an invertible length -/
def RootsPrim : List Nat → List K → Prop
  | [], _ => True
  | N :: Ns, ωs => PrimRoot N (ωs.headD 1) ∧ ((N : K) ≠ 0) ∧ RootsPrim Ns ωs.tail

theorem RootsPrim.rootsOk : ∀ (Ns : List Nat) (ωs : List K), RootsPrim Ns ωs → RootsOk Ns ωs
  | [], _, _ => trivial
  | _ :: Ns, ωs, h => ⟨h.1.pow_N, RootsPrim.rootsOk Ns ωs.tail h.2.2⟩

/-- the separable n-D transform is injective on fields over the box -/
theorem dftS_injective : ∀ (Ns : List Nat) (ωs : List K) (_ : RootsPrim Ns ωs) (F G : List Int → K),
    (∀ ks, inShape Ns ks = true → dftS Ns ωs F ks = dftS Ns ωs G ks) →
    ∀ idx, inShape Ns idx = true → F (natsToInts idx) = G (natsToInts idx)
  | [], _, _, F, G, h, [], _ => h [] rfl
  | [], _, _, _, _, _, _ :: _, hidx => Bool.noConfusion hidx
  | _ :: _, _, _, _, _, _, [], hidx => Bool.noConfusion hidx
  | N :: Ns, ωs, ⟨hp0, hN, hpt⟩, F, G, h, i :: is, hidx => by
    simp only [inShape, Bool.and_eq_true, decide_eq_true_eq] at hidx
    obtain ⟨hi, his⟩ := hidx
    -- for every frequency tail, the 1-D transforms along the first axis agree, hence the slices' transforms agree
    have hslice : ∀ ks', inShape Ns ks' = true →
        dftS Ns ωs.tail (fun x => F ((i : Int) :: x)) ks' = dftS Ns ωs.tail (fun x => G ((i : Int) :: x)) ks' := by
      intro ks' hks'
      apply dftN_injective N (ωs.headD 1) hp0 hN
        (fun j => dftS Ns ωs.tail (fun x => F ((j : Int) :: x)) ks')
        (fun j => dftS Ns ωs.tail (fun x => G ((j : Int) :: x)) ks') _ i hi
      intro k hk
      exact h (k :: ks') (by simp only [inShape, hk, hks', decide_true, Bool.and_self])
    exact dftS_injective Ns ωs.tail hpt (fun x => F ((i : Int) :: x)) (fun x => G ((i : Int) :: x)) hslice is his

/-- **`circ` is the only field whose transform is the product of the transforms.**  If an array `X` on the box `Ns`
has, at every frequency, the separable DFT `â·b̂` — which is what `irfftn(rfftn(a)·rfftn(b))` returns when the FFT
library computes the transform and its inverse — then `X` *is* the model's circular convolution at every voxel. -/
theorem circ_unique_nd (Ns : List Nat) (ωs : List K) (hp : RootsPrim Ns ωs) (a b X : List Int → K)
    (hX : ∀ ks, inShape Ns ks = true → dftS Ns ωs X ks = dftS Ns ωs a ks * dftS Ns ωs b ks)
    (u : List Nat) (hu : inShape Ns u = true) : X (natsToInts u) = circ Ns a b (natsToInts u) := by
  apply dftS_injective Ns ωs hp X (fun v => circ Ns a b v) _ u hu
  intro ks hks
  rw [hX ks hks, dftS_circ Ns ωs (RootsPrim.rootsOk Ns ωs hp) a b ks]

end Pm.C01
