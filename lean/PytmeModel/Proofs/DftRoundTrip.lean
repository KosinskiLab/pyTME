import PytmeModel.Proofs.DftInv

/-! The inverse transform undoes the transform, n-D (exact arithmetic): what `irfftn ∘ rfftn = id` means for the
separable DFT of `Proofs/DftConv.lean`. -/
open Finset
namespace Pm.C01

variable {K : Type} [Field K]

/-- un-normalised inverse transform along the axes: `Σ_k X(k) ω^{-j k}` with `ω^{-jk}` written as `ω^{(N-j) k}` -/
def idftS : List Nat → List K → (List Nat → K) → List Nat → K
  | [], _, X, _ => X []
  | N :: Ns, ωs, X, js =>
      ∑ k ∈ range N, idftS Ns ωs.tail (fun ks => X (k :: ks)) js.tail * (ωs.headD 1) ^ ((N - js.headD 0) * k)

theorem idftS_sum_smul : ∀ (Ns : List Nat) (ωs : List K) (M : Nat) (G : Nat → List Nat → K) (c : Nat → K)
    (js : List Nat),
    idftS Ns ωs (fun ks => ∑ i ∈ range M, G i ks * c i) js = ∑ i ∈ range M, idftS Ns ωs (G i) js * c i
  | [], _, _, _, _, _ => rfl
  | N :: Ns, ωs, M, G, c, js => by
    simp only [idftS]
    have : ∀ k, idftS Ns ωs.tail (fun ks => ∑ i ∈ range M, G i (k :: ks) * c i) js.tail
        = ∑ i ∈ range M, idftS Ns ωs.tail (fun ks => G i (k :: ks)) js.tail * c i :=
      fun k => idftS_sum_smul Ns ωs.tail M (fun i ks => G i (k :: ks)) c js.tail
    simp only [this, Finset.sum_mul]
    rw [Finset.sum_comm]
    exact Finset.sum_congr rfl fun i _ => Finset.sum_congr rfl fun k _ => mul_right_comm _ _ _

theorem idftS_congr : ∀ (Ns : List Nat) (ωs : List K) (X Y : List Nat → K) (js : List Nat),
    (∀ ks, X ks = Y ks) → idftS Ns ωs X js = idftS Ns ωs Y js := by
  intro Ns ωs X Y js h
  have : X = Y := funext h
  rw [this]

/-- number of voxels of the box as a field element -/
def boxCard : List Nat → K
  | [] => 1
  | N :: Ns => (N : K) * boxCard Ns

/-- **Round trip**: the inverse transform of the transform is `|box| ·` the field, at every voxel of the box — for
every shape, every parity, every dimension. -/
theorem idftS_dftS : ∀ (Ns : List Nat) (ωs : List K) (_ : RootsPrim Ns ωs) (F : List Int → K) (js : List Nat),
    inShape Ns js = true →
    idftS Ns ωs (fun ks => dftS Ns ωs F ks) js = boxCard Ns * F (natsToInts js)
  | [], _, _, F, [], _ => (one_mul _).symm
  | [], _, _, _, _ :: _, hjs => Bool.noConfusion hjs
  | _ :: _, _, _, _, [], hjs => Bool.noConfusion hjs
  | N :: Ns, ωs, ⟨hp0, _, hpt⟩, F, j :: js', hjs => by
    simp only [inShape, Bool.and_eq_true, decide_eq_true_eq] at hjs
    obtain ⟨hj, hjs'⟩ := hjs
    have inner : ∀ k, idftS Ns ωs.tail (fun ks => dftS (N :: Ns) ωs F (k :: ks)) js'
        = boxCard Ns * dftN N (ωs.headD 1) (fun i => F ((i : Int) :: natsToInts js')) k := by
      intro k
      have e : (fun ks => dftS (N :: Ns) ωs F (k :: ks))
          = fun ks => ∑ i ∈ range N, dftS Ns ωs.tail (fun idx => F ((i : Int) :: idx)) ks * (ωs.headD 1) ^ (i * k) :=
        rfl
      rw [e, idftS_sum_smul, dftN, Finset.mul_sum]
      apply Finset.sum_congr rfl
      intro i _
      rw [idftS_dftS Ns ωs.tail hpt (fun idx => F ((i : Int) :: idx)) js' hjs', mul_assoc]
    simp only [idftS, List.tail_cons, List.headD_cons, inner, mul_assoc, ← Finset.mul_sum]
    rw [idft_dft N (ωs.headD 1) hp0 (fun i => F ((i : Int) :: natsToInts js')) j hj]
    show boxCard Ns * ((N : K) * F ((j : Int) :: natsToInts js')) = (N : K) * boxCard Ns * F ((j : Int) :: natsToInts js')
    ring

end Pm.C01
