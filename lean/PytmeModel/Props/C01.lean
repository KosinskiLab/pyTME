import PytmeModel.Model.C01
import PytmeModel.Proofs.Circ
import PytmeModel.Proofs.Common
import PytmeModel.Proofs.C01Field
import PytmeModel.Proofs.C01Frame
import PytmeModel.Proofs.C01Textbook
import PytmeModel.Proofs.C01Grid
import PytmeModel.Proofs.DftConv
import PytmeModel.Proofs.DftInv
import Mathlib.Algebra.BigOperators.Group.Finset.Basic
import Mathlib.Tactic.Ring
import Mathlib.Tactic.Linarith

/-! # C01 — FFT-computed scores equal their spatial-domain definitions -/
namespace Pm.C01

/-- a field vanishes outside the box `[0, ns)` -/
def Supp {α} [Zero α] (ns : List Nat) (f : List Int → α) : Prop := ∀ j, OutOfBox ns j → f j = 0

theorem supp_rev {α} [Zero α] (ms : List Nat) (g : List Int → α) (hg : Supp ms g) : Supp ms (rev ms g) := by
  intro r hr
  unfold rev
  split
  · exact hg _ (outOfBox_revIdx ms r hr)
  · exact hg _ hr

/-- per axis, the centre voxel `m/2` splits the template into `m/2` voxels before and `(m-1)/2` after it (odd: equal
halves; even: one more before) -/
theorem centre_split (m : Nat) (hm : 0 < m) : m / 2 + (m - 1) / 2 = m - 1 := by omega

theorem winIdx_rawPos : ∀ (ms : List Nat) (t : List Int) (k : List Nat),
    (∀ m ∈ ms, 0 < m) → winIdx ms (rawPos ms t) k = specIdx ms t k
  | [], _, _, _ => rfl
  | _ :: _, [], _, _ => rfl
  | _ :: _, _ :: _, [], _ => rfl
  | m :: ms, t :: ts, k :: ks, hpos => by
    simp only [winIdx, rawPos, specIdx]
    rw [winIdx_rawPos ms ts ks (fun x hx => hpos x (List.mem_cons_of_mem _ hx))]
    congr 1
    have hm := hpos m List.mem_cons_self
    -- with the two halves as variables the goal is linear (`omega` is slow on the divisions)
    have hc := centre_split m hm
    generalize m / 2 = c at hc ⊢
    generalize (m - 1) / 2 = d at hc ⊢
    omega

/-- **Theorem A (any dimension, any commutative semiring).**  The FFT product of the zero-padded
target with the zero-padded *reversed* template, read at raw position `t + (m-1)/2`, is the
correlation of the zero-extended target with the template whose voxel `m/2` sits at `t`. -/
theorem rawCorr_eq_corrSpec {α} [CommSemiring α] (ns ms Ns : List Nat) (t : List Int)
    (f g : List Int → α) (hf : Supp ns f) (hg : Supp ms g)
    (hax : AxesOk ns ms Ns (rawPos ms t)) (hpos : ∀ m ∈ ms, 0 < m) :
    circ Ns f (rev ms g) (rawPos ms t) = corrSpec ms f g t := by
  unfold circ corrSpec
  rw [circ_reindex_nd ns ms Ns (rawPos ms t) (fun j r => f j * rev ms g r) hax]
  · apply sumShape_congr
    intro k hk
    simp only [rev, revK_length ms k hk, if_true]
    rw [winIdx_rawPos ms t k hpos, revIdx_revK ms k hk]
  · intro j r h
    rcases outOfRange_cases ns ms j r h with h' | h'
    · rw [hf j h']; simp
    · rw [supp_rev ms g hg r h']; simp

/-! ## Frames: `roll(fourier_shift)`, `[:conv]`, `same` / `valid` crop -/

/-- side conditions of the `same` frame, per axis: template not larger than the target, fast shape at
least the convolution shape, `t` a target voxel and — without Fourier padding — the window inside -/
def SameOk (pad : Bool) : List Nat → List Nat → List Nat → List Int → Prop
  | [], [], [], [] => True
  | n :: ns, m :: ms, N :: Ns, t :: ts =>
      (0 < m ∧ m ≤ n ∧ convLen n m pad ≤ N ∧ 0 ≤ t ∧ t < n ∧
        (pad = false → (((m / 2 : Nat) : Int) ≤ t ∧ t ≤ (n : Int) - 1 - (((m - 1) / 2 : Nat) : Int)))) ∧
      SameOk pad ns ms Ns ts
  | _, _, _, _ => False

theorem same_axis (pad : Bool) (n m N : Nat) (t : Int) (hm : 0 < m) (hmn : m ≤ n) (hN : convLen n m pad ≤ N)
    (ht0 : 0 ≤ t) (ht1 : t < n)
    (hwin : pad = false → (((m / 2 : Nat) : Int) ≤ t ∧ t ≤ (n : Int) - 1 - (((m - 1) / 2 : Nat) : Int))) :
    let u := t + (((m - 1) / 2 : Nat) : Int)
    rawIdx N (fourierShift m pad) (cropStart (convLen n m pad) n) t = u ∧
    (0 < m ∧ n ≤ N ∧ (u + N - ((n:Int) - 1) ≥ m ∨ u ≥ (n:Int) - 1) ∧ u < N ∧ 0 ≤ u) := by
  have hnN : n ≤ N := (le_convLen n m pad hm).trans hN
  have hd := sameCrop_sub_shift pad n m hm hmn
  have hc := centre_split m hm
  generalize (m - 1) / 2 = d at *
  generalize m / 2 = c at *
  refine frame_axis n m N _ _ t _ (by rw [add_sub_assoc, hd]) hm hnN ?_
  cases pad
  · obtain ⟨hw0, hw1⟩ := hwin rfl
    omega
  · have := (add_le_convLen_pad n m).trans hN
    omega

theorem implCorr_of_frame {α} [CommSemiring α] {ns ms Ns : List Nat} {ss cs t t' : List Int} {f g : List Int → α}
    (hf : Supp ns f) (hg : Supp ms g)
    (h : frameIdx Ns ss cs t = rawPos ms t' ∧ AxesOk ns ms Ns (rawPos ms t') ∧ ∀ m ∈ ms, 0 < m) :
    implCorr Ns ms ss cs f g t = corrSpec ms f g t' := by
  unfold implCorr
  rw [h.1]
  exact rawCorr_eq_corrSpec ns ms Ns t' f g hf hg h.2.1 h.2.2

theorem frame_same (pad : Bool) : ∀ (ns ms Ns : List Nat) (t : List Int), SameOk pad ns ms Ns t →
    frameIdx Ns (shiftsOf pad ms) (sameCrops pad ns ms) t = rawPos ms t ∧ AxesOk ns ms Ns (rawPos ms t) ∧
    (∀ m ∈ ms, 0 < m)
  | [], [], [], [], _ => frame_nil
  | n :: ns, m :: ms, N :: Ns, t :: ts, ⟨⟨hm, hmn, hN, ht0, ht1, hwin⟩, hrest⟩ =>
    frame_cons (same_axis pad n m N t hm hmn hN ht0 ht1 hwin) (frame_same pad ns ms Ns ts hrest)
  | [], _ :: _, _, _, h => h.elim
  | [], [], _ :: _, _, h => h.elim
  | [], [], [], _ :: _, h => h.elim
  | _ :: _, [], _, _, h => h.elim
  | _ :: _, _ :: _, [], _, h => h.elim
  | _ :: _, _ :: _, _ :: _, [], h => h.elim

/-- **C01, `same` frame (unsplit search), any dimension.**  The value the pipeline reports at a target
voxel `t` is the correlation of the zero-extended target with the template window whose voxel
`m/2` sits at `t` — for every `t` with full Fourier padding, and for every `t` whose window lies
inside the target without it. -/
theorem implCorr_same {α} [CommSemiring α] (pad : Bool) (ns ms Ns : List Nat) (t : List Int)
    (f g : List Int → α) (hf : Supp ns f) (hg : Supp ms g) (h : SameOk pad ns ms Ns t) :
    implCorr Ns ms (shiftsOf pad ms) (sameCrops pad ns ms) f g t = corrSpec ms f g t :=
  implCorr_of_frame hf hg (frame_same pad ns ms Ns t h)

/-- one axis of the `same` frame with full Fourier padding, *all* branches of `_fourier_padding`: whatever the relation of
template and target extent, output position `t` reads raw position `t + (m-1)/2` -/
theorem same_axis_full (n m N : Nat) (t : Int) (hm : 0 < m) (hn : 0 < n) (hN : convLen n m true ≤ N)
    (ht0 : 0 ≤ t) (ht1 : t < n) :
    let u := t + (((m - 1) / 2 : Nat) : Int)
    rawIdx N (fourierShiftFull n m true) (cropStart (convLen n m true) n) t = u ∧
    (0 < m ∧ n ≤ N ∧ (u + N - ((n:Int) - 1) ≥ m ∨ u ≥ (n:Int) - 1) ∧ u < N ∧ 0 ≤ u) := by
  by_cases hmn : m ≤ n
  · rw [fourierShiftFull_pad_le n m hmn]
    exact same_axis true n m N t hm hmn hN ht0 ht1 (fun h => nomatch h)
  · have hlt : n < m := Nat.lt_of_not_le hmn
    have hconv : convLen n m true = m + m - 1 := by simp only [convLen, if_true, Nat.max_eq_right hlt.le]
    rw [hconv] at hN ⊢
    rw [fourierShiftFull_pad_lt n m hlt]
    have hd : cropStart (m + m - 1) n - (((m / 2 : Nat) : Int) - ((n / 2 : Nat) : Int)) = (((m - 1) / 2 : Nat) : Int) := by
      unfold cropStart; omega
    have hc := centre_split m hm
    generalize (m - 1) / 2 = d at *
    generalize m / 2 = c at *
    exact frame_axis n m N _ _ t _ (by rw [add_sub_assoc, hd]) hm (by omega) (by omega)

/-- side conditions with full Fourier padding: any positive extents -/
def SameFullOk : List Nat → List Nat → List Nat → List Int → Prop
  | [], [], [], [] => True
  | n :: ns, m :: ms, N :: Ns, t :: ts =>
      (0 < m ∧ 0 < n ∧ convLen n m true ≤ N ∧ 0 ≤ t ∧ t < n) ∧ SameFullOk ns ms Ns ts
  | _, _, _, _ => False

theorem frame_same_full : ∀ (ns ms Ns : List Nat) (t : List Int), SameFullOk ns ms Ns t →
    frameIdx Ns (shiftsOfFull true ns ms) (sameCrops true ns ms) t = rawPos ms t ∧ AxesOk ns ms Ns (rawPos ms t) ∧
    (∀ m ∈ ms, 0 < m)
  | [], [], [], [], _ => frame_nil
  | n :: ns, m :: ms, N :: Ns, t :: ts, ⟨⟨hm, hn, hN, ht0, ht1⟩, hrest⟩ =>
    frame_cons (same_axis_full n m N t hm hn hN ht0 ht1) (frame_same_full ns ms Ns ts hrest)
  | [], _ :: _, _, _, h => h.elim
  | [], [], _ :: _, _, h => h.elim
  | [], [], [], _ :: _, h => h.elim
  | _ :: _, [], _, _, h => h.elim
  | _ :: _, _ :: _, [], _, h => h.elim
  | _ :: _, _ :: _, _ :: _, [], h => h.elim

/-- **C01 with full Fourier padding, no restriction on the template's extent.**  Also when the template is larger than
the target on some axes (the correction branch of `_fourier_padding`: halved shape difference, parity offsets, truncating
cast), the value reported at every target voxel `t` is the windowed sum over the zero-extended target with template voxel
`m/2` at `t`. -/
theorem implCorr_same_full {α} [CommSemiring α] (ns ms Ns : List Nat) (t : List Int)
    (f g : List Int → α) (hf : Supp ns f) (hg : Supp ms g) (h : SameFullOk ns ms Ns t) :
    implCorr Ns ms (shiftsOfFull true ns ms) (sameCrops true ns ms) f g t = corrSpec ms f g t :=
  implCorr_of_frame hf hg (frame_same_full ns ms Ns t h)

/-- non-vacuity: a 5-voxel template on a 3-voxel target, fast length 9 -/
example : SameFullOk [3] [5] [9] [2] := by simp only [SameFullOk]; decide

/-- side conditions of the `valid` frame (padded tiles): `j` indexes the cropped map -/
def ValidOk (pad : Bool) : List Nat → List Nat → List Nat → List Int → Prop
  | [], [], [], [] => True
  | n :: ns, m :: ms, N :: Ns, j :: js =>
      (0 < m ∧ m ≤ n ∧ convLen n m pad ≤ N ∧ 0 ≤ j ∧ j < validExt n m) ∧ ValidOk pad ns ms Ns js
  | _, _, _, _ => False

theorem valid_axis (pad : Bool) (n m N : Nat) (j : Int) (hm : 0 < m) (hmn : m ≤ n) (hN : convLen n m pad ≤ N)
    (hj0 : 0 ≤ j) (hj1 : j < validExt n m) :
    let u := (j + ((m / 2 : Nat) : Int)) + (((m - 1) / 2 : Nat) : Int)
    rawIdx N (fourierShift m pad) (cropStart (convLen n m pad) (validExt n m)) j = u ∧
    (0 < m ∧ n ≤ N ∧ (u + N - ((n:Int) - 1) ≥ m ∨ u ≥ (n:Int) - 1) ∧ u < N ∧ 0 ≤ u) := by
  have hnN : n ≤ N := (le_convLen n m pad hm).trans hN
  have hd := validCrop_sub_shift pad n m hm hmn
  have hc := centre_split m hm
  unfold validExt at hj1
  generalize (m - 1) / 2 = d at *
  generalize m / 2 = c at *
  exact frame_axis n m N _ _ j _ (by omega) hm hnN (by omega)

theorem frame_valid (pad : Bool) : ∀ (ns ms Ns : List Nat) (j : List Int), ValidOk pad ns ms Ns j →
    frameIdx Ns (shiftsOf pad ms) (validCrops pad ns ms) j = rawPos ms (validT ms j) ∧
    AxesOk ns ms Ns (rawPos ms (validT ms j)) ∧ (∀ m ∈ ms, 0 < m)
  | [], [], [], [], _ => frame_nil
  | n :: ns, m :: ms, N :: Ns, j :: js, ⟨⟨hm, hmn, hN, hj0, hj1⟩, hrest⟩ =>
    frame_cons (valid_axis pad n m N j hm hmn hN hj0 hj1) (frame_valid pad ns ms Ns js hrest)
  | [], _ :: _, _, _, h => h.elim
  | [], [], _ :: _, _, h => h.elim
  | [], [], [], _ :: _, h => h.elim
  | _ :: _, [], _, _, h => h.elim
  | _ :: _, _ :: _, [], _, h => h.elim
  | _ :: _, _ :: _, _ :: _, [], h => h.elim

/-- **C01/C02, `valid` frame (padded tiles), any dimension.**  Output position `j` of the cropped map is
the correlation at translation `j + m/2` of the scored (padded) array; every such window lies
inside that array, so neither zero padding nor wrap-around contributes. -/
theorem implCorr_valid {α} [CommSemiring α] (pad : Bool) (ns ms Ns : List Nat) (j : List Int)
    (f g : List Int → α) (hf : Supp ns f) (hg : Supp ms g) (h : ValidOk pad ns ms Ns j) :
    implCorr Ns ms (shiftsOf pad ms) (validCrops pad ns ms) f g j = corrSpec ms f g (validT ms j) :=
  implCorr_of_frame hf hg (frame_valid pad ns ms Ns j h)

theorem supp_rot {α} [Zero α] (R : GridRot) (ms : List Nat) (h : R.Ok ms) (g : List Int → α)
    (hg : Supp ms g) : Supp ms (rotF R ms g) := by
  intro x hx
  unfold rotF
  split
  · rename_i hl
    exact hg _ (outOfBox_pull R ms h x hl hx)
  · exact hg x hx

/-- `rot(rev g) = rev(rot g)` as fields: rotating the stored template = storing the rotated one -/
theorem rot_rev_comm {α} (R : GridRot) (ms : List Nat) (h : R.Ok ms) (g : List Int → α) :
    rotF R ms (rev ms g) = rev ms (rotF R ms g) := by
  funext x
  by_cases hx : x.length = ms.length
  · simp only [rotF, rev, pull_length, revIdx_length ms x hx, hx, if_true]
    rw [pull_rev_comm R ms h x hx]
  · simp only [rotF, rev, hx, if_false]

theorem rot_rev_comm3 {α} (R : GridRot) (a b c : Nat) (hR : GridOk3 R a b c) (g : List Int → α) :
    rotF R [a,b,c] (rev [a,b,c] g) = rev [a,b,c] (rotF R [a,b,c] g) :=
  rot_rev_comm R [a,b,c] hR.ok g

theorem rot_rev_comm2 {α} (R : GridRot) (a b : Nat) (hR : GridOk2 R a b) (g : List Int → α) :
    rotF R [a,b] (rev [a,b] g) = rev [a,b] (rotF R [a,b] g) :=
  rot_rev_comm R [a,b] hR.ok g

theorem implCorr_same_rot {α} [CommSemiring α] (pad : Bool) (R : GridRot) (ns ms Ns : List Nat) (t : List Int)
    (f g : List Int → α) (hR : R.Ok ms) (hf : Supp ns f) (hg : Supp ms g) (h : SameOk pad ns ms Ns t) :
    circ Ns f (rotF R ms (rev ms g)) (frameIdx Ns (shiftsOf pad ms) (sameCrops pad ns ms) t)
      = corrSpec ms f (rotF R ms g) t := by
  rw [rot_rev_comm R ms hR]
  exact implCorr_same pad ns ms Ns t f (rotF R ms g) hf (supp_rot R ms hR g hg) h

/-- **C01 with a grid rotation, 3-D.**  The code rotates the *stored* (reversed) template; because
reversal commutes with every grid rotation about the geometric centre, the reported value at `t` is the
correlation with the rotated template `g ∘ R⁻¹`, window centred as before. -/
theorem implCorr_same_rot3 {α} [CommSemiring α] (pad : Bool) (R : GridRot) (a b c : Nat) (n0 n1 n2 N0 N1 N2 : Nat)
    (t0 t1 t2 : Int) (f g : List Int → α) (hR : GridOk3 R a b c)
    (hf : Supp [n0,n1,n2] f) (hg : Supp [a,b,c] g)
    (h : SameOk pad [n0,n1,n2] [a,b,c] [N0,N1,N2] [t0,t1,t2]) :
    circ [N0,N1,N2] f (rotF R [a,b,c] (rev [a,b,c] g))
        (frameIdx [N0,N1,N2] (shiftsOf pad [a,b,c]) (sameCrops pad [n0,n1,n2] [a,b,c]) [t0,t1,t2])
      = corrSpec [a,b,c] f (rotF R [a,b,c] g) [t0,t1,t2] :=
  implCorr_same_rot pad R [n0,n1,n2] [a,b,c] [N0,N1,N2] [t0,t1,t2] f g hR.ok hf hg h

theorem implCorr_same_rot2 {α} [CommSemiring α] (pad : Bool) (R : GridRot) (a b : Nat) (n0 n1 N0 N1 : Nat)
    (t0 t1 : Int) (f g : List Int → α) (hR : GridOk2 R a b)
    (hf : Supp [n0,n1] f) (hg : Supp [a,b] g)
    (h : SameOk pad [n0,n1] [a,b] [N0,N1] [t0,t1]) :
    circ [N0,N1] f (rotF R [a,b] (rev [a,b] g))
        (frameIdx [N0,N1] (shiftsOf pad [a,b]) (sameCrops pad [n0,n1] [a,b]) [t0,t1])
      = corrSpec [a,b] f (rotF R [a,b] g) [t0,t1] :=
  implCorr_same_rot pad R [n0,n1] [a,b] [N0,N1] [t0,t1] f g hR.ok hf hg h

/-! ## The seven scores: implementation formula (stored-frame template, FFT products) = textbook formula
(natural-frame template, windowed sums).  Over any field, with uninterpreted `sqrt`, comparison and `eps`,
so the identities hold whatever the guards decide. -/

section Scores
variable {α : Type} [Field α] (sqrt : α → α) (lt : α → α → Bool) (eps : α)

/-- a rotation of template fields that commutes with reversal and preserves the box support -/
structure RotOk (ms : List Nat) (rot : (List Int → α) → (List Int → α)) : Prop where
  comm : ∀ g, rot (rev ms g) = rev ms (rot g)
  supp : ∀ g, Supp ms g → Supp ms (rot g)

theorem idRot_ok (ms : List Nat) : RotOk (α := α) ms id := ⟨fun _ => rfl, fun _ h => h⟩

theorem gridRot_ok (R : GridRot) (ms : List Nat) (hR : R.Ok ms) : RotOk (α := α) ms (rotF R ms) :=
  ⟨rot_rev_comm R ms hR, supp_rot R ms hR⟩

theorem gridRot3_ok (R : GridRot) (a b c : Nat) (hR : GridOk3 R a b c) : RotOk (α := α) [a,b,c] (rotF R [a,b,c]) :=
  gridRot_ok R [a,b,c] hR.ok

theorem gridRot2_ok (R : GridRot) (a b : Nat) (hR : GridOk2 R a b) : RotOk (α := α) [a,b] (rotF R [a,b]) :=
  gridRot_ok R [a,b] hR.ok

/-- context of one reported voxel: shapes, raw position, side conditions of `rawCorr_eq_corrSpec` -/
structure Ctx where
  ns : List Nat
  ms : List Nat
  Ns : List Nat
  t : List Int
  hax : AxesOk ns ms Ns (rawPos ms t)
  hpos : ∀ m ∈ ms, 0 < m

/-- the implementation's functional: FFT product with a *stored-frame* template field, read at the raw position -/
def Ctx.Cimpl (c : Ctx) : (List Int → α) → (List Int → α) → α := fun a s => circ c.Ns a s (rawPos c.ms c.t)
/-- the textbook functional: windowed sum with a natural-frame template field -/
def Ctx.Cspec (c : Ctx) : (List Int → α) → (List Int → α) → α := fun a b => corrSpec c.ms a b c.t

theorem Ctx.impl_rev (c : Ctx) (a b : List Int → α) (ha : Supp c.ns a) (hb : Supp c.ms b) :
    c.Cimpl a (rev c.ms b) = c.Cspec a b :=
  rawCorr_eq_corrSpec c.ns c.ms c.Ns c.t a b ha hb c.hax c.hpos

theorem supp_mul_right (ms : List Nat) (g w : List Int → α) (hw : Supp ms w) :
    Supp ms (fun x => (fieldOps sqrt lt eps).mul (g x) (w x)) := by
  intro j hj
  simp only [fieldOps, hw j hj, mul_zero]

theorem supp_sq (ms : List Nat) (g : List Int → α) (hg : Supp ms g) :
    Supp ms (fun x => (fieldOps sqrt lt eps).sq (g x)) := by
  intro j hj
  simp only [fieldOps, Ops.sq, hg j hj, mul_zero]

/-- **CC / LCC** with any admissible rotation -/
theorem cc_impl_eq_spec (c : Ctx) (rot) (hrot : RotOk (α := α) c.ms rot) (f g : List Int → α)
    (hf : Supp c.ns f) (hg : Supp c.ms g) :
    scoreCC c.Cimpl f (rot (rev c.ms g)) = scoreCC c.Cspec f (rot g) := by
  unfold scoreCC
  rw [hrot.comm]
  exact c.impl_rev f (rot g) hf (hrot.supp g hg)

/-- **FLC**: template and mask rotated together, standardised per rotation -/
theorem flc_impl_eq_spec (c : Ctx) (rot) (hrot : RotOk (α := α) c.ms rot) (f f2 g w : List Int → α)
    (hf : Supp c.ns f) (hf2 : Supp c.ns f2) (hw : Supp c.ms w) :
    scoreFLC (fieldOps sqrt lt eps) c.Cimpl c.ms f f2 (rot (rev c.ms g)) (rot (rev c.ms w))
      = scoreFLC (fieldOps sqrt lt eps) c.Cspec c.ms f f2 (rot g) (rot w) := by
  unfold scoreFLC
  have hW := hrot.supp w hw
  simp only [hrot.comm, maskSum_rev, normStats_rev, normT_rev]
  rw [c.impl_rev f (rot w) hf hW, c.impl_rev f2 (rot w) hf2 hW,
      c.impl_rev f _ hf (supp_normT sqrt lt eps _ c.ms (rot g) (rot w) hW)]

/-- **CORR / CAM** (CAM = CORR on globally standardised inputs): mask not rotated -/
theorem corr_impl_eq_spec (c : Ctx) (rot) (hrot : RotOk (α := α) c.ms rot) (f f2 g w : List Int → α)
    (hf : Supp c.ns f) (hf2 : Supp c.ns f2) (hw : Supp c.ms w) :
    scoreCORR (fieldOps sqrt lt eps) c.Cimpl c.ms rot f f2 (rev c.ms g) (rev c.ms w)
      = scoreCORR (fieldOps sqrt lt eps) c.Cspec c.ms rot f f2 g w := by
  unfold scoreCORR
  -- every stored-frame integrand / field is the reversal of its natural-frame counterpart
  simp only [maskSum_rev, normStats_rev, normT_rev]
  rw [boxSum_rev_map2 sqrt lt eps c.ms (fieldOps sqrt lt eps).mul,
    boxSum_rev_map2 sqrt lt eps c.ms
      (fun a b => (fieldOps sqrt lt eps).mul ((fieldOps sqrt lt eps).sq ((fieldOps sqrt lt eps).sub a _)) b),
    rev_map2 c.ms (fieldOps sqrt lt eps).mul, hrot.comm,
    c.impl_rev f w hf hw, c.impl_rev f2 w hf2 hw,
    c.impl_rev f _ hf (hrot.supp _ (supp_mul_right sqrt lt eps c.ms _ w hw))]

/-- **FLCSphericalMask**: mask not rotated, template standardised at setup and again after rotation -/
theorem flcSph_impl_eq_spec (c : Ctx) (rot) (hrot : RotOk (α := α) c.ms rot) (f f2 g w : List Int → α)
    (hf : Supp c.ns f) (hf2 : Supp c.ns f2) (hw : Supp c.ms w) :
    scoreFLCSph (fieldOps sqrt lt eps) c.Cimpl c.ms rot f f2 (rev c.ms g) (rev c.ms w)
      = scoreFLCSph (fieldOps sqrt lt eps) c.Cspec c.ms rot f f2 g w := by
  unfold scoreFLCSph
  simp only [maskSum_rev, normStats_rev, normT_rev, hrot.comm]
  rw [c.impl_rev f w hf hw, c.impl_rev f2 w hf2 hw,
      c.impl_rev f _ hf (supp_normT sqrt lt eps _ c.ms _ w hw)]

/-- **MCC**, the per-voxel numerator / denominator / mask overlap (the two map-global thresholds are then
applied by the same code to both sides) -/
theorem mcc_parts_impl_eq_spec (c : Ctx) (rot) (hrot : RotOk (α := α) c.ms rot) (fm fm2 tm g w : List Int → α)
    (hf : Supp c.ns fm) (hf2 : Supp c.ns fm2) (htm : Supp c.ns tm) (hw : Supp c.ms w) :
    mccParts (fieldOps sqrt lt eps) c.Cimpl c.ms fm fm2 tm (rot (rev c.ms g)) (rot (rev c.ms w))
      = mccParts (fieldOps sqrt lt eps) c.Cspec c.ms fm fm2 tm (rot g) (rot w) := by
  unfold mccParts
  have hW := hrot.supp w hw
  simp only [hrot.comm, maskSum_rev, normStats_rev, normT_rev]
  set gh := normT (fieldOps sqrt lt eps)
    (normStats (fieldOps sqrt lt eps) c.ms (rot g) (rot w) (maskSum (fieldOps sqrt lt eps) c.ms (rot w))) (rot g) (rot w)
  have hgh : Supp c.ms gh := supp_normT sqrt lt eps _ c.ms (rot g) (rot w) hW
  have e : (fun x => (fieldOps sqrt lt eps).sq (rev c.ms gh x)) = rev c.ms (fun x => (fieldOps sqrt lt eps).sq (gh x)) :=
    rev_map1 c.ms _ gh
  simp only [e]
  rw [c.impl_rev tm gh htm hgh, c.impl_rev fm gh hf hgh, c.impl_rev tm (rot w) htm hW,
      c.impl_rev fm (rot w) hf hW, c.impl_rev fm2 (rot w) hf2 hW,
      c.impl_rev tm _ htm (supp_sq sqrt lt eps c.ms gh hgh)]

/-- every reported voxel of an unsplit search (`same` frame) provides such a context -/
def Ctx.ofSame (pad : Bool) (ns ms Ns : List Nat) (t : List Int) (h : SameOk pad ns ms Ns t) : Ctx :=
  { ns := ns, ms := ms, Ns := Ns, t := t, hax := (frame_same pad ns ms Ns t h).2.1, hpos := (frame_same pad ns ms Ns t h).2.2 }

theorem Ctx.ofSame_Cimpl (pad : Bool) (ns ms Ns : List Nat) (t : List Int) (h : SameOk pad ns ms Ns t) :
    (Ctx.ofSame pad ns ms Ns t h).Cimpl (α := α)
      = fun a s => circ Ns a s (frameIdx Ns (shiftsOf pad ms) (sameCrops pad ns ms) t) := by
  funext a s
  simp only [Ctx.Cimpl, Ctx.ofSame]
  rw [(frame_same pad ns ms Ns t h).1]

/-- the same for every voxel of a padded tile (`valid` frame): translation `j + m/2` of the tile -/
def Ctx.ofValid (pad : Bool) (ns ms Ns : List Nat) (j : List Int) (h : ValidOk pad ns ms Ns j) : Ctx :=
  { ns := ns, ms := ms, Ns := Ns, t := validT ms j, hax := (frame_valid pad ns ms Ns j h).2.1,
    hpos := (frame_valid pad ns ms Ns j h).2.2 }

theorem Ctx.ofValid_Cimpl (pad : Bool) (ns ms Ns : List Nat) (j : List Int) (h : ValidOk pad ns ms Ns j) :
    (Ctx.ofValid pad ns ms Ns j h).Cimpl (α := α)
      = fun a s => circ Ns a s (frameIdx Ns (shiftsOf pad ms) (validCrops pad ns ms) j) := by
  funext a s
  simp only [Ctx.Cimpl, Ctx.ofValid]
  rw [(frame_valid pad ns ms Ns j h).1]

/-- **C01 headline (FLC, 3-D, grid rotation, unsplit search)**, fully instantiated: the number the FFT pipeline
reports at target voxel `t` is the textbook fast-local-correlation of the window centred (`m/2`) at `t`. -/
theorem flc_same_rot3 (pad : Bool) (R : GridRot) (a b c n0 n1 n2 N0 N1 N2 : Nat) (t0 t1 t2 : Int)
    (hR : GridOk3 R a b c) (f f2 g w : List Int → α)
    (hf : Supp [n0,n1,n2] f) (hf2 : Supp [n0,n1,n2] f2) (hw : Supp [a,b,c] w)
    (h : SameOk pad [n0,n1,n2] [a,b,c] [N0,N1,N2] [t0,t1,t2]) :
    scoreFLC (fieldOps sqrt lt eps)
        (fun x s => circ [N0,N1,N2] x s (frameIdx [N0,N1,N2] (shiftsOf pad [a,b,c]) (sameCrops pad [n0,n1,n2] [a,b,c]) [t0,t1,t2]))
        [a,b,c] f f2 (rotF R [a,b,c] (rev [a,b,c] g)) (rotF R [a,b,c] (rev [a,b,c] w))
      = scoreFLC (fieldOps sqrt lt eps) (fun x y => corrSpec [a,b,c] x y [t0,t1,t2]) [a,b,c] f f2
          (rotF R [a,b,c] g) (rotF R [a,b,c] w) := by
  have := flc_impl_eq_spec sqrt lt eps (Ctx.ofSame pad _ _ _ _ h) (rotF R [a,b,c]) (gridRot3_ok R a b c hR) f f2 g w hf hf2 hw
  rw [Ctx.ofSame_Cimpl] at this
  exact this

end Scores

section textbook
open Pm.C03
variable {α : Type} [Field α] [LinearOrder α] [IsStrictOrderedRing α]

/-- **FLC as the code evaluates it = textbook FLC, for binary masks and grid rotations.**
`flc_setup` standardises the template under the mask and `flc_scoring` standardises the rotated result again under
the rotated mask.  For a mask with values in {0,1} (`w² = w`), positive mass, a template that is not constant under
it, and any rotation that permutes the box (identity, the 4 / 24 grid rotations), the value is the one obtained by
standardising the rotated *raw* template once — the textbook fast local correlation — whatever correlation functional
`C` (FFT or windowed), target and translation. -/
theorem flc_code_eq_textbook_binary (sqrt : α → α) (hs : SqrtOk sqrt) (eps : α)
    (C : (List Int → α) → (List Int → α) → α) (ms : List Nat) (rot) (hr : RotSum (α := α) ms rot)
    (f f2 g w : List Int → α) (hbin : ∀ x, w x * w x = w x)
    (hn : 0 < sumShape ms (fun k => w (natsToInts k)))
    (hvar : 0 < (Win.mk ms (fun k => w (natsToInts k)) (fun k => g (natsToInts k)) (fun k => g (natsToInts k))).B) :
    scoreFLC (ordOps sqrt eps) C ms f f2
        (rot (normT (ordOps sqrt eps) (normStats (ordOps sqrt eps) ms g w (maskSum (ordOps sqrt eps) ms w)) g w)) (rot w)
      = scoreFLC (ordOps sqrt eps) C ms f f2 (rot g) (rot w) := by
  obtain ⟨h1, h2⟩ := normT_idempotent_binary sqrt eps hs ms g w hbin hn hvar
  unfold scoreFLC
  simp only [maskSum_rot sqrt eps ms rot hr, normStats_rot sqrt eps ms rot hr, normT_rot sqrt eps ms rot hr, maskSum_ord, h1, h2]

/-- instance for the 24 grid rotations in 3-D -/
theorem flc_code_eq_textbook_binary_rot3 (sqrt : α → α) (hs : SqrtOk sqrt) (eps : α)
    (C : (List Int → α) → (List Int → α) → α) (R : GridRot) (a b c : Nat) (hR : GridOk3 R a b c)
    (f f2 g w : List Int → α) (hbin : ∀ x, w x * w x = w x)
    (hn : 0 < sumShape [a, b, c] (fun k => w (natsToInts k)))
    (hvar : 0 < (Win.mk [a, b, c] (fun k => w (natsToInts k)) (fun k => g (natsToInts k)) (fun k => g (natsToInts k))).B) :
    scoreFLC (ordOps sqrt eps) C [a, b, c] f f2
        (rotF R [a, b, c] (normT (ordOps sqrt eps) (normStats (ordOps sqrt eps) [a, b, c] g w (maskSum (ordOps sqrt eps) [a, b, c] w)) g w))
        (rotF R [a, b, c] w)
      = scoreFLC (ordOps sqrt eps) C [a, b, c] f f2 (rotF R [a, b, c] g) (rotF R [a, b, c] w) :=
  flc_code_eq_textbook_binary sqrt hs eps C [a, b, c] _ (rotSum_grid3 R a b c hR) f f2 g w hbin hn hvar

end textbook

/-- **Convolution theorem.**  For any commutative ring and any `ω` with `ω^N = 1` (for ℂ: `ω = exp(-2πi/N)`), the
length-`N` discrete Fourier transform of the model's circular convolution `circ` is the product of the transforms of
its operands — the fact behind reading `irfftn(rfftn(a)·rfftn(b))` as `circ` (n-D transforms are separable products
of 1-D ones).  What stays trusted is that pyFFTW computes this transform and its inverse. -/
theorem circ_dft_is_product_1d {R : Type} [CommRing R] (N : Nat) (ω : R) (hω : ω ^ N = 1) (a b : List Int → R) (k : Nat) :
    dftN N ω (fun u => circ [N] a b [(u : Int)]) k
      = dftN N ω (fun j => a [(j : Int)]) k * dftN N ω (fun r => b [(r : Int)]) k :=
  dft_circ1 N ω hω a b k

/-- **Convolution theorem, n-D.**  On every box, for every choice of per-axis roots of unity (over any commutative
ring), the separable DFT of the model's circular convolution `circ` is the pointwise product of the transforms. -/
theorem circ_dft_is_product_nd {R : Type} [CommRing R] (Ns : List Nat) (ωs : List R) (hω : RootsOk Ns ωs)
    (a b : List Int → R) (ks : List Nat) :
    dftS Ns ωs (fun u => circ Ns a b u) ks = dftS Ns ωs a ks * dftS Ns ωs b ks :=
  dftS_circ Ns ωs hω a b ks

/-- **… and `circ` is the only such array.**  Over a field with a primitive root of unity for every axis length and
invertible axis lengths (ℂ), an array on the box whose DFT is `â·b̂` at every frequency — the array an exact inverse
FFT of the product returns — equals `circ a b` at every voxel.  Together with `circ_reindex_nd` this derives the
windowed-sum reading of `irfftn(rfftn(f)·rfftn(g))` from the definition of the DFT alone; what stays trusted is that
pyFFTW computes the DFT and its inverse (and rounding). -/
theorem circ_unique_from_dft {K : Type} [Field K] (Ns : List Nat) (ωs : List K) (hp : RootsPrim Ns ωs)
    (a b X : List Int → K)
    (hX : ∀ ks, inShape Ns ks = true → dftS Ns ωs X ks = dftS Ns ωs a ks * dftS Ns ωs b ks)
    (u : List Nat) (hu : inShape Ns u = true) : X (natsToInts u) = circ Ns a b (natsToInts u) :=
  circ_unique_nd Ns ωs hp a b X hX u hu

/-- non-vacuity: `-1` is a primitive square root of unity in ℚ, so the hypotheses hold on the 2×2 torus -/
example : RootsPrim (K := ℚ) [2, 2] [-1, -1] := by
  have h : PrimRoot (K := ℚ) 2 (-1) := ⟨by norm_num, fun l h0 h2 => by
    have : l = 1 := by omega
    subst this; norm_num⟩
  exact ⟨h, by norm_num, h, by norm_num, trivial⟩

theorem ext_eq_zero_of_outOfBox {α} [Zero α] (a : Arr α) (j : List Int) (h : OutOfBox a.shape j) : ext a j = 0 := by
  unfold ext Arr.getI Arr.getD
  split
  · split
    · rename_i hall hin
      exact (not_outOfBox_of_inShape a.shape j hall hin h).elim
    · rfl
  · rfl

/-- the zero extension of any array is supported in its shape box -/
theorem supp_ext {α} [Zero α] (a : Arr α) : Supp a.shape (ext a) := fun j h => ext_eq_zero_of_outOfBox a j h

section Linearity
open Pm.C03
variable {α : Type} [CommRing α]

/-- the windowed (textbook) correlation is additive in the template — what lets every score split its template-side
field into summands (`(g-μ)·w = g·w - μ·w`) before transforming -/
theorem corrSpec_add_template (ms : List Nat) (f g₁ g₂ : List Int → α) (t : List Int) :
    corrSpec ms f (fun x => g₁ x + g₂ x) t = corrSpec ms f g₁ t + corrSpec ms f g₂ t :=
  sumShape_mul_add ms _ _ _

/-- the windowed correlation is additive in the target -/
theorem corrSpec_add_target (ms : List Nat) (f₁ f₂ g : List Int → α) (t : List Int) :
    corrSpec ms (fun x => f₁ x + f₂ x) g t = corrSpec ms f₁ g t + corrSpec ms f₂ g t :=
  sumShape_add_mul ms _ _ _

/-- the windowed correlation is homogeneous in the template: scaling the template scales the CC / LCC value -/
theorem corrSpec_smul_template (ms : List Nat) (c : α) (f g : List Int → α) (t : List Int) :
    corrSpec ms f (fun x => c * g x) t = c * corrSpec ms f g t :=
  sumShape_mul_smul ms _ _ c

/-- the windowed correlation is homogeneous in the target: scaling the target scales the CC / LCC value -/
theorem corrSpec_smul_target (ms : List Nat) (c : α) (f g : List Int → α) (t : List Int) :
    corrSpec ms (fun x => c * f x) g t = c * corrSpec ms f g t :=
  sumShape_smul_mul ms _ _ c

/-- **CORR / CAM numerator identity** at the level of correlation maps: correlating with the mean-subtracted masked
template `(g - μ)·w` is `corr(f, g·w) - μ · corr(f, w)` — the `C f (rot g2) - ws * meanT` of `corr_scoring` -/
theorem corrSpec_centered_template (ms : List Nat) (μ : α) (f g w : List Int → α) (t : List Int) :
    corrSpec ms f (fun x => (g x - μ) * w x) t
      = corrSpec ms f (fun x => g x * w x) t - μ * corrSpec ms f w t := by
  unfold corrSpec
  rw [← sumShape_mul_left, ← sumShape_sub]
  apply sumShape_congr; intro k _; ring

theorem corrSpec_target_offset (ms : List Nat) (a : α) (f g : List Int → α) (t : List Int) :
    corrSpec ms (fun x => f x + a) g t = corrSpec ms f g t + a * sumShape ms (fun k => g (natsToInts k)) := by
  unfold corrSpec
  rw [← sumShape_mul_left, ← sumShape_add]
  apply sumShape_congr; intro k _; ring

/-- the FFT product (circular convolution) is additive and homogeneous in each operand -/
theorem circ_add_right (Ns : List Nat) (a b₁ b₂ : List Int → α) (u : List Int) :
    circ Ns a (fun x => b₁ x + b₂ x) u = circ Ns a b₁ u + circ Ns a b₂ u :=
  sumShape_mul_add Ns _ _ _

theorem circ_add_left (Ns : List Nat) (a₁ a₂ b : List Int → α) (u : List Int) :
    circ Ns (fun x => a₁ x + a₂ x) b u = circ Ns a₁ b u + circ Ns a₂ b u :=
  sumShape_add_mul Ns _ _ _

theorem circ_smul_right (Ns : List Nat) (c : α) (a b : List Int → α) (u : List Int) :
    circ Ns a (fun x => c * b x) u = c * circ Ns a b u :=
  sumShape_mul_smul Ns _ _ c

theorem circ_smul_left (Ns : List Nat) (c : α) (a b : List Int → α) (u : List Int) :
    circ Ns (fun x => c * a x) b u = c * circ Ns a b u :=
  sumShape_smul_mul Ns _ _ c

theorem implCorr_add_template (Ns ms : List Nat) (shifts css : List Int) (f g₁ g₂ : List Int → α) (t : List Int) :
    implCorr Ns ms shifts css f (fun x => g₁ x + g₂ x) t
      = implCorr Ns ms shifts css f g₁ t + implCorr Ns ms shifts css f g₂ t := by
  unfold implCorr
  rw [← rev_map2 ms (fun a b => a + b) g₁ g₂]
  exact circ_add_right Ns f _ _ _

theorem implCorr_smul_template (Ns ms : List Nat) (shifts css : List Int) (c : α) (f g : List Int → α) (t : List Int) :
    implCorr Ns ms shifts css f (fun x => c * g x) t = c * implCorr Ns ms shifts css f g t := by
  unfold implCorr
  rw [← rev_map1 ms (fun a => c * a) g]
  exact circ_smul_right Ns c f _ _

/-- the CORR / CAM numerator identity on the implementation side: the FFT map of the mean-subtracted masked template is
the FFT map of `g·w` minus `μ` times the FFT map of the mask -/
theorem implCorr_centered_template (Ns ms : List Nat) (shifts css : List Int) (μ : α) (f g w : List Int → α)
    (t : List Int) :
    implCorr Ns ms shifts css f (fun x => (g x - μ) * w x) t
      = implCorr Ns ms shifts css f (fun x => g x * w x) t - μ * implCorr Ns ms shifts css f w t := by
  have e : (fun x => (g x - μ) * w x) = fun x => g x * w x + (-μ) * w x := by funext x; ring
  rw [e, implCorr_add_template, implCorr_smul_template]; ring

/-- the implementation map is additive in the target -/
theorem implCorr_add_target {α : Type} [CommRing α] (Ns ms : List Nat) (shifts css : List Int)
    (f₁ f₂ g : List Int → α) (t : List Int) :
    implCorr Ns ms shifts css (fun x => f₁ x + f₂ x) g t
      = implCorr Ns ms shifts css f₁ g t + implCorr Ns ms shifts css f₂ g t := by
  unfold implCorr
  exact circ_add_left Ns f₁ f₂ _ _

/-- the implementation map is homogeneous in the target (CC / LCC scale with the target's intensity) -/
theorem implCorr_smul_target {α : Type} [CommRing α] (Ns ms : List Nat) (shifts css : List Int) (c : α)
    (f g : List Int → α) (t : List Int) :
    implCorr Ns ms shifts css (fun x => c * f x) g t = c * implCorr Ns ms shifts css f g t := by
  unfold implCorr
  exact circ_smul_left Ns c f _ _

end Linearity

/-- odd extents: the centre voxel is the exact middle `(m-1)/2` -/
theorem centre_odd (m : Nat) (h : m % 2 = 1) : m / 2 = (m - 1) / 2 := by omega

/-- even extents: the centre voxel is the upper of the two middle voxels -/
theorem centre_even (m : Nat) (hm : 0 < m) (h : m % 2 = 0) : m / 2 = (m - 1) / 2 + 1 := by omega

/-- **centre-voxel convention.**  The window position of template voxel `shape // 2` is the translation `t` itself -/
theorem specIdx_centre : ∀ (ms : List Nat) (t : List Int), t.length = ms.length →
    specIdx ms t (ms.map (· / 2)) = t
  | [], [], _ => rfl
  | m :: ms, t :: ts, h => by
    simp only [List.map_cons, specIdx]
    rw [specIdx_centre ms ts (Nat.succ.inj h), add_sub_cancel_right]
  | [], _ :: _, h => by simp at h
  | _ :: _, [], h => by simp at h

/-- the centre voxel `shape // 2` is a voxel of the template whenever all extents are positive -/
theorem centre_inShape : ∀ (ms : List Nat), (∀ m ∈ ms, 0 < m) → inShape ms (ms.map (· / 2)) = true
  | [], _ => rfl
  | m :: ms, h => by
    simp only [List.map_cons, inShape, Bool.and_eq_true, decide_eq_true_eq]
    refine ⟨?_, centre_inShape ms (fun x hx => h x (List.mem_cons_of_mem _ hx))⟩
    have := h m List.mem_cons_self
    omega

/-- **valid-window range without padding, per axis**: all `m` voxels of the window centred (`m/2`) at `t` lie inside a
target of extent `n` exactly when `m/2 ≤ t ≤ n - 1 - (m-1)/2` — the side condition of `SameOk false` is sharp -/
theorem window_inside_iff (n m : Nat) (t : Int) (hm : 0 < m) :
    (∀ k : Nat, k < m → 0 ≤ t + (k : Int) - ((m / 2 : Nat) : Int) ∧ t + (k : Int) - ((m / 2 : Nat) : Int) < n) ↔
    (((m / 2 : Nat) : Int) ≤ t ∧ t ≤ (n : Int) - 1 - (((m - 1) / 2 : Nat) : Int)) := by
  have hc := centre_split m hm
  generalize m / 2 = c at hc ⊢
  generalize (m - 1) / 2 = d at hc ⊢
  constructor
  · intro h
    have h0 := h 0 hm
    have h1 := h (m - 1) (Nat.sub_lt hm Nat.one_pos)
    omega
  · intro h k hk; omega

/-- there are exactly `n - m + 1` such translations per axis -/
theorem valid_range_count (n m : Nat) (hm : 0 < m) (hmn : m ≤ n) :
    ((n : Int) - 1 - (((m - 1) / 2 : Nat) : Int)) - ((m / 2 : Nat) : Int) + 1 = ((n - m + 1 : Nat) : Int) := by
  have hc := centre_split m hm
  generalize m / 2 = c at hc ⊢
  generalize (m - 1) / 2 = d at hc ⊢
  omega

/-- the `valid` crop keeps all of them for odd template extents and all but the last for even ones -/
theorem validExt_parity (n m : Nat) :
    (m % 2 = 1 → validExt n m = n - m + 1) ∧ (m % 2 = 0 → validExt n m = n - m) := by
  unfold validExt; omega

/-- every position of the `valid` crop stands for a translation inside the valid-window range of its axis -/
theorem validT_axis_inside (n m : Nat) (j : Int) (hm : 0 < m) (hmn : m ≤ n) (hj0 : 0 ≤ j) (hj1 : j < validExt n m) :
    ((m / 2 : Nat) : Int) ≤ j + ((m / 2 : Nat) : Int) ∧
      j + ((m / 2 : Nat) : Int) ≤ (n : Int) - 1 - (((m - 1) / 2 : Nat) : Int) := by
  unfold validExt at hj1; omega

/-- **without Fourier padding, in any dimension**: at every translation admitted by `SameOk false` the whole template
window lies inside the target box, so no zero-extended or wrapped voxel enters the score -/
theorem window_inside_nopad : ∀ (ns ms Ns : List Nat) (t : List Int) (k : List Nat),
    SameOk false ns ms Ns t → inShape ms k = true → ¬ OutOfBox ns (specIdx ms t k)
  | [], [], [], [], [], _, _ => id
  | [], [], [], [], _ :: _, _, hk => Bool.noConfusion hk
  | n :: ns, m :: ms, N :: Ns, t :: ts, [], _, hk => Bool.noConfusion hk
  | n :: ns, m :: ms, N :: Ns, t :: ts, k :: ks, ⟨⟨hm, _, _, _, _, hwin⟩, hrest⟩, hk => by
    obtain ⟨hw0, hw1⟩ := hwin rfl
    obtain ⟨hk0, hks⟩ := inShape_cons.mp hk
    have hc := centre_split m hm
    simp only [specIdx, OutOfBox]
    generalize m / 2 = c at hc hw0 ⊢
    generalize (m - 1) / 2 = d at hc hw1
    rintro ((h | h) | h)
    · omega
    · omega
    · exact window_inside_nopad ns ms Ns ts ks hrest hks h
  | [], _ :: _, _, _, _, h, _ => h.elim
  | [], [], _ :: _, _, _, h, _ => h.elim
  | [], [], [], _ :: _, _, h, _ => h.elim
  | _ :: _, [], _, _, _, h, _ => h.elim
  | _ :: _, _ :: _, [], _, _, h, _ => h.elim
  | _ :: _, _ :: _, _ :: _, [], _, h, _ => h.elim

section VarianceAndOffsets
open Pm.C03

/-- **FLC variance term is non-negative before the clamp**: for a non-negative mask, `(Σ w)·corr(f², w) − corr(f, w)² ≥ 0`
at every translation (Cauchy–Schwarz), so `max0` in `flc_scoring` only ever absorbs rounding -/
theorem flc_variance_nonneg {α : Type} [CommRing α] [LinearOrder α] [IsStrictOrderedRing α] (ms : List Nat)
    (f w : List Int → α) (t : List Int) (hw : ∀ x, 0 ≤ w x) :
    (corrSpec ms f w t) ^ 2
      ≤ sumShape ms (fun k => w (natsToInts k)) * corrSpec ms (fun x => f x * f x) w t := by
  have h := box_cauchy_schwarz ms (fun k => w (natsToInts k)) (fun _ => 1) (fun k => f (specIdx ms t k))
    (fun k _ => hw _)
  have e1 : sumShape ms (fun k => w (natsToInts k) * ((1 : α) * f (specIdx ms t k))) = corrSpec ms f w t :=
    sumShape_congr _ _ _ (fun k _ => by ring)
  have e2 : sumShape ms (fun k => w (natsToInts k) * ((1 : α) * 1)) = sumShape ms (fun k => w (natsToInts k)) :=
    sumShape_congr _ _ _ (fun k _ => by ring)
  have e3 : sumShape ms (fun k => w (natsToInts k) * (f (specIdx ms t k) * f (specIdx ms t k)))
      = corrSpec ms (fun x => f x * f x) w t := sumShape_congr _ _ _ (fun k _ => by ring)
  rw [e1, e2, e3] at h
  exact h

/-- **equality case**: on a target that is constant the variance term vanishes identically (any mask, any ring) — the
windows the `sd < eps` guard of `flc_scoring` is there for -/
theorem flc_variance_const {α : Type} [CommRing α] (ms : List Nat) (c : α) (w : List Int → α) (t : List Int) :
    sumShape ms (fun k => w (natsToInts k)) * corrSpec ms (fun _ => c * c) w t
      - (corrSpec ms (fun _ => c) w t) ^ 2 = 0 := by
  unfold corrSpec
  rw [sumShape_mul_left, sumShape_mul_left]; ring

/-- a target offset drops out of the windowed correlation with any template-side field that sums to zero over the box
(the mean-subtracted masked templates of CORR / CAM / FLC / MCC) -/
theorem corrSpec_target_offset_invariant {α : Type} [CommRing α] (ms : List Nat) (a : α) (f g : List Int → α)
    (t : List Int) (h0 : sumShape ms (fun k => g (natsToInts k)) = 0) :
    corrSpec ms (fun x => f x + a) g t = corrSpec ms f g t := by
  rw [corrSpec_target_offset, h0]; ring

/-- mean of the template under the mask, `Σ g·w / Σ w` -/
def maskedMean {α : Type} [Field α] (ms : List Nat) (g w : List Int → α) : α :=
  sumShape ms (fun k => g (natsToInts k) * w (natsToInts k)) / sumShape ms (fun k => w (natsToInts k))

theorem maskedMean_offset {α : Type} [Field α] (ms : List Nat) (a : α) (g w : List Int → α)
    (hn : sumShape ms (fun k => w (natsToInts k)) ≠ 0) :
    maskedMean ms (fun x => g x + a) w = maskedMean ms g w + a := by
  unfold maskedMean
  have e : (fun k => (g (natsToInts k) + a) * w (natsToInts k))
      = fun k => g (natsToInts k) * w (natsToInts k) + a * w (natsToInts k) := by funext k; ring
  rw [e, sumShape_add, sumShape_mul_left, add_div, mul_div_assoc, div_self hn, mul_one]

/-- **template offset invariance of the mean-subtracted scores**: the mean-subtracted masked template, hence its
correlation with any target at any translation, does not change when a constant is added to the template -/
theorem corrSpec_template_offset_invariant {α : Type} [Field α] (ms : List Nat) (a : α) (f g w : List Int → α)
    (t : List Int) (hn : sumShape ms (fun k => w (natsToInts k)) ≠ 0) :
    corrSpec ms f (fun x => ((g x + a) - maskedMean ms (fun y => g y + a) w) * w x) t
      = corrSpec ms f (fun x => (g x - maskedMean ms g w) * w x) t := by
  rw [maskedMean_offset ms a g w hn]
  congr 1; funext x; ring

/-- the mean-subtracted masked template sums to zero over the box (so target offsets drop out, previous theorem but one) -/
theorem centered_template_sum_zero {α : Type} [Field α] (ms : List Nat) (g w : List Int → α)
    (hn : sumShape ms (fun k => w (natsToInts k)) ≠ 0) :
    sumShape ms (fun k => (g (natsToInts k) - maskedMean ms g w) * w (natsToInts k)) = 0 := by
  have e : (fun k => (g (natsToInts k) - maskedMean ms g w) * w (natsToInts k))
      = fun k => g (natsToInts k) * w (natsToInts k) - maskedMean ms g w * w (natsToInts k) := by funext k; ring
  rw [e, sumShape_sub, sumShape_mul_left]
  unfold maskedMean
  rw [div_mul_cancel₀ _ hn, sub_self]

/-- non-vacuity of `hn` above: the all-ones mask on two voxels -/
example : sumShape [2] (fun k => (fun _ : List Int => (1 : ℚ)) (natsToInts k)) ≠ 0 := by
  simp only [sumShape, sumRange]; norm_num

end VarianceAndOffsets

/-- **translation covariance of the score map**: translating the target by `s` translates the windowed correlation by
`s` — the map reports, at `t`, the score of the window that sits at `t` -/
theorem corrSpec_translate {α : Type} [Add α] [Mul α] [Zero α] (ms : List Nat) (f g : List Int → α) (t s : List Int) :
    corrSpec ms (fun x => f (List.zipWith (· + ·) x s)) g t = corrSpec ms f g (List.zipWith (· + ·) t s) := by
  unfold corrSpec
  apply sumShape_congr
  intro k _
  rw [specIdx_shift]

section NormAndMCC
open Pm.C03

/-- one voxel of `normalize_template` is unchanged when template value, mean and standard deviation are scaled by the
same non-zero factor — the pointwise reason the normalised scores ignore the template's intensity scale -/
theorem normApply_scale {α : Type} [Field α] (sqrt : α → α) (lt : α → α → Bool) (eps c mu sd gx wx : α) (hc : c ≠ 0) :
    normApply (fieldOps sqrt lt eps) (c * mu, c * sd) (c * gx) wx
      = normApply (fieldOps sqrt lt eps) (mu, sd) gx wx := by
  simp only [normApply, fieldOps]
  rw [← mul_sub, mul_div_mul_left _ _ hc]

/-- … and when template value and mean are offset by the same constant -/
theorem normApply_offset {α : Type} [Field α] (sqrt : α → α) (lt : α → α → Bool) (eps a mu sd gx wx : α) :
    normApply (fieldOps sqrt lt eps) (mu + a, sd) (gx + a) wx
      = normApply (fieldOps sqrt lt eps) (mu, sd) gx wx := by
  simp only [normApply, fieldOps]
  rw [add_sub_add_right_eq_sub]

/-- **MCC numerator with two masks**: with target mask `tm`, template mask `W`, overlap `ov = corr(tm, W) ≠ 0`, the
code's `corr(f·tm, h·W) − corr(f·tm, W)·corr(tm, h·W)/ov` is the covariance of target and template over the overlap of
the two masks, each centred by its own mean over that overlap -/
theorem mcc_numerator_identity {α : Type} [Field α] (ms : List Nat) (f tm h W : List Int → α) (t : List Int)
    (hov : corrSpec ms tm W t ≠ 0) :
    corrSpec ms (fun x => f x * tm x) (fun x => h x * W x) t
        - corrSpec ms (fun x => f x * tm x) W t * corrSpec ms tm (fun x => h x * W x) t / corrSpec ms tm W t
      = sumShape ms (fun k => tm (specIdx ms t k) * W (natsToInts k) *
          ((f (specIdx ms t k) - corrSpec ms (fun x => f x * tm x) W t / corrSpec ms tm W t) *
           (h (natsToInts k) - corrSpec ms tm (fun x => h x * W x) t / corrSpec ms tm W t))) := by
  -- weights `tm·W` over the overlap, values `f` (at the window position) and `h`
  have e1 : corrSpec ms (fun x => f x * tm x) (fun x => h x * W x) t
      = sumShape ms (fun k => tm (specIdx ms t k) * W (natsToInts k) * (f (specIdx ms t k) * h (natsToInts k))) :=
    sumShape_congr _ _ _ fun k _ => by ring
  have e2 : corrSpec ms (fun x => f x * tm x) W t
      = sumShape ms (fun k => tm (specIdx ms t k) * W (natsToInts k) * f (specIdx ms t k)) :=
    sumShape_congr _ _ _ fun k _ => by ring
  have e3 : corrSpec ms tm (fun x => h x * W x) t
      = sumShape ms (fun k => tm (specIdx ms t k) * W (natsToInts k) * h (natsToInts k)) :=
    sumShape_congr _ _ _ fun k _ => by ring
  rw [e1, e2, e3]
  exact box_weighted_cov ms (fun k => tm (specIdx ms t k) * W (natsToInts k)) (fun k => f (specIdx ms t k))
    (fun k => h (natsToInts k)) hov

/-- **MCC target-side denominator with two masks**: `corr(f²·tm, W) − corr(f·tm, W)²/ov` is the sum of squared
deviations of the target from its mean over the overlap of the two masks -/
theorem mcc_denominator_identity {α : Type} [Field α] (ms : List Nat) (f tm W : List Int → α) (t : List Int)
    (hov : corrSpec ms tm W t ≠ 0) :
    corrSpec ms (fun x => f x * f x * tm x) W t - (corrSpec ms (fun x => f x * tm x) W t) ^ 2 / corrSpec ms tm W t
      = sumShape ms (fun k => tm (specIdx ms t k) * W (natsToInts k) *
          ((f (specIdx ms t k) - corrSpec ms (fun x => f x * tm x) W t / corrSpec ms tm W t) *
           (f (specIdx ms t k) - corrSpec ms (fun x => f x * tm x) W t / corrSpec ms tm W t))) := by
  have e1 : corrSpec ms (fun x => f x * f x * tm x) W t
      = sumShape ms (fun k => tm (specIdx ms t k) * W (natsToInts k) * (f (specIdx ms t k) * f (specIdx ms t k))) :=
    sumShape_congr _ _ _ fun k _ => by ring
  have e2 : corrSpec ms (fun x => f x * tm x) W t
      = sumShape ms (fun k => tm (specIdx ms t k) * W (natsToInts k) * f (specIdx ms t k)) :=
    sumShape_congr _ _ _ fun k _ => by ring
  rw [e1, e2, pow_two]
  exact box_weighted_cov ms (fun k => tm (specIdx ms t k) * W (natsToInts k)) (fun k => f (specIdx ms t k))
    (fun k => f (specIdx ms t k)) hov

/-- non-vacuity of `hov` above: two all-ones masks overlap -/
example : corrSpec [2] (fun _ : List Int => (1 : ℚ)) (fun _ => 1) [0] ≠ 0 := by
  simp only [corrSpec, sumShape, sumRange]; norm_num

end NormAndMCC

/-- raw position `j + (m - 1)` per axis: first position of the full convolution at which the template overlaps the
scored array completely, advanced by `j` -/
def fullOverlapPos : List Nat → List Int → List Int
  | m :: ms, j :: js => (j + ((m - 1 : Nat) : Int)) :: fullOverlapPos ms js
  | _, _ => []

/-- position `j` of the `valid` crop reads the raw FFT product at `j + (m - 1)` on every axis, for odd and even extents -/
theorem rawPos_validT : ∀ (ms : List Nat) (j : List Int), (∀ m ∈ ms, 0 < m) →
    rawPos ms (validT ms j) = fullOverlapPos ms j
  | [], _, _ => rfl
  | _ :: _, [], _ => rfl
  | m :: ms, j :: js, h => by
    simp only [validT, rawPos, fullOverlapPos]
    rw [rawPos_validT ms js (fun x hx => h x (List.mem_cons_of_mem _ hx))]
    congr 1
    have hc := centre_split m (h m List.mem_cons_self)
    generalize m / 2 = c at hc ⊢
    generalize (m - 1) / 2 = d at hc ⊢
    omega

/-- the identity is one of the grid rotations (3-D) and leaves every template field unchanged -/
theorem rotF_id3 {α : Type} (a b c : Nat) (g : List Int → α) :
    GridOk3 ⟨[0,1,2], [false,false,false]⟩ a b c ∧ rotF ⟨[0,1,2], [false,false,false]⟩ [a,b,c] g = g := by
  refine ⟨⟨⟨_, _, _, rfl⟩, Or.inl rfl⟩, ?_⟩
  funext x
  by_cases hx : x.length = 3
  · match x, hx with
    | [x0, x1, x2], _ => rfl
  · exact if_neg hx

/-- the identity is one of the grid rotations (2-D) and leaves every template field unchanged -/
theorem rotF_id2 {α : Type} (a b : Nat) (g : List Int → α) :
    GridOk2 ⟨[0,1], [false,false]⟩ a b ∧ rotF ⟨[0,1], [false,false]⟩ [a,b] g = g := by
  refine ⟨⟨⟨_, _, rfl⟩, Or.inl rfl⟩, ?_⟩
  funext x
  by_cases hx : x.length = 2
  · match x, hx with
    | [x0, x1], _ => rfl
  · exact if_neg hx

/-- non-vacuity of the side conditions (`SameOk` with and without padding, `ValidOk`, `GridOk3`), and one test vector on
which specification and implementation model both give 1 -/
example : SameOk true [5,4] [3,2] [7,5] [0,3] := by simp only [SameOk]; decide
example : SameOk false [5,4] [3,2] [5,4] [1,1] := by simp only [SameOk]; decide
example : ValidOk true [7,6] [3,2] [9,7] [4,3] := by simp only [ValidOk]; decide
example : GridOk3 ⟨[1,0,2],[true,false,false]⟩ 3 3 4 := ⟨⟨_, _, _, rfl⟩, Or.inr (Or.inr (Or.inl ⟨rfl, rfl⟩))⟩
example : corrSpec [2] (ext (⟨[4], #[1,2,3,4]⟩ : Arr Int)) (ext (⟨[2], #[10,1]⟩ : Arr Int)) [0] = 1 ∧
          implCorr [5] [2] (shiftsOf true [2]) (sameCrops true [4] [2])
            (ext (⟨[4], #[1,2,3,4]⟩ : Arr Int)) (ext (⟨[2], #[10,1]⟩ : Arr Int)) [0] = 1 := by decide

end Pm.C01
