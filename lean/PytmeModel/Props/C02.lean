import PytmeModel.Model.C02
import PytmeModel.Extracted.C02
import PytmeModel.Props.C01
import PytmeModel.Props.C04
import PytmeModel.Props.C14
import PytmeModel.Proofs.C02Enum
import Mathlib.Tactic.Ring

/-! # C02 — results do not depend on splitting, job schedule or rotation order

The labels in the doc comments: (a) every (voxel, rotation) pair is evaluated by some job and reported at its own position,
(b) the (outer, inner) schedule changes only the chunking of the rotations, (c) template splits, as coded. -/
namespace Pm.C02

/-! ## rotation chunking -/

/-- **Rotation chunking loses and duplicates nothing**: for every list and every `n_jobs ≥ 1` (also more jobs than
rotations, where all but the last chunk are empty) the concatenation of the chunks is the list, in order. -/
theorem splitRotations_concat {α} (rots : List α) (nJobs : Nat) (h : 1 ≤ nJobs) :
    (splitRotations rots nJobs).flatten = rots :=
  splitRotations_flatten rots nJobs h

theorem splitRotations_length {α} (rots : List α) (nJobs : Nat) : (splitRotations rots nJobs).length = nJobs := by
  simp [splitRotations]

/-- **Chunk sizes** (`_split_rotations_on_jobs`): the first `n_jobs - 1` chunks hold `len // n_jobs` rotations each, the last
one the remaining `len - (n_jobs - 1) (len // n_jobs)` (at least as many, at most `n_jobs - 1` more) -/
theorem splitRotations_chunk_lengths {α} (rots : List α) (n : Nat) (hn : 1 ≤ n) :
    (splitRotations rots n).map List.length
      = List.replicate (n - 1) (rots.length / n) ++ [rots.length - (n - 1) * (rots.length / n)] := by
  obtain ⟨J, rfl⟩ : ∃ J, n = J + 1 := ⟨n - 1, by omega⟩
  rw [splitRotations_succ, List.map_append, List.map_map, Nat.add_sub_cancel]
  congr 1
  · rw [List.eq_replicate_iff]
    refine ⟨by simp, ?_⟩
    intro x hx
    simp only [List.mem_map, List.mem_range] at hx
    obtain ⟨k, hk, rfl⟩ := hx
    simp only [Function.comp, List.length_take, List.length_drop]
    have h1 : rots.length / (J + 1) * (J + 1) ≤ rots.length := Nat.div_mul_le_self _ _
    have h2 : (k + 1) * (rots.length / (J + 1)) ≤ (J + 1) * (rots.length / (J + 1)) :=
      Nat.mul_le_mul_right _ (by omega)
    rw [Nat.succ_mul] at h2
    rw [Nat.mul_comm] at h1
    omega
  · simp [List.length_drop]
example : (splitRotations [1, 2, 3, 4, 5, 6, 7] 3).map List.length = [2, 2, 3] ∧ (splitRotations [1, 2] 5).map List.length = [0, 0, 0, 0, 2] := by decide +kernel

/-! ## the per-rotation loop bodies do not depend on earlier rotations -/

/-- two buffer states agree on a set of buffers -/
def AgreeOn {V} (D : List Nat) (s s' : Nat → V) : Prop := ∀ b, D.contains b = true → s b = s' b

theorem map_agree {V} (D rs : List Nat) (s s' : Nat → V) (h : AgreeOn D s s') (hr : rs.all D.contains = true) :
    rs.map s = rs.map s' :=
  List.map_congr_left fun b hb => h b (List.all_eq_true.mp hr b hb)

theorem AgreeOn.update {V} {D : List Nat} {s s' : Nat → V} (h : AgreeOn D s s') (b : Nat) {v v' : V} (hv : v = v') :
    AgreeOn (b :: D) (fun x => if x = b then v else s x) (fun x => if x = b then v' else s' x) := by
  intro x hx
  by_cases hxb : x = b
  · simp only [hxb, if_true, hv]
  · simp only [hxb, if_false]
    exact h x (by simpa [List.contains_cons, hxb] using hx)

theorem AgreeOn.tail {V} {D : List Nat} {b : Nat} {s s' : Nat → V} (h : AgreeOn (b :: D) s s') : AgreeOn D s s' :=
  fun x hx => h x (by rw [List.contains_cons, hx, Bool.or_true])

/-- **Definedness ⇒ history freedom (one iteration).**  If the static check passes, then running the body from
any two buffer states that agree on the defined set (initially: the read-only inputs) emits the same outputs,
the final states agree on the defined set, and the inputs are untouched. -/
theorem exec_indep {V} (sem : Nat → List V → V) (inputs : List Nat) :
    ∀ (p : Prog) (D : List Nat) (i : Nat) (s s' : Nat → V),
      defBeforeUse inputs D p = true → AgreeOn D s s' →
      (exec sem i s p).2 = (exec sem i s' p).2 ∧
      (∀ b, inputs.contains b = true → (exec sem i s p).1 b = s b)
  | [], _, _, _, _, _, _ => ⟨rfl, fun _ _ => rfl⟩
  | .fill b :: p, D, i, s, s', hd, ha => by
    simp only [defBeforeUse, Bool.and_eq_true, Bool.not_eq_true'] at hd
    obtain ⟨ih1, ih2⟩ := exec_indep sem inputs p (b :: D) (i + 1) _ _ hd.2 (ha.update b (rfl : sem i [] = _))
    exact ⟨ih1, update_input hd.1 ih2⟩
  | .partialW b rs :: p, D, i, s, s', hd, ha => by
    simp only [defBeforeUse, Bool.and_eq_true, Bool.not_eq_true'] at hd
    obtain ⟨⟨⟨hin, hb⟩, hrs⟩, hrest⟩ := hd
    obtain ⟨ih1, ih2⟩ := exec_indep sem inputs p D (i + 1) _ _ hrest
      (ha.update b (by rw [ha b hb, map_agree D rs s s' ha hrs] : sem i (s b :: rs.map s) = sem i (s' b :: rs.map s'))).tail
    exact ⟨ih1, update_input hin ih2⟩
  | .fullW b rs :: p, D, i, s, s', hd, ha => by
    simp only [defBeforeUse, Bool.and_eq_true, Bool.not_eq_true'] at hd
    obtain ⟨⟨hin, hrs⟩, hrest⟩ := hd
    obtain ⟨ih1, ih2⟩ := exec_indep sem inputs p (b :: D) (i + 1) _ _ hrest
      (ha.update b (by rw [map_agree D rs s s' ha hrs] : sem i (rs.map s) = sem i (rs.map s')))
    exact ⟨ih1, update_input hin ih2⟩
  | .read rs :: p, D, i, s, s', hd, ha => by
    simp only [defBeforeUse, Bool.and_eq_true] at hd
    exact exec_indep sem inputs p D (i + 1) s s' hd.2 ha
  | .out b :: p, D, i, s, s', hd, ha => by
    simp only [defBeforeUse, Bool.and_eq_true] at hd
    obtain ⟨ih1, ih2⟩ := exec_indep sem inputs p D (i + 1) s s' hd.2 ha
    exact ⟨by simp only [exec]; rw [ih1, ha b hd.1], ih2⟩

/-- **The score map of a rotation never depends on which rotations the worker evaluated before it.**
For a loop body that passes the static check, whatever history `hs` precedes rotation `r` and whatever the
scratch buffers held initially, what is emitted for `r` is what a fresh worker emits for `r`. -/
theorem history_free {V R} (sem : R → Nat → List V → V) (inputs : List Nat) (prog : Prog)
    (hok : defBeforeUse inputs inputs prog = true) (s s' : Nat → V) (hs : List R) (r : R)
    (hin : AgreeOn inputs s s') :
    (runHistory sem prog s (hs ++ [r])).getLast? = some (exec (sem r) 0 s' prog).2 := by
  induction hs generalizing s with
  | nil =>
    simp only [List.nil_append, runHistory, List.getLast?_singleton]
    rw [(exec_indep (sem r) inputs prog inputs 0 s s' hok hin).1]
  | cons h hs ih =>
    simp only [List.cons_append, runHistory]
    have hstep := (exec_indep (sem h) inputs prog inputs 0 s s hok (fun _ _ => rfl)).2
    have := ih (exec (sem h) 0 s prog).1 (by
      intro b hb; rw [hstep b hb]; exact hin b hb)
    rw [List.getLast?_cons_of_ne_nil] at *
    · exact this
    all_goals (cases hs <;> simp [runHistory])

/-- the three loop bodies as they stand in /repo (extracted on every run) pass the static check -/
theorem scoring_loops_history_free :
    defBeforeUse corrInputs corrInputs corrLoop = true ∧
    defBeforeUse flcInputs flcInputs flcLoop = true ∧
    defBeforeUse mccInputs mccInputs mccLoop = true := by decide +kernel

/-- what a dropped `be.fill(arr, 0)` looks like: the partly written buffer is not defined, the check fails -/
theorem missing_fill_rejected :
    defBeforeUse [0] [0] [.partialW 1 [0], .fullW 2 [1], .out 2] = false := by decide +kernel

/-- … and the dependence is real: with a semantics that lets the old content show, two histories differ -/
theorem missing_fill_depends_on_history :
    ∃ (s s' : Nat → Nat), AgreeOn [0] s s' ∧
      (exec (fun _ vals => vals.foldl (· + ·) 0) 0 s [.partialW 1 [0], .out 1]).2 ≠
      (exec (fun _ vals => vals.foldl (· + ·) 0) 0 s' [.partialW 1 [0], .out 1]).2 :=
  ⟨fun _ => 0, fun b => if b = 1 then 5 else 0, by intro b hb; simp at hb; simp [hb], by decide +kernel⟩

/-! ## aggregation is order- and grouping-free (from C04) -/

open Pm.C04 in
/-- the aggregated map does not depend on the order in which a worker (or several workers) submit the
(score array, rotation) pairs: any permutation of the rotation list gives the same map -/
theorem aggregate_rotation_order_free {K : Type} [DecidableEq K] (shape : List Nat) (thr : Int)
    (h h' : List (Arr Int × K)) (hp : h.Perm h') (idx : List Nat) (hin : inShape shape idx = true) :
    (run shape thr h).scores.getD idx 0 = (run shape thr h').scores.getD idx 0 :=
  scores_order_free shape thr h h' hp idx hin

open Pm.C04 in
/-- merging the tile results in any order gives the same map at every global position -/
theorem merge_tile_order_free {K : Type} [DecidableEq K] {thr : Int} {d : Nat} (ts ts' : List (Tile K))
    (hp : ts.Perm ts') (hd : ∀ t ∈ ts, t.offset.length = d ∧ t.shape.length = d)
    {M M' : Store K} (hM : merge thr (ts.map (tileStore thr)) = some M)
    (hM' : merge thr (ts'.map (tileStore thr)) = some M') (p : List Nat) :
    M.valOr thr p = M'.valOr thr p :=
  merge_any_order ts ts' hp hd hM hM' p

/-! ## the inner job count does not matter -/

open Pm.C04 in
/-- what every analyzer of a job reads at an absolute voxel only depends on the rotations the job was given -/
theorem allVals_chunks {K : Type} (off shape : List Nat) (chunks : List (List (Arr Int × K))) (p : List Nat) :
    allVals (chunks.map (fun c => (⟨off, shape, c⟩ : Tile K))) p = tileVals (⟨off, shape, chunks.flatten⟩ : Tile K) p := by
  simpa using allVals_chunk_tiles off shape id chunks p

open Pm.C04 in
/-- **`scan(n_jobs = k)` = `scan(n_jobs = 1)`** (any threshold, any number of jobs, also more jobs than rotations) — the
single-tile case; the statement for the whole of `scan_subsets` (every tiling, outer and inner job counts together) is
`scan_subsets_schedule_free` below, of which this is the one-job corollary:
the rotation list is cut into `k` chunks (`_split_rotations_on_jobs`), every job aggregates its chunk in an analyzer of
its own, `merge` combines the analyzers; at every absolute voxel the merged map holds the value the single job holds. -/
theorem chunked_jobs_eq_single_job {K : Type} [DecidableEq K] {thr : Int} (off shape : List Nat)
    (h : List (Arr Int × K)) (nJobs : Nat) (hj : 1 ≤ nJobs) (hd : off.length = shape.length)
    {M M1 : Store K}
    (hM : merge thr (((splitRotations h nJobs).map (fun c => (⟨off, shape, c⟩ : Tile K))).map (tileStore thr)) = some M)
    (hM1 : merge thr ([(⟨off, shape, h⟩ : Tile K)].map (tileStore thr)) = some M1) (p : List Nat) :
    M.valOr thr p = M1.valOr thr p := by
  have R := merge_tiles_represents (d := shape.length) _ (by
    intro t ht
    obtain ⟨c, _, rfl⟩ := List.mem_map.mp ht
    exact ⟨hd, rfl⟩) hM
  have R1 := merge_tiles_represents (d := shape.length) [(⟨off, shape, h⟩ : Tile K)] (by
    intro t ht
    simp at ht
    subst ht
    exact ⟨hd, rfl⟩) hM1
  rw [Pm.C04.represents_valOr R, Pm.C04.represents_valOr R1, allVals_chunks, splitRotations_concat h nJobs hj, allVals_single]

example : (splitRotations [1, 2, 3] 5).flatten = [1, 2, 3] := by decide +kernel
open Pm.C04 in
/-- the hypotheses are satisfiable: three rotations on two jobs and on one job, both merges succeed -/
example : (merge 0 (((splitRotations [(exA, "r0"), (exB, "r1"), (exC, "r2")] 2).map
      (fun c => (⟨[0], [2], c⟩ : Tile String))).map (tileStore 0))).isSome = true
    ∧ (merge 0 ([(⟨[0], [2], [(exA, "r0"), (exB, "r1"), (exC, "r2")]⟩ : Tile String)].map (tileStore 0))).isSome = true := by
  decide +kernel

/-! ## tiles with edge padding give the unsplit (padded) result -/

open Pm.C01

/-- per-axis `off + q` -/
def shiftL : List Int → List Int → List Int
  | o :: os, q :: qs => (o + q) :: shiftL os qs
  | _, _ => []

/-- `q` is an index of a box of shape `ns` -/
def InBoxI : List Nat → List Int → Prop
  | [], [] => True
  | n :: ns, q :: qs => (0 ≤ q ∧ q < n) ∧ InBoxI ns qs
  | _, _ => False

/-- same global position: `offT + j = offU + J` on every axis (all lists of the template's rank) -/
def SamePos : List Nat → List Int → List Int → List Int → List Int → Prop
  | [], [], [], [], [] => True
  | _ :: ms, a :: as, j :: js, b :: bs, J :: Js => a + j = b + J ∧ SamePos ms as js bs Js
  | _, _, _, _, _ => False

theorem specIdx_shift_of_samePos (ms : List Nat) (offT j offU J : List Int) (k : List Nat)
    (h : SamePos ms offT j offU J) (hk : inShape ms k = true) :
    shiftL offT (specIdx ms (validT ms j) k) = shiftL offU (specIdx ms (validT ms J) k) := by
  fun_induction SamePos ms offT j offU J generalizing k with
  | case1 => rfl
  | case2 m ms a as j js b bs J Js ih =>
    cases k with
    | nil => cases hk
    | cons k ks =>
      simp only [validT, specIdx, shiftL]
      rw [ih ks h.2 (inShape_cons.mp hk).2]
      congr 1
      have := h.1
      omega
  | case3 => exact h.elim

/-- every window of the `valid` frame lies inside the scored (padded) array: no zero padding, no wrap-around -/
theorem valid_window_in_box (pad : Bool) (ns ms Ns : List Nat) (j : List Int) (k : List Nat)
    (h : ValidOk pad ns ms Ns j) (hk : inShape ms k = true) : InBoxI ns (specIdx ms (validT ms j) k) := by
  fun_induction ValidOk pad ns ms Ns j generalizing k with
  | case1 => cases k with
    | nil => trivial
    | cons => cases hk
  | case2 n ns m ms N Ns j js ih =>
    cases k with
    | nil => cases hk
    | cons k ks =>
      obtain ⟨⟨hm, hmn, _, hj0, hj1⟩, hrest⟩ := h
      obtain ⟨hk0, hkr⟩ := inShape_cons.mp hk
      simp only [validExt] at hj1
      exact ⟨by omega, ih ks hrest hkr⟩
  | case3 => exact h.elim

/-- **Tiles with edge padding = unsplit search with edge padding (whole map, exact arithmetic).**
`V` is the volume extended by mirroring; the padded tile `T` shows `V` shifted by `offT`, the padded whole
volume `U` shows `V` shifted by `offU` (C14: `tileAxis_src_real`, `tileAxis_src_mirror_lo/hi`).  Then the value a
tile reports at its cropped position `j` is the value the unsplit run reports at `J` whenever both address
the same global position — for every correlation map, hence (C01) for every score. -/
theorem tiled_eq_unsplit_padded {α} [CommSemiring α] (pad : Bool) (nsT nsU ms NsT NsU : List Nat)
    (T U V g : List Int → α) (offT offU j J : List Int)
    (hT : Supp nsT T) (hU : Supp nsU U) (hg : Supp ms g)
    (cT : ∀ q, InBoxI nsT q → T q = V (shiftL offT q)) (cU : ∀ q, InBoxI nsU q → U q = V (shiftL offU q))
    (hj : ValidOk pad nsT ms NsT j) (hJ : ValidOk pad nsU ms NsU J) (hpos : SamePos ms offT j offU J) :
    implCorr NsT ms (shiftsOf pad ms) (validCrops pad nsT ms) T g j
      = implCorr NsU ms (shiftsOf pad ms) (validCrops pad nsU ms) U g J := by
  rw [implCorr_valid pad nsT ms NsT j T g hT hg hj, implCorr_valid pad nsU ms NsU J U g hU hg hJ]
  unfold corrSpec
  apply sumShape_congr
  intro k hk
  rw [cT _ (valid_window_in_box pad nsT ms NsT j k hj hk), cU _ (valid_window_in_box pad nsU ms NsU J k hJ hk),
      specIdx_shift_of_samePos ms offT j offU J k hpos hk]

/-- **Without edge padding**: a translation whose window lies inside one tile gets the unsplit value
(`same` frame on both sides; `T` shows the volume `U` shifted by the tile start). -/
theorem tiled_eq_unsplit_interior {α} [CommSemiring α] (pad : Bool) (nsT nsU ms NsT NsU : List Nat)
    (T U g : List Int → α) (off t tG : List Int)
    (hT : Supp nsT T) (hU : Supp nsU U) (hg : Supp ms g)
    (ht : SameOk pad nsT ms NsT t) (hG : SameOk pad nsU ms NsU tG)
    (hwin : ∀ k, inShape ms k = true → T (specIdx ms t k) = U (specIdx ms tG k)) :
    implCorr NsT ms (shiftsOf pad ms) (sameCrops pad nsT ms) T g t
      = implCorr NsU ms (shiftsOf pad ms) (sameCrops pad nsU ms) U g tG := by
  rw [implCorr_same pad nsT ms NsT t T g hT hg ht, implCorr_same pad nsU ms NsU tG U g hU hg hG]
  unfold corrSpec
  apply sumShape_congr
  intro k hk
  rw [hwin k hk]

/-! ### where the content hypotheses come from: C14's tile extraction -/

/-- the volume extended by a single mirror reflection about its first / last voxel -/
def reflectV (N : Nat) (pos : Int) : Int :=
  if pos < 0 then -pos else if (N : Int) ≤ pos then 2 * ((N : Int) - 1) - pos else pos

open Pm.C14 in
/-- **A padded tile shows the mirrored volume shifted by `start − left`** (one axis): as long as the margin does not
exceed the extracted data (single reflection), voxel `q` of the tile is voxel `reflectV N (start − left + q)` of the
volume — the addressed voxels and real neighbours inside, mirrored data beyond either edge.  This is the content
hypothesis `cT` / `cU` of `tiled_eq_unsplit_padded`, for every tile and for the unsplit padded volume alike. -/
theorem tile_axis_shows_reflectV (N start stop p q : Nat) (h1 : start < stop) (h2 : stop ≤ N)
    (hq : q < (tileAxis N start stop p).extent)
    (hsingle : ((p + p % 2) / 2 : Nat) ≤ (tileAxis N start stop p).arrStop - (tileAxis N start stop p).arrStart - 1) :
    ((tileAxis N start stop p).src q : Int) = reflectV N ((start : Int) - ((p + p % 2) / 2 : Nat) + q) := by
  have hf := tileAxis_fields N start stop p (Nat.le_of_lt h1) h2
  have lo := tileAxis_src_mirror_lo N start stop p q h1 h2 _ rfl
  have hi := tileAxis_src_mirror_hi N start stop p q h1 h2 _ rfl
  have re := tileAxis_src_real N start stop p q h1 h2 _ rfl
  -- the three regimes of C14 are linear in the fields of the tile and the margin
  simp only [TileAxis.extent] at hf lo hi re hq
  generalize tileAxis N start stop p = t at *
  generalize (p + p % 2) / 2 = left at *
  obtain ⟨f1, f2, f3, f4, -⟩ := hf
  -- the extracted range contains the slice; naming its length leaves no truncated subtraction
  obtain ⟨L, hL⟩ := Nat.exists_eq_add_of_lt
    (Nat.lt_of_le_of_lt (Nat.le.intro f1) (Nat.lt_of_lt_of_le h1 (Nat.le.intro f2.symm)))
  have e : t.arrStop - t.arrStart = L + 1 := by rw [hL, Nat.add_assoc, Nat.add_sub_cancel_left]
  rw [e] at hq hi re
  rw [e, Nat.add_sub_cancel] at hsingle
  clear e
  unfold reflectV
  split
  · rename_i hneg
    exact lo hneg (by omega)
  · split
    · rename_i hge
      exact hi hge hq (by omega)
    · exact re ⟨by omega, by omega⟩ hq

/-- one axis of a tile request: volume extent, slice, requested padding -/
structure AxSpec where
  N : Nat
  start : Nat
  stop : Nat
  p : Nat

open Pm.C14 in
def AxSpec.ta (a : AxSpec) : TileAxis := tileAxis a.N a.start a.stop a.p
def AxSpec.left (a : AxSpec) : Nat := (a.p + a.p % 2) / 2
/-- well-formed slice whose margin stays within one reflection of the extracted data -/
def AxSpec.Ok (a : AxSpec) : Prop :=
  a.start < a.stop ∧ a.stop ≤ a.N ∧ a.left ≤ a.ta.arrStop - a.ta.arrStart - 1

theorem AxSpec.ok_of_left_lt (a : AxSpec) (h1 : a.start < a.stop) (h2 : a.stop ≤ a.N) (hm : a.left < a.stop - a.start) :
    a.Ok := by
  refine ⟨h1, h2, ?_⟩
  obtain ⟨f1, f2, -⟩ := Pm.C14.tileAxis_fields a.N a.start a.stop a.p (Nat.le_of_lt h1) h2
  simp only [AxSpec.ta]
  generalize Pm.C14.tileAxis a.N a.start a.stop a.p = t at *
  omega

theorem jobAxis_left (N a b m : Nat) : (AxSpec.mk N a b (m - m % 2)).left = m / 2 :=
  margin_of_targetPadding m

theorem jobAxis_extent (N a b m : Nat) (h : a ≤ b) :
    (AxSpec.mk N a b (m - m % 2)).ta.extent = (b - a) + (m - m % 2) :=
  paddedExtent_targetPad N a b m h

/-- source voxel of tile position `q`, all axes -/
def tileSrc : List AxSpec → List Int → List Int
  | a :: as, q :: qs => ((a.ta.src q.toNat : Nat) : Int) :: tileSrc as qs
  | _, _ => []
def tileExt (axes : List AxSpec) : List Nat := axes.map (fun a => a.ta.extent)
def tileOff (axes : List AxSpec) : List Int := axes.map (fun a => (a.start : Int) - a.left)
def vRefl : List AxSpec → List Int → List Int
  | a :: as, x :: xs => reflectV a.N x :: vRefl as xs
  | _, _ => []

/-- **n-D: a padded tile shows the mirrored volume shifted by the tile's (start − left).**  Every in-box position of the
tile reads the voxel `reflectV(off + q)` on every axis. -/
theorem tileSrc_eq_vRefl : ∀ (axes : List AxSpec) (q : List Int), (∀ a ∈ axes, a.Ok) → InBoxI (tileExt axes) q →
    tileSrc axes q = vRefl axes (shiftL (tileOff axes) q)
  | [], [], _, _ => rfl
  | a :: as, q :: qs, hok, hq => by
    obtain ⟨⟨hq0, hq1⟩, hqr⟩ := hq
    have ha := hok a List.mem_cons_self
    have hq1 : q < ((Pm.C14.tileAxis a.N a.start a.stop a.p).extent : Int) := hq1
    have h := tile_axis_shows_reflectV a.N a.start a.stop a.p q.toNat ha.1 ha.2.1 (by omega) ha.2.2
    rw [Int.toNat_of_nonneg hq0] at h
    exact congrArg₂ List.cons h (tileSrc_eq_vRefl as qs (fun x hx => hok x (List.mem_cons_of_mem _ hx)) hqr)
  | [], _ :: _, _, hq => by cases hq
  | _ :: _, [], _, hq => by cases hq

/-- hence the content hypothesis of `tiled_eq_unsplit_padded`: a tile field that holds `vol[src(q)]` (what C14's
correspondence observes on real tiles) equals the mirrored volume `V = vol ∘ reflect` shifted by the tile offset -/
theorem tile_content_hypothesis {α} (vol T : List Int → α) (axes : List AxSpec) (hok : ∀ a ∈ axes, a.Ok)
    (hT : ∀ q, InBoxI (tileExt axes) q → T q = vol (tileSrc axes q)) :
    ∀ q, InBoxI (tileExt axes) q → T q = (fun pos => vol (vRefl axes pos)) (shiftL (tileOff axes) q) := by
  intro q hq
  rw [hT q hq, tileSrc_eq_vRefl axes q hok hq]

example : SamePos [3, 2] [4, 0] [1, 2] [0, 0] [5, 2] := by simp only [SamePos]; decide
example : (AxSpec.mk 10 0 4 4).Ok := AxSpec.ok_of_left_lt _ (by decide) (by decide) (by decide)
example : defBeforeUse corrInputs corrInputs corrLoop = true := by decide +kernel

/-! ## the orchestration: job enumeration of `scan_subsets` / `scan` (model: `enumJobs`, tied to the real calls by the
correspondence stream "scan_subsets job enumeration") -/

section enumeration
variable {R : Type}

/-- the tiling the enumeration uses is C14's `split_shape`, the padded tile C14's `subset_array` bookkeeping -/
theorem enum_tiling_is_C14 (shape splits : List Nat) (N p : Nat) (sl : Nat × Nat) :
    splitShape shape splits = Pm.C14.splitShape shape splits ∧
    paddedExtent N sl p = (Pm.C14.tileAxis N sl.1 sl.2 p).extent :=
  ⟨splitShape_eq_C14 shape splits, rfl⟩

/-- **No tile skipped, none issued twice, in `itertools.product` order**: the (target slice, template slice) pairs of the
jobs are exactly the pairs of the two splits, once each, for every schedule. -/
theorem enumJobs_pairs_exact (tgt tmpl tS mS : List Nat) (outer inner : Nat) (rots : List R) (pe : Bool) :
    (enumJobs tgt tmpl tS mS outer inner rots pe).map (fun J => (J.targetSlice, J.templateSlice))
      = splitPairs tgt tmpl tS mS := by
  unfold enumJobs
  rw [List.map_map]
  exact (zipIdx_map_indep _ _ id (fun _ _ => rfl) 0).trans (List.map_id _)

/-- number of jobs = (number of target tiles) × (number of template parts) = product of the part counts -/
theorem enumJobs_count (tgt tmpl tS mS : List Nat) (outer inner : Nat) (rots : List R) (pe : Bool)
    (h1 : tgt.length = tS.length) (h2 : tmpl.length = mS.length) :
    (enumJobs tgt tmpl tS mS outer inner rots pe).length = prodL (tS.map (max · 1)) * prodL (mS.map (max · 1)) := by
  rw [enumJobs_length, splitPairs_length, splitShape_eq_C14, splitShape_eq_C14,
    Pm.C14.splitShape_length _ _ h1, Pm.C14.splitShape_length _ _ h2]

/-- jobs are numbered 0, 1, 2, … in creation order; the device number is that index modulo the outer job count;
every job gets `inner` rotation chunks whose concatenation is the rotation list; the analyzer's offset is the start of
the *target* slice whatever the template slice is -/
theorem enumJobs_bookkeeping (tgt tmpl tS mS : List Nat) (outer inner : Nat) (rots : List R) (pe : Bool) (hi : 1 ≤ inner) :
    (enumJobs tgt tmpl tS mS outer inner rots pe).map Job.index = List.range (splitPairs tgt tmpl tS mS).length ∧
    ∀ J ∈ enumJobs tgt tmpl tS mS outer inner rots pe,
      J.gpuIndex = J.index % outer ∧ J.chunks.length = inner ∧ J.chunks.flatten = rots ∧
      J.offset = J.targetSlice.map Prod.fst ∧ J.chunks = splitRotations rots inner := by
  refine ⟨enumJobs_index _ _ _ _ _ _ _ _, ?_⟩
  intro J hJ
  obtain ⟨tm, _, i, rfl⟩ := mem_enumJobs hJ
  exact ⟨rfl, by simp [mkJob, splitRotations], splitRotations_concat rots inner hi, rfl, rfl⟩

/-- the trivial template split: one part, the whole template -/
theorem splitShape_whole (tmpl mS : List Nat) (h : tmpl.length = mS.length) (hk : ∀ k ∈ mS, k ≤ 1) :
    splitShape tmpl mS = [tmpl.map (fun m => (0, m))] := by
  unfold splitShape
  induction tmpl generalizing mS with
  | nil => cases mS with
    | nil => rfl
    | cons => cases h
  | cons m ms ih =>
    cases mS with
    | nil => cases h
    | cons k ks =>
      rw [List.zipWith_cons_cons, productL, ih ks (Nat.succ.inj h) (fun x hx => hk x (List.mem_cons_of_mem _ hx)),
        splitAxis_whole m k (hk k List.mem_cons_self)]
      rfl

/-- **(a) Every (voxel of the unpadded target, rotation) pair is evaluated by some job, and reported at its own
position**: for every target shape, split vector, schedule (also more inner jobs than rotations) and padding flag there
is a job one of whose chunks holds the rotation and whose box `[offset, offset + outShape)` contains the voxel; the
local cell `q` that `merge` reads for it satisfies `offset + q = p`.  (Whole template.) -/
theorem every_voxel_rotation_evaluated (tgt tmpl tS mS : List Nat) (outer inner : Nat) (rots : List R) (pe : Bool)
    (hl : tgt.length = tS.length) (hr : tgt.length = tmpl.length) (hpos : ∀ n ∈ tgt, 0 < n) (hi : 1 ≤ inner)
    (hm : splitShape tmpl mS = [tmpl.map (fun m => (0, m))])
    (p : List Nat) (hp : inShape tgt p = true) (r : R) (hrot : r ∈ rots) :
    ∃ J ∈ enumJobs tgt tmpl tS mS outer inner rots pe, (∃ c ∈ J.chunks, r ∈ c) ∧
      ∃ q, Pm.C04.localIdx J.offset J.outShape p = some q ∧ List.zipWith (· + ·) J.offset q = p := by
  obtain ⟨t, ht, q, hq⟩ := exists_tile_cell tgt tS p hl hp
  have hpair : (t, tmpl.map (fun m => (0, m))) ∈ splitPairs tgt tmpl tS mS :=
    (mem_splitPairs_whole hm).mpr ⟨ht, rfl⟩
  obtain ⟨i, hJ⟩ := enumJobs_of_mem tgt tmpl tS mS outer inner rots pe _ hpair
  refine ⟨_, hJ, ?_, ?_⟩
  · exact List.mem_flatten.mp ((splitRotations_concat rots inner hi).symm ▸ hrot)
  · obtain ⟨hoff, hshape⟩ := mkJob_box tgt tmpl tS outer inner rots pe hl hr hpos t ht i
    rw [hoff, hshape]
    exact ⟨q, hq, localIdx_add hq⟩

/-- **(a) … and nothing is reported anywhere else**: whatever job holds a cell for the absolute voxel `p`, that cell
stands for `p` itself (`offset + q = p`) and `p` lies in the job's own target slice — two overlapping tiles report a
shared voxel at the same global position, never at two different ones.  (Whole template.) -/
theorem job_reports_own_slice (tgt tmpl tS mS : List Nat) (outer inner : Nat) (rots : List R) (pe : Bool)
    (hl : tgt.length = tS.length) (hr : tgt.length = tmpl.length) (hpos : ∀ n ∈ tgt, 0 < n)
    (hm : splitShape tmpl mS = [tmpl.map (fun m => (0, m))])
    (J : Job R) (hJ : J ∈ enumJobs tgt tmpl tS mS outer inner rots pe) (p q : List Nat)
    (hq : Pm.C04.localIdx J.offset J.outShape p = some q) :
    List.zipWith (· + ·) J.offset q = p ∧
    List.Forall₂ (fun (s : Nat × Nat) (i : Nat) => s.1 ≤ i ∧ i < s.2) J.targetSlice p ∧
    J.outShape = J.targetSlice.map (fun s => s.2 - s.1) := by
  obtain ⟨⟨t, m⟩, htm, i, rfl⟩ := mem_enumJobs hJ
  obtain ⟨ht, rfl⟩ := (mem_splitPairs_whole hm).mp htm
  obtain ⟨hoff, hshape⟩ := mkJob_box tgt tmpl tS outer inner rots pe hl hr hpos t ht i
  rw [hoff, hshape] at hq
  exact ⟨localIdx_add hq, in_slice_of_localIdx (splitShape_in_bounds tgt tS hl hpos t ht) p q hq, hshape⟩

end enumeration

/-! ### (b) the schedule only changes the chunking; (c) the value at a voxel is the maximum over pairs and rotations -/

section schedule
variable {R : Type}

/-- **(b) The enumeration does not depend on the (outer, inner) job counts except for chunking**: job by job, in the same
order, the target slice, template slice, padding, offset, crop mode, tile shape, cropped shape and the concatenation of
the rotation chunks are the same for every two schedules (`inner ≥ 1`; also more inner jobs than rotations). -/
theorem enumJobs_schedule_free (tgt tmpl tS mS : List Nat) (o i o' i' : Nat) (rots : List R) (pe : Bool)
    (hi : 1 ≤ i) (hi' : 1 ≤ i') :
    (enumJobs tgt tmpl tS mS o i rots pe).map Job.core = (enumJobs tgt tmpl tS mS o' i' rots pe).map Job.core := by
  rw [enumJobs_core hi, enumJobs_core hi']

/-- the (target tile, template part, rotation) triples a schedule evaluates, in order -/
def evaluated (jobs : List (Job R)) : List (List (Nat × Nat) × List (Nat × Nat) × R) :=
  jobs.flatMap (fun J => J.chunks.flatten.map (fun r => (J.targetSlice, J.templateSlice, r)))

/-- **(b) The list (a fortiori the multiset) of evaluated (tile, template part, rotation) triples is the same for every
schedule**: it is every pair of the two splits combined with every rotation, each exactly once. -/
theorem evaluated_schedule_free (tgt tmpl tS mS : List Nat) (o i : Nat) (rots : List R) (pe : Bool) (hi : 1 ≤ i) :
    evaluated (enumJobs tgt tmpl tS mS o i rots pe)
      = (splitPairs tgt tmpl tS mS).flatMap (fun tm => rots.map (fun r => (tm.1, tm.2, r))) := by
  have h : ∀ jobs : List (Job R), evaluated jobs
      = (jobs.map Job.core).flatMap (fun c => c.rots.map (fun r => (c.targetSlice, c.templateSlice, r))) := by
    intro jobs; simp [evaluated, List.flatMap_map, Job.core]
  rw [h, enumJobs_core hi, List.flatMap_map]
  apply List.flatMap_congr
  intro tm _
  simp [coreOf, Job.core, mkJob, splitRotations_concat rots 1 (le_refl 1)]

variable {K : Type} [DecidableEq K]

open Pm.C04 in
/-- **(c) Template splits, as coded**: every (target tile, template part) pair is scored as a problem of its own with the
*target* tile's start as offset, and the parts are combined by `merge`, i.e. by the maximum — the value at a voxel is the
largest, over all template parts and rotations, of the part's score there.  (No sum over the parts, no shift by the
part's start: `template_offset` is computed in `subset_by_slice` and not used.) -/
theorem template_splits_combine_by_max {thr : Int} (score : ScoreFn R K) (tgt tmpl tS mS : List Nat) (o i : Nat)
    (rots : List R) (pe : Bool) (hi : 1 ≤ i)
    (h1 : tgt.length = tS.length) (h2 : tmpl.length = mS.length) (h3 : tgt.length = tmpl.length)
    {M : Store K} (hM : scanSubsetsRun thr score (enumJobs tgt tmpl tS mS o i rots pe) = some M) (p : List Nat) :
    M.valOr thr p = specMax thr ((splitPairs tgt tmpl tS mS).flatMap
      (fun tm => coreVals score p (coreOf tgt tmpl rots pe tm))) := by
  rw [scanSubsetsRun_value score _ (enumJobs_dims tgt tmpl tS mS o i rots pe h1 h2 h3) hM p,
      enumJobs_core hi, List.flatMap_map]

open Pm.C04 in
/-- **`scan_subsets_schedule_free` (end to end)**: run `scan_subsets` under two schedules `(o, i)` and `(o', i')` on the
same target, template, split dictionaries, rotation list and padding flag: jobs as `enumJobs` lists them, every rotation
chunk aggregated by an analyzer of its own (C04 `run`), `scan` merging its analyzers, `scan_subsets` merging the jobs
(C04 `merge`, as called: `None` entries, single-entry shortcut).  Then the two merged results hold the same value at
every absolute voxel, for every threshold — also when there are more inner jobs than rotations. -/
theorem scan_subsets_schedule_free {thr : Int} (score : ScoreFn R K) (tgt tmpl tS mS : List Nat) (o i o' i' : Nat)
    (rots : List R) (pe : Bool) (hi : 1 ≤ i) (hi' : 1 ≤ i')
    (h1 : tgt.length = tS.length) (h2 : tmpl.length = mS.length) (h3 : tgt.length = tmpl.length)
    {M M' : Store K}
    (hM : scanSubsetsRun thr score (enumJobs tgt tmpl tS mS o i rots pe) = some M)
    (hM' : scanSubsetsRun thr score (enumJobs tgt tmpl tS mS o' i' rots pe) = some M') (p : List Nat) :
    M.valOr thr p = M'.valOr thr p := by
  rw [template_splits_combine_by_max score tgt tmpl tS mS o i rots pe hi h1 h2 h3 hM p,
      template_splits_combine_by_max score tgt tmpl tS mS o' i' rots pe hi' h1 h2 h3 hM' p]

open Pm.C04 in
/-- **(a)+(b) composed with C14's tiling and C04's merge: tiled = unsplit.**  If the score array a job computes for a
rotation holds, at its local cell for the absolute voxel `p`, the value `g r p` of one global per-rotation map (that is
`tiled_eq_unsplit_padded` with edge padding; without it the hypothesis holds away from tile borders only), then what
`scan_subsets` returns is, at every voxel of the target, the maximum over the rotation list of that map (or the
threshold) — for every split vector and schedule. -/
theorem scan_subsets_eq_unsplit {thr : Int} (score : ScoreFn R K) (g : R → List Nat → Int)
    (tgt tmpl tS mS : List Nat) (o i : Nat) (rots : List R) (pe : Bool) (hi : 1 ≤ i)
    (h1 : tgt.length = tS.length) (h2 : tmpl.length = mS.length) (h3 : tgt.length = tmpl.length)
    (hpos : ∀ n ∈ tgt, 0 < n) (hm : splitShape tmpl mS = [tmpl.map (fun m => (0, m))])
    (hscore : ∀ t ∈ splitShape tgt tS, ∀ r ∈ rots, ∀ p q,
        localIdx (t.map Prod.fst) (t.map (fun s => s.2 - s.1)) p = some q →
        (score t (tmpl.map (fun m => (0, m))) r).1.getD q 0 = g r p)
    {M : Store K} (hM : scanSubsetsRun thr score (enumJobs tgt tmpl tS mS o i rots pe) = some M)
    (p : List Nat) (hp : inShape tgt p = true) :
    M.valOr thr p = specMax thr (rots.map (fun r => g r p)) := by
  rw [template_splits_combine_by_max score tgt tmpl tS mS o i rots pe hi h1 h2 h3 hM p]
  apply specMax_congr_mem
  intro x
  simp only [List.mem_flatMap, List.mem_map]
  constructor
  · rintro ⟨⟨t, m⟩, htm, hx⟩
    obtain ⟨ht, rfl⟩ := (mem_splitPairs_whole hm).mp htm
    obtain ⟨q, hq, r, hr, rfl⟩ := (mem_coreVals_whole score tgt tmpl tS rots pe h1 h3 hpos t ht p x).mp hx
    exact ⟨r, hr, (hscore t ht r hr p q hq).symm⟩
  · rintro ⟨r, hr, rfl⟩
    obtain ⟨t, ht, q, hq⟩ := exists_tile_cell tgt tS p h1 hp
    exact ⟨(t, _), (mem_splitPairs_whole hm).mpr ⟨ht, rfl⟩,
      (mem_coreVals_whole score tgt tmpl tS rots pe h1 h3 hpos t ht p _).mpr ⟨q, hq, r, hr, hscore t ht r hr p q hq⟩⟩

end schedule

/-! ### a rotation that attains the value; the link to the padded-tile theorem; witnesses for template splits -/

section more
variable {R K : Type} [DecidableEq K]

open Pm.C04 in
/-- **Per voxel, a rotation that attains it** (any split vector, any schedule): at every cell of the merged result either
the marker `-1` stands and the score is the threshold, or the stored identifier maps through the merged table to a
rotation key that some job's analyzer was handed together with an array holding exactly the stored value at that voxel. -/
theorem scan_subsets_rotation_attains {thr : Int} (score : ScoreFn R K) (tgt tmpl tS mS : List Nat) (o i : Nat)
    (rots : List R) (pe : Bool)
    (h1 : tgt.length = tS.length) (h2 : tmpl.length = mS.length) (h3 : tgt.length = tmpl.length)
    {M : Store K} (hM : scanSubsetsRun thr score (enumJobs tgt tmpl tS mS o i rots pe) = some M)
    (p q : List Nat) (hq : localIdx M.offset M.scores.shape p = some q) :
    (M.rots.getD q 0 = -1 ∧ M.scores.getD q 0 = thr) ∨
    ∃ k j, lookup k M.table = some j ∧ M.rots.getD q 0 = (j : Int) ∧
      Attains ((enumJobs tgt tmpl tS mS o i rots pe).flatMap (jobTiles score)) p k (M.scores.getD q 0) ∧
      thr < M.scores.getD q 0 :=
  ((scanSubsetsRun_represents score _ (enumJobs_dims tgt tmpl tS mS o i rots pe h1 h2 h3) hM).cell p q hq).2

/-- a score function that reads one global per-rotation map `g` at the global position of each cell: the hypothesis
`hscore` of `scan_subsets_eq_unsplit` is satisfiable for every `g` and every tiling -/
def globalScore (g : R → List Nat → Int) (key : R → K) : ScoreFn R K := fun t _ r =>
  (Arr.ofFn (t.map (fun s => s.2 - s.1)) (fun q => g r (List.zipWith (· + ·) (t.map Prod.fst) q)), key r)

omit [DecidableEq K] in
open Pm.C04 in
theorem globalScore_reads_g (g : R → List Nat → Int) (key : R → K) (t m : List (Nat × Nat)) (r : R) (p q : List Nat)
    (hq : localIdx (t.map Prod.fst) (t.map (fun s => s.2 - s.1)) p = some q) :
    (globalScore g key t m r).1.getD q 0 = g r p := by
  simp only [globalScore]
  rw [Arr.getD_ofFn _ _ _ _ (localIdx_inShape hq), localIdx_add hq]

/-- the axes of a job's padded tile in the vocabulary of `tiled_eq_unsplit_padded` (edge padding on) -/
def jobAxes : List Nat → List (Nat × Nat) → List Nat → List AxSpec
  | N :: ns, s :: ss, m :: ms => ⟨N, s.1, s.2, m - m % 2⟩ :: jobAxes ns ss ms
  | _, _, _ => []

/-- the tile shape the analyzer of a padded job is told (`targetshape`) is the extent of C14's tile extraction -/
theorem jobAxes_ext : ∀ (tgt : List Nat) (t : List (Nat × Nat)) (tmpl : List Nat),
    tileExt (jobAxes tgt t tmpl) = zipWith3 paddedExtent tgt t (targetPad tmpl true)
  | [], _, _ => by simp [jobAxes, tileExt, zipWith3]
  | _ :: _, [], _ => by simp [jobAxes, tileExt, zipWith3]
  | _ :: _, _ :: _, [] => by simp [jobAxes, tileExt, zipWith3, targetPad]
  | N :: ns, s :: ss, m :: ms => by
    have ih := jobAxes_ext ns ss ms
    simp only [tileExt, targetPad] at ih
    simp only [jobAxes, tileExt, List.map_cons, targetPad, zipWith3, if_true, ih]
    rfl

/-- **The offset handed to the analyzer is the one `tiled_eq_unsplit_padded` asks for**: cell `q` of a padded job with
target slice `t` and cell `start + q` of the unsplit padded run (slice = whole target) address the same global position
(`SamePos`), so — with C14's tile content (`tile_content_hypothesis`) — both hold the same score. -/
theorem job_cell_same_position : ∀ (tgt : List Nat) (t : List (Nat × Nat)) (tmpl q : List Nat),
    t.length = tgt.length → tmpl.length = tgt.length → q.length = tgt.length →
    SamePos tmpl (tileOff (jobAxes tgt t tmpl)) (q.map Int.ofNat)
      (tileOff (jobAxes tgt (tgt.map (fun N => (0, N))) tmpl))
      ((List.zipWith (· + ·) (t.map Prod.fst) q).map Int.ofNat)
  | [], t, tmpl, q, h1, h2, h3 => by
    rw [List.length_eq_zero_iff.mp h1, List.length_eq_zero_iff.mp h2, List.length_eq_zero_iff.mp h3]
    trivial
  | N :: ns, t, tmpl, q, h1, h2, h3 => by
    obtain ⟨s, ss, rfl⟩ := List.exists_cons_of_length_eq_add_one h1
    obtain ⟨m, ms, rfl⟩ := List.exists_cons_of_length_eq_add_one h2
    obtain ⟨x, xs, rfl⟩ := List.exists_cons_of_length_eq_add_one h3
    refine ⟨?_, job_cell_same_position ns ss ms xs (Nat.succ.inj h1) (Nat.succ.inj h2) (Nat.succ.inj h3)⟩
    show (s.1 : Int) - _ + Int.ofNat x = ((0 : Nat) : Int) - _ + Int.ofNat (s.1 + x)
    simp only [AxSpec.left, Int.ofNat_eq_natCast, Nat.cast_add, Nat.cast_zero]
    ring

/-- 1-D cross-correlation of the definition: `Σ_k f[j + k] g[k]` -/
def ccAt (f g : List Int) (j : Nat) : Int :=
  ((List.range g.length).map (fun k => f.getD (j + k) 0 * g.getD k 0)).foldl (· + ·) 0

/-- the CC score of the template part `g[m]` on the target tile `f[t]` (1-D, "same" frame anchored at the part's start) -/
def partScore (f g : List Int) : ScoreFn Unit String := fun t m _ =>
  (Arr.ofFn (t.map (fun s => s.2 - s.1)) (fun idx =>
     ccAt f ((g.drop (m.headD (0, 0)).1).take ((m.headD (0, 0)).2 - (m.headD (0, 0)).1)) ((t.headD (0, 0)).1 + idx.headD 0)), "r")

/-- **(c) witness: the clause "the result does not depend on splitting" fails for template splits.**  Target `[1,2,3]`,
template `[1,1]` cut into two parts: each part scores `[1,2,3]`, `merge` keeps the maximum `1` at voxel 0, while the
unsplit cross-correlation there is `1·1 + 2·1 = 3` (the sum of the parts, the second one shifted by its start). -/
theorem template_split_max_not_sum_current_defect :
    (scanSubsetsRun 0 (partScore [1, 2, 3] [1, 1]) (enumJobs [3] [2] [0] [2] 1 1 [()] false)).map (fun M => M.valOr 0 [0])
      = some 1 ∧ ccAt [1, 2, 3] [1, 1] 0 = 3 := by decide +kernel

/-- **(c) witness: with edge padding the box a template-part job reports is not its target slice.**  Target 9×7,
template 4×2 cut in two along axis 0, two target tiles, padding on: the margin is taken from the *whole* template
(4, 2), the "valid" crop from the *part* (2, 2): the cropped array is 7×7 although the slice is 5×7, and it is placed at
the slice start — and the two parts of a tile get the same offset. -/
theorem template_split_box_current_defect :
    (enumJobs [9, 7] [4, 2] [2, 0] [2, 0] 1 1 [0] true).map
        (fun J => (J.templateSlice, J.offset, J.outShape, J.targetSlice.map (fun s => s.2 - s.1)))
      = [([(0, 2), (0, 2)], [0, 0], [7, 7], [5, 7]), ([(2, 4), (0, 2)], [0, 0], [7, 7], [5, 7]),
         ([(0, 2), (0, 2)], [4, 0], [7, 7], [5, 7]), ([(2, 4), (0, 2)], [4, 0], [7, 7], [5, 7])] := by decide +kernel

end more

/-! ### (a) composed with C14's tile content and C01's valid frame: a padded job reports the unsplit value at the global position -/

theorem vRefl_jobAxes : ∀ (tgt : List Nat) (t t' : List (Nat × Nat)) (tmpl : List Nat) (pos : List Int),
    t.length = tgt.length → t'.length = tgt.length →
    vRefl (jobAxes tgt t tmpl) pos = vRefl (jobAxes tgt t' tmpl) pos
  | [], _, _, _, _, _, _ => rfl
  | N :: ns, t, t', tmpl, pos, h, h' => by
    obtain ⟨s, ss, rfl⟩ := List.exists_cons_of_length_eq_add_one h
    obtain ⟨s', ss', rfl⟩ := List.exists_cons_of_length_eq_add_one h'
    cases tmpl with
    | nil => rfl
    | cons m ms => cases pos with
      | nil => rfl
      | cons x xs =>
        simp only [jobAxes, vRefl]
        rw [vRefl_jobAxes ns ss ss' ms xs (Nat.succ.inj h) (Nat.succ.inj h')]

/-- **A job with edge padding reports, at its cropped cell `q`, exactly what the unsplit padded run reports at the global
position `start + q`** — for every correlation map (hence, by C01, every score), any rank, any tiling, `pad_fourier` on
or off.  `T` is the padded tile of the job with target slice `t` (it holds `vol[src(x)]`, C14's `subset_array`
bookkeeping, as the C14 correspondence observes on real tiles), `U` the padded whole target (slice = everything); margins
within one reflection (`AxSpec.Ok`), cells inside the `valid` crop.  This discharges the hypothesis `hscore` of
`scan_subsets_eq_unsplit` for the padded search. -/
theorem padded_job_score_eq_unsplit {α} [CommSemiring α] (pad : Bool) (tgt : List Nat) (t : List (Nat × Nat))
    (tmpl q NsT NsU : List Nat) (vol T U g : List Int → α)
    (h1 : t.length = tgt.length) (h2 : tmpl.length = tgt.length) (h3 : q.length = tgt.length)
    (hokT : ∀ a ∈ jobAxes tgt t tmpl, a.Ok) (hokU : ∀ a ∈ jobAxes tgt (tgt.map (fun N => (0, N))) tmpl, a.Ok)
    (hT : Pm.C01.Supp (tileExt (jobAxes tgt t tmpl)) T)
    (hU : Pm.C01.Supp (tileExt (jobAxes tgt (tgt.map (fun N => (0, N))) tmpl)) U) (hg : Pm.C01.Supp tmpl g)
    (cT : ∀ x, InBoxI (tileExt (jobAxes tgt t tmpl)) x → T x = vol (tileSrc (jobAxes tgt t tmpl) x))
    (cU : ∀ x, InBoxI (tileExt (jobAxes tgt (tgt.map (fun N => (0, N))) tmpl)) x →
        U x = vol (tileSrc (jobAxes tgt (tgt.map (fun N => (0, N))) tmpl) x))
    (hj : Pm.C01.ValidOk pad (tileExt (jobAxes tgt t tmpl)) tmpl NsT (q.map Int.ofNat))
    (hJ : Pm.C01.ValidOk pad (tileExt (jobAxes tgt (tgt.map (fun N => (0, N))) tmpl)) tmpl NsU
        ((List.zipWith (· + ·) (t.map Prod.fst) q).map Int.ofNat)) :
    Pm.C01.implCorr NsT tmpl (Pm.C01.shiftsOf pad tmpl) (Pm.C01.validCrops pad (tileExt (jobAxes tgt t tmpl)) tmpl) T g
        (q.map Int.ofNat)
      = Pm.C01.implCorr NsU tmpl (Pm.C01.shiftsOf pad tmpl)
          (Pm.C01.validCrops pad (tileExt (jobAxes tgt (tgt.map (fun N => (0, N))) tmpl)) tmpl) U g
          ((List.zipWith (· + ·) (t.map Prod.fst) q).map Int.ofNat) := by
  apply tiled_eq_unsplit_padded pad _ _ tmpl NsT NsU T U (fun pos => vol (vRefl (jobAxes tgt t tmpl) pos)) g
    (tileOff (jobAxes tgt t tmpl)) (tileOff (jobAxes tgt (tgt.map (fun N => (0, N))) tmpl)) _ _ hT hU hg
    (tile_content_hypothesis vol T _ hokT cT) ?_ hj hJ (job_cell_same_position tgt t tmpl q h1 h2 h3)
  intro x hx
  have := tile_content_hypothesis vol U _ hokU cU x hx
  simp only at this
  rw [this, vRefl_jobAxes tgt _ t tmpl _ (by simp) h1]

section sideconditions
open Pm.C01

/-- per axis: the slice lies in the target, the template extent is positive, `q` is a cell of the cropped array, the FFT
shape `F` holds the convolution of the padded tile -/
def CellOk (pad : Bool) : List Nat → List (Nat × Nat) → List Nat → List Nat → List Nat → Prop
  | [], [], [], [], [] => True
  | N :: ns, s :: ss, m :: ms, q :: qs, F :: Fs =>
      (s.1 < s.2 ∧ s.2 ≤ N ∧ 0 < m ∧ q < s.2 - s.1 ∧ convLen (s.2 - s.1 + (m - m % 2)) m pad ≤ F) ∧ CellOk pad ns ss ms qs Fs
  | _, _, _, _, _ => False

/-- **Every cell of a padded job's cropped array lies in C01's `valid` frame** (the side condition `ValidOk` of
`padded_job_score_eq_unsplit`): the padded tile has extent `L + (m - m % 2) ≥ m`, its `valid` extent is `L`. -/
theorem job_validOk (pad : Bool) : ∀ (tgt : List Nat) (t : List (Nat × Nat)) (tmpl q Fs : List Nat),
    CellOk pad tgt t tmpl q Fs → ValidOk pad (tileExt (jobAxes tgt t tmpl)) tmpl Fs (q.map Int.ofNat)
  | tgt, t, tmpl, q, Fs, h => by
    fun_induction CellOk pad tgt t tmpl q Fs with
    | case1 => trivial
    | case2 N ns s ss m ms x xs F Fs ih =>
      obtain ⟨⟨h1, h2, h3, h4, h5⟩, hr⟩ := h
      rw [jobAxes, tileExt, List.map_cons, List.map_cons, ValidOk, jobAxis_extent N s.1 s.2 m (Nat.le_of_lt h1),
        validExt, crop_padded _ m (Nat.sub_pos_of_lt h1)]
      exact ⟨⟨h3, by omega, h5, Int.natCast_nonneg x, Int.ofNat_lt.mpr h4⟩, ih hr⟩
    | case3 => exact h.elim

/-- **The margins of the jobs stay within one reflection** (`AxSpec.Ok`, the side condition of
`padded_job_score_eq_unsplit`) as soon as every tile is longer than half the template on every axis
(`m / 2 < stop - start`): tiles inside the target, e.g. those of `split_shape` (`splitShape_in_bounds`). -/
theorem jobAxes_ok : ∀ (tgt : List Nat) (t : List (Nat × Nat)) (tmpl : List Nat),
    List.Forall₂ (fun (r : Nat × Nat) (N : Nat) => r.1 < r.2 ∧ r.2 ≤ N) t tgt →
    List.Forall₂ (fun (r : Nat × Nat) (m : Nat) => m / 2 < r.2 - r.1) t tmpl →
    ∀ a ∈ jobAxes tgt t tmpl, a.Ok
  | tgt, t, tmpl, hb, hh, a, ha => by
    induction hb generalizing tmpl with
    | nil => cases ha
    | cons h1 _ ih => cases hh with
      | cons h2 hr2 =>
        rcases List.mem_cons.mp ha with rfl | ha
        · exact AxSpec.ok_of_left_lt _ h1.1 h1.2 ((jobAxis_left ..).trans_lt h2)
        · exact ih _ hr2 ha

theorem CellOk.facts (pad : Bool) : ∀ (tgt : List Nat) (t : List (Nat × Nat)) (tmpl q Fs : List Nat),
    CellOk pad tgt t tmpl q Fs → t.length = tgt.length ∧ tmpl.length = tgt.length ∧ q.length = tgt.length ∧
      List.Forall₂ (fun (r : Nat × Nat) (N : Nat) => r.1 < r.2 ∧ r.2 ≤ N) t tgt
  | tgt, t, tmpl, q, Fs, h => by
    fun_induction CellOk pad tgt t tmpl q Fs with
    | case1 => exact ⟨rfl, rfl, rfl, .nil⟩
    | case2 N ns s ss m ms x xs F Fs ih =>
      obtain ⟨a, b, c, d⟩ := ih h.2
      exact ⟨congrArg Nat.succ a, congrArg Nat.succ b, congrArg Nat.succ c, .cons ⟨h.1.1, h.1.2.1⟩ d⟩
    | case3 => exact h.elim

/-- **`padded_job_score_eq_unsplit` with its side conditions discharged from shapes**: for a job whose tiles are longer
than half the template on every axis (`m / 2 < L`: one reflection suffices), every cell `q` of its cropped array
(`CellOk`: slice inside the target, `q` inside the slice extent, FFT shapes large enough for the convolution) holds the
value the unsplit padded run holds at the global position `start + q` — given only C14's tile content for `T` and `U`. -/
theorem padded_job_cell_eq_unsplit_cell {α} [CommSemiring α] (pad : Bool) (tgt : List Nat) (t : List (Nat × Nat))
    (tmpl q FsT FsU : List Nat) (vol T U g : List Int → α)
    (hc : CellOk pad tgt t tmpl q FsT)
    (hC : CellOk pad tgt (tgt.map (fun N => (0, N))) tmpl (List.zipWith (· + ·) (t.map Prod.fst) q) FsU)
    (hhalf : List.Forall₂ (fun (r : Nat × Nat) (m : Nat) => m / 2 < r.2 - r.1) t tmpl)
    (hT : Supp (tileExt (jobAxes tgt t tmpl)) T)
    (hU : Supp (tileExt (jobAxes tgt (tgt.map (fun N => (0, N))) tmpl)) U) (hg : Supp tmpl g)
    (cT : ∀ x, InBoxI (tileExt (jobAxes tgt t tmpl)) x → T x = vol (tileSrc (jobAxes tgt t tmpl) x))
    (cU : ∀ x, InBoxI (tileExt (jobAxes tgt (tgt.map (fun N => (0, N))) tmpl)) x →
        U x = vol (tileSrc (jobAxes tgt (tgt.map (fun N => (0, N))) tmpl) x)) :
    implCorr FsT tmpl (shiftsOf pad tmpl) (validCrops pad (tileExt (jobAxes tgt t tmpl)) tmpl) T g (q.map Int.ofNat)
      = implCorr FsU tmpl (shiftsOf pad tmpl)
          (validCrops pad (tileExt (jobAxes tgt (tgt.map (fun N => (0, N))) tmpl)) tmpl) U g
          ((List.zipWith (· + ·) (t.map Prod.fst) q).map Int.ofNat) := by
  obtain ⟨l1, l2, l3, hb⟩ := CellOk.facts pad tgt t tmpl q FsT hc
  obtain ⟨hbU, hhU⟩ := whole_target_slices_ok tgt t tmpl hb hhalf
  exact padded_job_score_eq_unsplit pad tgt t tmpl q FsT FsU vol T U g l1 l2 l3
    (jobAxes_ok tgt t tmpl hb hhalf) (jobAxes_ok tgt _ tmpl hbU hhU) hT hU hg cT cU
    (job_validOk pad tgt t tmpl q FsT hc) (job_validOk pad tgt _ tmpl _ FsU hC)

example : CellOk true [9, 7] [(4, 9), (3, 6)] [3, 2] [1, 2] [9, 6] ∧
    CellOk true [9, 7] ([9, 7].map (fun N => (0, N))) [3, 2] (List.zipWith (· + ·) ([(4, 9), (3, 6)].map Prod.fst) [1, 2]) [13, 10] := by
  simp only [CellOk, List.map, List.zipWith]
  decide

end sideconditions

/-! ### nothing is reported outside the target; the merged result has a cell for every voxel of the target -/

section box
variable {R K : Type} [DecidableEq K]

open Pm.C04 in
/-- **No job reports anything outside the target**: at an absolute position that is not a voxel of the target the merged
result holds the threshold (or has no cell at all) — no tile is placed with an offset that pushes scores beyond the
target's ends.  (Whole template; with template parts and padding the boxes are larger, see
`template_split_box_current_defect`.) -/
theorem scan_subsets_nothing_outside_target {thr : Int} (score : ScoreFn R K) (tgt tmpl tS mS : List Nat) (o i : Nat)
    (rots : List R) (pe : Bool) (hi : 1 ≤ i)
    (h1 : tgt.length = tS.length) (h2 : tmpl.length = mS.length) (h3 : tgt.length = tmpl.length)
    (hpos : ∀ n ∈ tgt, 0 < n) (hm : splitShape tmpl mS = [tmpl.map (fun m => (0, m))])
    {M : Store K} (hM : scanSubsetsRun thr score (enumJobs tgt tmpl tS mS o i rots pe) = some M)
    (p : List Nat) (hp : inShape tgt p = false) :
    M.valOr thr p = thr := by
  rw [template_splits_combine_by_max score tgt tmpl tS mS o i rots pe hi h1 h2 h3 hM p, List.flatMap_eq_nil_iff.mpr]
  · rfl
  rintro ⟨t, m⟩ htm
  obtain ⟨ht, rfl⟩ := (mem_splitPairs_whole hm).mp htm
  rw [List.eq_nil_iff_forall_not_mem]
  intro x hx
  obtain ⟨q, hq, -⟩ := (mem_coreVals_whole score tgt tmpl tS rots pe h1 h3 hpos t ht p x).mp hx
  have hb := splitShape_in_bounds tgt tS h1 hpos t ht
  rw [inShape_of_in_slice t tgt p hb (in_slice_of_localIdx hb p q hq)] at hp
  cases hp

open Pm.C04 in
/-- **The merged result has a cell for every voxel of the target** (at least one rotation): the value of
`scan_subsets_eq_unsplit` is read from the array, not a default. -/
theorem scan_subsets_covers_target {thr : Int} (score : ScoreFn R K) (tgt tmpl tS mS : List Nat) (o i : Nat)
    (rots : List R) (pe : Bool) (hi : 1 ≤ i) (hne : rots ≠ [])
    (h1 : tgt.length = tS.length) (h2 : tmpl.length = mS.length) (h3 : tgt.length = tmpl.length)
    (hpos : ∀ n ∈ tgt, 0 < n) (hm : splitShape tmpl mS = [tmpl.map (fun m => (0, m))])
    {M : Store K} (hM : scanSubsetsRun thr score (enumJobs tgt tmpl tS mS o i rots pe) = some M)
    (p : List Nat) (hp : inShape tgt p = true) :
    ∃ q, localIdx M.offset M.scores.shape p = some q := by
  cases hl : localIdx M.offset M.scores.shape p with
  | some q => exact ⟨q, rfl⟩
  | none =>
    have hnil := (scanSubsetsRun_represents score _ (enumJobs_dims tgt tmpl tS mS o i rots pe h1 h2 h3) hM).outside p hl
    rw [allVals_flatMap, List.flatMap_eq_nil_iff] at hnil
    obtain ⟨r, hr⟩ := List.exists_mem_of_ne_nil rots hne
    obtain ⟨J, hJ, ⟨c, hc, hrc⟩, q, hq, -⟩ :=
      every_voxel_rotation_evaluated tgt tmpl tS mS o i rots pe h1 h3 hpos hi hm p hp r hr
    have hx : (score J.targetSlice J.templateSlice r).1.getD q 0 ∈ coreVals score p J.core :=
      (mem_tileVals _ p _).mpr ⟨q, hq, _, List.mem_map_of_mem (List.mem_flatten.mpr ⟨c, hc, hrc⟩), rfl⟩
    rw [← allVals_jobTiles, hnil J hJ] at hx
    cases hx

end box

/-! ### the headline: splits, schedule, job count and rotation order together -/

section headline
variable {R K : Type} [DecidableEq K]

open Pm.C04 in
/-- **Independent of the rotation order, of repeated rotations and of the schedule at once**: two runs on the same
tiling whose rotation lists have the same members (a permutation, a different chunking, duplicates) under any two
schedules hold the same value at every absolute voxel (template splits allowed, as coded). -/
theorem scan_subsets_rotation_order_free {thr : Int} (score : ScoreFn R K) (tgt tmpl tS mS : List Nat) (o i o' i' : Nat)
    (rots rots' : List R) (pe : Bool) (hi : 1 ≤ i) (hi' : 1 ≤ i') (hmem : ∀ r, r ∈ rots ↔ r ∈ rots')
    (h1 : tgt.length = tS.length) (h2 : tmpl.length = mS.length) (h3 : tgt.length = tmpl.length)
    {M M' : Store K}
    (hM : scanSubsetsRun thr score (enumJobs tgt tmpl tS mS o i rots pe) = some M)
    (hM' : scanSubsetsRun thr score (enumJobs tgt tmpl tS mS o' i' rots' pe) = some M') (p : List Nat) :
    M.valOr thr p = M'.valOr thr p := by
  rw [template_splits_combine_by_max score tgt tmpl tS mS o i rots pe hi h1 h2 h3 hM p,
      template_splits_combine_by_max score tgt tmpl tS mS o' i' rots' pe hi' h1 h2 h3 hM' p]
  apply specMax_congr_mem
  intro x
  have key : ∀ (ra rb : List R), (∀ r, r ∈ ra → r ∈ rb) → ∀ tm,
      x ∈ coreVals score p (coreOf tgt tmpl ra pe tm) → x ∈ coreVals score p (coreOf tgt tmpl rb pe tm) := by
    intro ra rb hsub tm hx
    obtain ⟨q, hq, r, hr, e⟩ := (mem_coreVals_coreOf score tgt tmpl ra pe tm p x).mp hx
    exact (mem_coreVals_coreOf score tgt tmpl rb pe tm p x).mpr ⟨q, hq, r, hsub r hr, e⟩
  simp only [List.mem_flatMap]
  exact ⟨fun ⟨tm, htm, h⟩ => ⟨tm, htm, key rots rots' (fun r => (hmem r).mp) tm h⟩,
    fun ⟨tm, htm, h⟩ => ⟨tm, htm, key rots' rots (fun r => (hmem r).mpr) tm h⟩⟩

open Pm.C04 in
/-- **C02, the aggregated map** (exact arithmetic, whole template): two searches over the same target and template with
*different* split vectors `tS`, `tS'`, *different* schedules `(o, i)`, `(o', i')` (any job counts, also more inner jobs
than rotations) and rotation lists that are permutations of each other hold the same value at every voxel of the target
— provided each job's score array reads one global per-rotation map at the global position of its cells (with edge
padding: `padded_job_score_eq_unsplit`; without: only away from tile borders, the documented limitation). -/
theorem match_result_independent_of_splits_schedule_order {thr : Int} (score : ScoreFn R K) (g : R → List Nat → Int)
    (tgt tmpl tS tS' mS : List Nat) (o i o' i' : Nat) (rots rots' : List R) (pe : Bool)
    (hi : 1 ≤ i) (hi' : 1 ≤ i') (hperm : rots.Perm rots')
    (h1 : tgt.length = tS.length) (h1' : tgt.length = tS'.length) (h2 : tmpl.length = mS.length)
    (h3 : tgt.length = tmpl.length) (hpos : ∀ n ∈ tgt, 0 < n)
    (hm : splitShape tmpl mS = [tmpl.map (fun m => (0, m))])
    (hscore : ∀ t, t ∈ splitShape tgt tS ∨ t ∈ splitShape tgt tS' → ∀ r ∈ rots, ∀ p q,
        localIdx (t.map Prod.fst) (t.map (fun s => s.2 - s.1)) p = some q →
        (score t (tmpl.map (fun m => (0, m))) r).1.getD q 0 = g r p)
    {M M' : Store K}
    (hM : scanSubsetsRun thr score (enumJobs tgt tmpl tS mS o i rots pe) = some M)
    (hM' : scanSubsetsRun thr score (enumJobs tgt tmpl tS' mS o' i' rots' pe) = some M')
    (p : List Nat) (hp : inShape tgt p = true) :
    M.valOr thr p = M'.valOr thr p := by
  rw [scan_subsets_eq_unsplit score g tgt tmpl tS mS o i rots pe hi h1 h2 h3 hpos hm
        (fun t ht r hr => hscore t (Or.inl ht) r hr) hM p hp,
      scan_subsets_eq_unsplit score g tgt tmpl tS' mS o' i' rots' pe hi' h1' h2 h3 hpos hm
        (fun t ht r hr => hscore t (Or.inr ht) r (hperm.mem_iff.mpr hr)) hM' p hp]
  exact specMax_perm (hperm.map _)

end headline

/-! ### the crop mode; schedules computed on different machines -/

section machine
variable {R K : Type} [DecidableEq K]

/-- the analyzer is told "valid" exactly when edge padding was requested and some template extent is at least 2
(`_is_padded = sum(target_pad) > 0`, `target_pad = m - m % 2`) — otherwise "same" -/
theorem job_valid_iff (tgt tmpl tS mS : List Nat) (o i : Nat) (rots : List R) (pe : Bool)
    (J : Job R) (hJ : J ∈ enumJobs tgt tmpl tS mS o i rots pe) :
    J.valid = true ↔ pe = true ∧ ∃ m ∈ tmpl, 2 ≤ m := by
  obtain ⟨tm, _, k, rfl⟩ := mem_enumJobs hJ
  simp only [mkJob, decide_eq_true_eq]
  exact targetPad_sum_pos tmpl pe

open Pm.C04 Pm.C14 in
/-- **The result does not depend on the machine**: `compute_parallelization_schedule` (C14 `schedule`) run for two
machines — different core counts, different memory limits, different memory estimators — returns split vectors and
(outer, inner) job counts `c`, `c'`; the two searches they configure hold the same value at every voxel of the target
(hypotheses as in `match_result_independent_of_splits_schedule_order`; a returned schedule always has `inner ≥ 1` because
`outer · inner = max_cores`, C14 `schedule_sound`). -/
theorem match_result_independent_of_machine {thr : Int} (score : ScoreFn R K) (g : R → List Nat → Int)
    (tgt tmpl mS : List Nat) (rots rots' : List R) (pe : Bool)
    (P P' : Problem) (fa fi fa' fi' : Nat) (c c' : Cand)
    (hc : schedule P fa fi = some c) (hc' : schedule P' fa' fi' = some c')
    (hP : 0 < P.maxCores) (hP' : 0 < P'.maxCores) (hperm : rots.Perm rots')
    (h1 : tgt.length = c.splits.length) (h1' : tgt.length = c'.splits.length) (h2 : tmpl.length = mS.length)
    (h3 : tgt.length = tmpl.length) (hpos : ∀ n ∈ tgt, 0 < n)
    (hm : splitShape tmpl mS = [tmpl.map (fun m => (0, m))])
    (hscore : ∀ t, t ∈ splitShape tgt c.splits ∨ t ∈ splitShape tgt c'.splits → ∀ r ∈ rots, ∀ p q,
        localIdx (t.map Prod.fst) (t.map (fun s => s.2 - s.1)) p = some q →
        (score t (tmpl.map (fun m => (0, m))) r).1.getD q 0 = g r p)
    {M M' : Store K}
    (hM : scanSubsetsRun thr score (enumJobs tgt tmpl c.splits mS c.outer c.inner rots pe) = some M)
    (hM' : scanSubsetsRun thr score (enumJobs tgt tmpl c'.splits mS c'.outer c'.inner rots' pe) = some M')
    (p : List Nat) (hp : inShape tgt p = true) :
    M.valOr thr p = M'.valOr thr p := by
  exact match_result_independent_of_splits_schedule_order score g tgt tmpl c.splits c'.splits mS c.outer c.inner
    c'.outer c'.inner rots rots' pe (schedule_inner_pos hc hP) (schedule_inner_pos hc' hP') hperm h1 h1' h2 h3 hpos hm
    hscore hM hM' p hp

end machine

/-! ### without edge padding; tiles listed twice -/

section unpadded
open Pm.C01

theorem shiftL_specIdx (ms : List Nat) (off t : List Int) (k : List Nat) :
    shiftL off (specIdx ms t k) = specIdx ms (shiftL off t) k := by
  induction ms generalizing off t k with
  | nil => cases off <;> cases t <;> rfl
  | cons m ms ih =>
    rcases t with _ | ⟨x, t⟩
    · cases off <;> rfl
    · rcases k with _ | ⟨k, ks⟩
      · cases off <;> rfl
      · rcases off with _ | ⟨o, off⟩
        · rfl
        · simp only [shiftL, specIdx, ih]
          congr 1
          omega

/-- **Without edge padding: a job reports the unsplit value wherever the template window lies inside the job's tile.**
The tile `T` of a job with target slice `t` shows the target `U` shifted by the slice start — the offset the job hands to
its analyzer; a cell `c` of the job ("same" frame) whose window stays inside the tile holds what the unsplit run holds at
`start + c`.  (Windows that cross an internal tile border are the documented limitation, a known finding.) -/
theorem unpadded_job_score_eq_unsplit_interior {α} [CommSemiring α] (pad : Bool) (tgt : List Nat) (t : List (Nat × Nat))
    (tmpl NsT NsU : List Nat) (T U g : List Int → α) (c : List Int)
    (hT : Supp (t.map (fun s => s.2 - s.1)) T) (hU : Supp tgt U) (hg : Supp tmpl g)
    (cT : ∀ x, InBoxI (t.map (fun s => s.2 - s.1)) x → T x = U (shiftL (t.map (fun s => (s.1 : Int))) x))
    (hc : SameOk pad (t.map (fun s => s.2 - s.1)) tmpl NsT c)
    (hG : SameOk pad tgt tmpl NsU (shiftL (t.map (fun s => (s.1 : Int))) c))
    (hin : ∀ k, inShape tmpl k = true → InBoxI (t.map (fun s => s.2 - s.1)) (specIdx tmpl c k)) :
    implCorr NsT tmpl (shiftsOf pad tmpl) (sameCrops pad (t.map (fun s => s.2 - s.1)) tmpl) T g c
      = implCorr NsU tmpl (shiftsOf pad tmpl) (sameCrops pad tgt tmpl) U g (shiftL (t.map (fun s => (s.1 : Int))) c) := by
  apply tiled_eq_unsplit_interior pad _ _ tmpl NsT NsU T U g (t.map (fun s => (s.1 : Int))) c _ hT hU hg hc hG
  intro k hk
  rw [cT _ (hin k hk), shiftL_specIdx]

example : SameOk true [5, 3] [3, 2] [7, 4] [2, 1] ∧ SameOk true [9, 7] [3, 2] [11, 8] (shiftL [4, 3] [2, 1]) ∧
    (∀ k, inShape [3, 2] k = true → InBoxI [5, 3] (specIdx [3, 2] [2, 1] k)) := by
  refine ⟨by simp only [SameOk]; decide, by simp only [SameOk, shiftL]; decide, ?_⟩
  intro k hk
  obtain ⟨a, b, rfl⟩ := List.length_eq_two.mp (inShape_length hk)
  simp only [inShape, Bool.and_true, Bool.and_eq_true, decide_eq_true_eq] at hk
  simp only [specIdx, InBoxI, and_true]
  omega

/-- **No tile is reported with two different offsets**: two jobs with the same slices (which `split_shape` does produce
when the shifted-back last tiles coincide) get the same offset, tile shape, cropped shape and rotation chunks — the tile
is scored twice and both results land on the same cells, which the maximum does not notice. -/
theorem same_slices_same_box {R : Type} (tgt tmpl tS mS : List Nat) (o i : Nat) (rots : List R) (pe : Bool)
    (J J' : Job R) (hJ : J ∈ enumJobs tgt tmpl tS mS o i rots pe) (hJ' : J' ∈ enumJobs tgt tmpl tS mS o i rots pe)
    (h : J.targetSlice = J'.targetSlice) (h' : J.templateSlice = J'.templateSlice) :
    J.offset = J'.offset ∧ J.outShape = J'.outShape ∧ J.targetShape = J'.targetShape ∧ J.valid = J'.valid ∧
    J.chunks = J'.chunks := by
  obtain ⟨⟨a, b⟩, _, k, rfl⟩ := mem_enumJobs hJ
  obtain ⟨⟨a', b'⟩, _, k', rfl⟩ := mem_enumJobs hJ'
  simp only [mkJob] at h h'
  subst h h'
  simp [mkJob]

/-- … and such duplicates exist: 5 voxels in 4 parts gives the tile `[3, 5)` twice -/
theorem duplicate_tiles_witness :
    (enumJobs [5] [1] [4] [0] 1 1 [0] false).map (fun J => (J.targetSlice, J.offset))
      = [([(0, 2)], [0]), ([(2, 4)], [2]), ([(3, 5)], [3]), ([(3, 5)], [3])] := by decide +kernel

end unpadded

/-! ### the hypotheses are satisfiable (non-trivial instances) -/

/-- 9×7 target in 2×3 tiles, 3×2 template, 3 rotations on 4 inner jobs (more jobs than rotations), padding on -/
example : ([9, 7] : List Nat).length = ([2, 3] : List Nat).length ∧ (∀ n ∈ ([9, 7] : List Nat), 0 < n) ∧
    splitShape [3, 2] [0, 0] = [([3, 2] : List Nat).map (fun m => (0, m))] ∧ inShape [9, 7] [8, 3] = true := by decide +kernel
example : (enumJobs [9, 7] [3, 2] [2, 3] [0, 0] 2 4 [10, 11, 12] true).map (fun J => (J.offset, J.outShape, J.chunks))
    = [([0, 0], [5, 3], [[], [], [], [10, 11, 12]]), ([0, 3], [5, 3], [[], [], [], [10, 11, 12]]),
       ([0, 4], [5, 3], [[], [], [], [10, 11, 12]]), ([4, 0], [5, 3], [[], [], [], [10, 11, 12]]),
       ([4, 3], [5, 3], [[], [], [], [10, 11, 12]]), ([4, 4], [5, 3], [[], [], [], [10, 11, 12]])] := by decide +kernel
example : (enumJobs [9, 7] [3, 2] [2, 3] [0, 0] 2 4 [10, 11, 12] true).map Job.core
    = (enumJobs [9, 7] [3, 2] [2, 3] [0, 0] 1 1 [10, 11, 12] true).map Job.core := by decide +kernel
/-- both runs of `scan_subsets_schedule_free` return a result: schedule (2, 3) — more inner jobs than rotations — and (1, 1) -/
example : (scanSubsetsRun 0 (globalScore (fun (r : Nat) p => (r : Int) * 10 - (p.headD 0 : Int)) (fun r => r))
      (enumJobs [5] [2] [2] [0] 2 3 [1, 2] true)).isSome = true ∧
    (scanSubsetsRun 0 (globalScore (fun (r : Nat) p => (r : Int) * 10 - (p.headD 0 : Int)) (fun r => r))
      (enumJobs [5] [2] [2] [0] 1 1 [1, 2] true)).isSome = true := by decide +kernel
/-- … and the merged map is the maximum over the rotations of the global map, at every voxel of the target -/
example : (scanSubsetsRun 0 (globalScore (fun (r : Nat) p => (r : Int) * 10 - (p.headD 0 : Int)) (fun r => r))
      (enumJobs [5] [2] [2] [0] 2 3 [1, 2] true)).map (fun M => (List.range 5).map (fun x => M.valOr 0 [x]))
    = some [20, 19, 18, 17, 16] := by decide +kernel
example : SamePos [3, 2] (tileOff (jobAxes [9, 7] [(4, 9), (3, 6)] [3, 2])) [1, 2]
    (tileOff (jobAxes [9, 7] [(0, 9), (0, 7)] [3, 2])) [5, 5] :=
  job_cell_same_position [9, 7] [(4, 9), (3, 6)] [3, 2] [1, 2] rfl rfl rfl

/-- the structural hypotheses of `padded_job_score_eq_unsplit` for the tile `[4,9)×[3,6)` of a 9×7 target, 3×2 template:
margins within one reflection, cells `(1,2)` / `(5,5)` inside the two `valid` crops (the fields `T`, `U` are
`vol ∘ tileSrc` on their boxes, zero outside) -/
example : (∀ a ∈ jobAxes [9, 7] [(4, 9), (3, 6)] [3, 2], a.Ok) ∧ (∀ a ∈ jobAxes [9, 7] [(0, 9), (0, 7)] [3, 2], a.Ok) :=
  ⟨jobAxes_ok _ _ _ (.cons (by decide) (.cons (by decide) .nil)) (.cons (by decide) (.cons (by decide) .nil)),
   jobAxes_ok _ _ _ (.cons (by decide) (.cons (by decide) .nil)) (.cons (by decide) (.cons (by decide) .nil))⟩
example : Pm.C01.ValidOk true (tileExt (jobAxes [9, 7] [(4, 9), (3, 6)] [3, 2])) [3, 2] [9, 6] [1, 2] ∧
    Pm.C01.ValidOk true (tileExt (jobAxes [9, 7] [(0, 9), (0, 7)] [3, 2])) [3, 2] [13, 10] [5, 5] :=
  ⟨job_validOk true [9, 7] [(4, 9), (3, 6)] [3, 2] [1, 2] [9, 6] (by simp only [CellOk]; decide),
   job_validOk true [9, 7] [(0, 9), (0, 7)] [3, 2] [5, 5] [13, 10] (by simp only [CellOk]; decide)⟩

/-- `match_result_independent_of_splits_schedule_order`: 2 tiles / schedule (2, 3) / rotations [1, 2] against 3 tiles /
schedule (1, 2) / rotations [2, 1]: both runs return a result and the maps agree on the target -/
example : (scanSubsetsRun 0 (globalScore (fun (r : Nat) p => (r : Int) * 10 - (p.headD 0 : Int)) (fun r => r))
      (enumJobs [5] [2] [2] [0] 2 3 [1, 2] true)).map (fun M => (List.range 5).map (fun x => M.valOr 0 [x]))
    = (scanSubsetsRun 0 (globalScore (fun (r : Nat) p => (r : Int) * 10 - (p.headD 0 : Int)) (fun r => r))
      (enumJobs [5] [2] [3] [0] 1 2 [2, 1] true)).map (fun M => (List.range 5).map (fun x => M.valOr 0 [x])) := by decide +kernel

/-! ### rotation chunking and the per-voxel maximum; the merge plan -/

/-- every rotation is handed to some chunk and chunks hold only listed rotations (`_split_rotations_on_jobs`) -/
theorem splitRotations_mem_iff {α} (rots : List α) (n : Nat) (hn : 1 ≤ n) (r : α) :
    r ∈ rots ↔ ∃ c ∈ splitRotations rots n, r ∈ c := by
  rw [← List.mem_flatten, splitRotations_concat rots n hn]

/-- every rotation is in exactly as many chunks (with multiplicity) as it is listed: nothing is evaluated twice or dropped -/
theorem splitRotations_count {α} [DecidableEq α] (rots : List α) (n : Nat) (hn : 1 ≤ n) (r : α) :
    ((splitRotations rots n).map (List.count r)).sum = rots.count r := by
  rw [← List.count_flatten, splitRotations_concat rots n hn]

/-- the chunk sizes add up to the number of rotations -/
theorem splitRotations_total_length {α} (rots : List α) (n : Nat) (hn : 1 ≤ n) :
    ((splitRotations rots n).map List.length).sum = rots.length := by
  rw [← List.length_flatten, splitRotations_concat rots n hn]

/-- `n_jobs = 1`: one chunk holding the whole rotation list -/
theorem splitRotations_one {α} (rots : List α) : splitRotations rots 1 = [rots] := by
  simp [splitRotations]

/-- the chunking for any two job counts (in particular `n_jobs > n_rotations` against `n_jobs = n_rotations`) evaluates
the same rotations in the same overall order -/
theorem splitRotations_flatten_jobs_free {α} (rots : List α) (n m : Nat) (hn : 1 ≤ n) (hm : 1 ≤ m) :
    (splitRotations rots n).flatten = (splitRotations rots m).flatten := by
  rw [splitRotations_concat rots n hn, splitRotations_concat rots m hm]

/-- **regrouping**: the running maximum over a concatenation is the maximum of the running maxima of the parts -/
theorem foldl_max_append (a : Int) (l₁ l₂ : List Int) :
    (l₁ ++ l₂).foldl max a = max (l₁.foldl max a) (l₂.foldl max a) :=
  (Pm.C04.specMax_append a l₁ l₂).trans (Pm.C04.max_specMax l₂ (Pm.C04.le_specMax a l₁)).symm

/-- **rotation order**: the aggregated maximum is invariant under any permutation of the rotation list -/
theorem foldl_max_perm {l₁ l₂ : List Int} (h : l₁.Perm l₂) : ∀ a : Int, l₁.foldl max a = l₂.foldl max a :=
  fun _ => Pm.C04.specMax_perm h

/-- **max over chunks = max over the list**: reducing each chunk from the threshold `a` and then the chunk results gives
the running maximum of the concatenated list -/
theorem foldl_max_chunks (a : Int) (L : List (List Int)) : ∀ b : Int, a ≤ b →
    (L.map (fun c => c.foldl max a)).foldl max b = L.flatten.foldl max b := by
  induction L with
  | nil => intro b _; rfl
  | cons c L ih =>
    intro b hb
    simp only [List.map_cons, List.foldl_cons, List.flatten_cons, List.foldl_append]
    rw [show max b (c.foldl max a) = c.foldl max b from Pm.C04.max_specMax c hb]
    exact ih _ (Int.le_trans hb (Pm.C04.le_specMax b c))

/-- **job count**: per-voxel max over the chunks of `_split_rotations_on_jobs(n_jobs)` equals the max over the whole
rotation list, for every `n_jobs ≥ 1` — so `n_jobs > n_rotations` gives the same value as `n_jobs = n_rotations` -/
theorem chunked_max_eq_whole (a : Int) (scores : List Int) (n : Nat) (hn : 1 ≤ n) :
    ((splitRotations scores n).map (fun c => c.foldl max a)).foldl max a = scores.foldl max a := by
  rw [foldl_max_chunks a _ a (Int.le_refl _), splitRotations_concat scores n hn]

example : ((splitRotations [3, -1, 7, 2] 6).map (fun c => c.foldl max (0 : Int))).foldl max 0 = 7 ∧
    ((splitRotations [3, -1, 7, 2] 4).map (fun c => c.foldl max (0 : Int))).foldl max 0 = 7 := by decide +kernel
example : ([3, -1, 7] : List Int).Perm [7, 3, -1] := by decide +kernel


/-- **more jobs than rotations**: all chunks but the last are empty and the last worker evaluates the whole list -/
theorem splitRotations_more_jobs {α} (rots : List α) (n : Nat) (h : rots.length < n) :
    splitRotations rots n = List.replicate (n - 1) [] ++ [rots] := by
  obtain ⟨J, rfl⟩ : ∃ J, n = J + 1 := ⟨n - 1, by omega⟩
  rw [splitRotations_succ, Nat.div_eq_of_lt h]
  simp

/-- **schedule and order together**: chunking a permuted rotation list on another number of jobs gives the same per-voxel maximum -/
theorem chunked_max_perm_jobs_free (a : Int) {s₁ s₂ : List Int} (h : s₁.Perm s₂) (n m : Nat) (hn : 1 ≤ n) (hm : 1 ≤ m) :
    ((splitRotations s₁ n).map (fun c => c.foldl max a)).foldl max a
      = ((splitRotations s₂ m).map (fun c => c.foldl max a)).foldl max a := by
  rw [chunked_max_eq_whole a s₁ n hn, chunked_max_eq_whole a s₂ m hm]
  exact foldl_max_perm h a

/-- the chunked per-voxel maximum is the threshold or the score of a listed rotation, and dominates every listed score -/
theorem chunked_max_attained (a : Int) (scores : List Int) (n : Nat) (hn : 1 ≤ n) :
    let M := ((splitRotations scores n).map (fun c => c.foldl max a)).foldl max a
    (M = a ∨ M ∈ scores) ∧ a ≤ M ∧ ∀ x ∈ scores, x ≤ M := by
  simp only [chunked_max_eq_whole a scores n hn]
  exact ⟨Pm.C04.specMax_eq_or_mem a scores, foldl_max_ge scores a⟩

example : splitRotations [10, 11] 4 = [[], [], [], [10, 11]] := by decide +kernel

/-- the merge calls: one `scan` result per job for the outer `merge`, `inner` analyzers per job for the inner one -/
theorem mergePlan_lengths {R : Type} (tgt tmpl tS mS : List Nat) (o i : Nat) (rots : List R) (pe : Bool) :
    (mergePlan (enumJobs tgt tmpl tS mS o i rots pe)).map List.length
      = List.replicate (splitPairs tgt tmpl tS mS).length i := by
  rw [List.eq_replicate_iff]
  refine ⟨by simp [mergePlan, enumJobs_length], ?_⟩
  intro n hn
  simp only [mergePlan, List.map_map, List.mem_map] at hn
  obtain ⟨J, hJ, rfl⟩ := hn
  obtain ⟨tm, _, k, rfl⟩ := mem_enumJobs hJ
  simp [mkJob, splitRotations]

example : (enumJobs [9, 7] [3, 2] [2, 3] [0, 0] 2 4 [10, 11, 12] true).length = 6 ∧
    mergePlan (enumJobs [5] [2] [2] [0] 2 3 [1, 2] true) = [[(0, 0), (0, 1), (0, 2)], [(1, 0), (1, 1), (1, 2)]] := by decide +kernel

/-! ### instances of the end-to-end theorems -/

/-- `scan_subsets_nothing_outside_target` / `scan_subsets_covers_target`: position 7 is outside the 5-voxel target and holds
the threshold, every voxel of the target has a cell -/
example : inShape [5] [7] = false ∧
    (scanSubsetsRun 0 (globalScore (fun (r : Nat) p => (r : Int) * 10 - (p.headD 0 : Int)) (fun r => r))
      (enumJobs [5] [2] [2] [0] 2 3 [1, 2] true)).map (fun M => (M.valOr 0 [7], (List.range 5).map (fun x =>
        (Pm.C04.localIdx M.offset M.scores.shape [x]).isSome))) = some (0, [true, true, true, true, true]) := by decide +kernel
/-- `scan_subsets_rotation_order_free`: rotation lists with the same members (reordered, one repeated), other schedule -/
example : (∀ r : Nat, r ∈ [1, 2] ↔ r ∈ [2, 1, 1]) ∧
    (scanSubsetsRun 0 (globalScore (fun (r : Nat) p => (r : Int) * 10 - (p.headD 0 : Int)) (fun r => r))
      (enumJobs [5] [2] [2] [0] 2 3 [1, 2] true)).map (fun M => (List.range 5).map (fun x => M.valOr 0 [x]))
    = (scanSubsetsRun 0 (globalScore (fun (r : Nat) p => (r : Int) * 10 - (p.headD 0 : Int)) (fun r => r))
      (enumJobs [5] [2] [2] [0] 1 2 [2, 1, 1] true)).map (fun M => (List.range 5).map (fun x => M.valOr 0 [x])) := by
  refine ⟨by intro r; simp; tauto, by decide +kernel⟩
/-- `scan_subsets_rotation_attains`: the stored identifiers are not the marker and map to rotation 2 (the maximiser) -/
example : (scanSubsetsRun 0 (globalScore (fun (r : Nat) p => (r : Int) * 10 - (p.headD 0 : Int)) (fun r => r))
      (enumJobs [5] [2] [2] [0] 2 3 [1, 2] true)).map (fun M => (List.range 5).map (fun x =>
        Pm.C04.keyOf M.table (M.rots.getD [x] 0))) = some [some 2, some 2, some 2, some 2, some 2] := by decide +kernel

/-- `job_valid_iff`: padding requested, template 1×1: "same"; template 3×2: "valid" -/
example : (enumJobs [4, 4] [1, 1] [2, 0] [0, 0] 1 1 [0] true).map Job.valid = [false, false] ∧
    (enumJobs [4, 4] [3, 2] [2, 0] [0, 0] 1 1 [0] true).map Job.valid = [true, true] := by decide +kernel

/-- `match_result_independent_of_machine`: a 5-voxel target on a 2-core machine with plenty of memory (no split, schedule
(1, 2)) and on a 3-core machine with little memory (3 tiles, schedule (3, 1)); both configured searches return a result
and agree on the target -/
def exMachine (cores ram : Nat) : Pm.C14.Problem :=
  { ndim := 1, widths := fun f => (Pm.C14.splitShape [5] f).map (fun t => t.map (fun s => s.2 - s.1)),
    est := fun w inner => prodL w * 10 * inner, maxCores := cores, maxRam := ram, maxSplits := 8, onlyOuter := false,
    splitAxes := [0], firstAxis := 0 }
example : (Pm.C14.schedule (exMachine 2 1000) 0 0).map (fun c => (c.splits, c.outer, c.inner)) = some ([1], 1, 2) ∧
    (Pm.C14.schedule (exMachine 3 70) 0 0).map (fun c => (c.splits, c.outer, c.inner)) = some ([3], 3, 1) := by
  decide +kernel
example : (scanSubsetsRun 0 (globalScore (fun (r : Nat) p => (r : Int) * 10 - (p.headD 0 : Int)) (fun r => r))
      (enumJobs [5] [2] [1] [0] 1 2 [1, 2] true)).map (fun M => (List.range 5).map (fun x => M.valOr 0 [x]))
    = (scanSubsetsRun 0 (globalScore (fun (r : Nat) p => (r : Int) * 10 - (p.headD 0 : Int)) (fun r => r))
      (enumJobs [5] [2] [3] [0] 3 1 [2, 1] true)).map (fun M => (List.range 5).map (fun x => M.valOr 0 [x])) := by decide +kernel

end Pm.C02
