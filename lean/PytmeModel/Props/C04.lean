import PytmeModel.Model.C04
import PytmeModel.Proofs.C04Rep
import PytmeModel.Proofs.C04Lock
import PytmeModel.Proofs.C04Ext
import PytmeModel.Proofs.C04Once

/-! # C04 — aggregation over rotations equals the element-wise maximum, also after merging

Model: `PytmeModel/Model/C04.lean` (mirrors `MaxScoreOverRotations` and
`NumpyFFTWBackend.max_score_over_rotations`).  The statements are for all shapes, thresholds,
histories, tilings and schedules, except three witnesses on concrete data (`lost_update_without_lock`,
`unique_rotations_needs_unique`, `merge_lower_threshold_marker_lost`); the `example`s show the hypotheses are
satisfiable.
-/
namespace Pm.C04
set_option linter.unusedSectionVars false
variable {K : Type} [DecidableEq K]

/-- `specMax thr vals` is an upper bound of the threshold and of every value, and it is the threshold
or one of the values — i.e. the largest value exceeding the threshold, the threshold where none does. -/
theorem specMax_is_max (thr : Int) (vals : List Int) :
    thr ≤ specMax thr vals ∧ (∀ x ∈ vals, x ≤ specMax thr vals) ∧
    (specMax thr vals = thr ∨ specMax thr vals ∈ vals) ∧
    (specMax thr vals = thr ↔ ∀ x ∈ vals, x ≤ thr) :=
  ⟨le_specMax _ _, fun _ h => mem_le_specMax h, specMax_eq_or_mem _ _, specMax_eq_thr_iff _ _⟩

example : specMax 2 [1, 5, -3, 5] = 5 ∧ specMax 2 [1, -3] = 2 ∧ specMax (-4) [] = -4 := by decide +kernel

/-- After any history the aggregated map equals, voxel by voxel, the largest submitted value exceeding
the threshold (the threshold where none does). -/
theorem scores_eq_max_threshold (shape : List Nat) (thr : Int) (h : List (Arr Int × K)) (idx : List Nat)
    (hin : inShape shape idx = true) :
    (run shape thr h).scores.getD idx 0 = specMax thr (valsAt h idx) :=
  (inv_run shape thr h).score idx hin

/-- the score array keeps the analyzer's shape -/
theorem run_shape (shape : List Nat) (thr : Int) (h : List (Arr Int × K)) :
    (run shape thr h).scores.shape = shape := (inv_run shape thr h).shape_sc

/-- The stored identifier, when it is not the marker, maps back through the table to a rotation that was
submitted with an array attaining the stored value at that voxel (and that value exceeds the threshold). -/
theorem rot_attains (shape : List Nat) (thr : Int) (h : List (Arr Int × K)) (idx : List Nat)
    (hin : inShape shape idx = true) (hr : (run shape thr h).rots.getD idx 0 ≠ -1) :
    ∃ a k i, (a, k) ∈ h ∧ lookup k (run shape thr h).table = some i ∧
      (run shape thr h).rots.getD idx 0 = (i : Int) ∧
      a.getD idx 0 = (run shape thr h).scores.getD idx 0 ∧ thr < (run shape thr h).scores.getD idx 0 := by
  rcases (inv_run shape thr h).rot idx hin with ⟨h1, _⟩ | ⟨_, a, k, i, hj, hl, hri, hv, ht, _⟩
  · exact absurd h1 hr
  · exact ⟨a, k, i, List.mem_of_getElem? hj, hl, hri, hv, ht⟩

/-- Voxels never improved — no submitted value exceeds the threshold there — are exactly the voxels that
keep the 'no rotation' marker `-1`. -/
theorem untouched_marker (shape : List Nat) (thr : Int) (h : List (Arr Int × K)) (idx : List Nat)
    (hin : inShape shape idx = true) :
    (run shape thr h).rots.getD idx 0 = -1 ↔ ∀ x ∈ valsAt h idx, x ≤ thr := by
  rcases (inv_run shape thr h).rot idx hin with hm | ⟨_, _, _, i, _, _, hr, _, ht, _⟩
  · exact marker_iff (scores_eq_max_threshold shape thr h idx hin) (Or.inl hm)
  · exact marker_iff (scores_eq_max_threshold shape thr h idx hin) (Or.inr ⟨i, hr, ht⟩)

/-- identifiers are `0, 1, …` in order of first submission -/
theorem ids_contiguous (shape : List Nat) (thr : Int) (h : List (Arr Int × K)) :
    (run shape thr h).table.map Prod.snd = List.range (run shape thr h).table.length :=
  (inv_run shape thr h).table_ok.1

/-- identifiers and rotations are in one-to-one correspondence: a rotation has one identifier (it is a
function), two rotations never share one, and the rotations with an identifier are exactly the submitted ones -/
theorem table_injective (shape : List Nat) (thr : Int) (h : List (Arr Int × K)) :
    (∀ k k' i, lookup k (run shape thr h).table = some i → lookup k' (run shape thr h).table = some i → k = k') ∧
    (∀ k, (lookup k (run shape thr h).table).isSome ↔ ∃ a, (a, k) ∈ h) ∧
    ((run shape thr h).table.map Prod.fst).Nodup :=
  ⟨fun _ _ _ h1 h2 => (inv_run shape thr h).table_ok.injective h1 h2, (inv_run shape thr h).keys,
   (inv_run shape thr h).table_ok.2⟩

/-- the aggregated map does not depend on the order of the submissions -/
theorem scores_order_free (shape : List Nat) (thr : Int) (h h' : List (Arr Int × K)) (hp : h.Perm h')
    (idx : List Nat) (hin : inShape shape idx = true) :
    (run shape thr h).scores.getD idx 0 = (run shape thr h').scores.getD idx 0 := by
  rw [scores_eq_max_threshold _ _ _ _ hin, scores_eq_max_threshold _ _ _ _ hin]
  exact specMax_perm (hp.map _)

section examples
def exA : Arr Int := ⟨[2], #[3, -1]⟩
def exB : Arr Int := ⟨[2], #[3, -5]⟩
def exC : Arr Int := ⟨[2], #[7, 0]⟩
/-- ties, a repeated rotation, a voxel that is never improved (threshold 0, values -1, -5, 0) -/
example : let s := run [2] 0 [(exA, "r0"), (exB, "r1"), (exC, "r0")]
    s.scores.toList = [7, 0] ∧ s.rots.toList = [0, -1] ∧ s.table = [("r0", 0), ("r1", 1)] := by decide +kernel
example : (run [2] 0 [(exA, "r0"), (exB, "r1")]).rots.toList = [0, -1] := by decide +kernel   -- tie keeps the first
example : inShape [2] [1] = true ∧ (run [2] 0 [(exA, "r0"), (exC, "r1")]).rots.getD [0] 0 ≠ -1 := by decide +kernel
end examples

/-- the post-processed maps read the aggregated maps at the same source voxel … -/
theorem postprocess_reindex (s : State K) (shift : List Int) (starts exts idx : List Nat)
    (hin : inShape exts idx = true) :
    (postprocess s shift starts exts).scores.getD idx 0 = s.scores.getD (postSrc s.scores.shape shift starts idx) 0 ∧
    (postprocess s shift starts exts).rots.getD idx 0 = s.rots.getD (postSrc s.rots.shape shift starts idx) 0 ∧
    (postprocess s shift starts exts).table = s.table := by
  refine ⟨?_, ?_, rfl⟩
  · simp only [postprocess, postArr]; rw [Arr.getD_ofFn _ _ _ _ hin]
  · simp only [postprocess, postArr]; rw [Arr.getD_ofFn _ _ _ _ hin]

/-- the source voxel lies inside the aggregated array (ranks agree, no empty axis) -/
theorem postSrc_inShape : ∀ (shape : List Nat) (shift : List Int) (starts idx : List Nat),
    shift.length = shape.length → starts.length = shape.length → idx.length = shape.length →
    (∀ n ∈ shape, 0 < n) → inShape shape (postSrc shape shift starts idx) = true := by
  intro shape
  induction shape with
  | nil => intro _ _ _ _ _ _ _; rfl
  | cons n ns ih =>
    intro shift starts idx h1 h2 h3 hpos
    match shift, starts, idx, h1, h2, h3 with
    | s :: ss, st :: sts, i :: is, h1, h2, h3 =>
      exact inShape_cons.mpr ⟨rollSrc_lt (hpos n List.mem_cons_self) s (i + st),
        ih ss sts is (Nat.succ.inj h1) (Nat.succ.inj h2) (Nat.succ.inj h3)
          (fun m hm => hpos m (List.mem_cons_of_mem _ hm))⟩

/-- … hence a post-processed voxel holds the maximum over the history at its source voxel -/
theorem postprocess_eq_max (shape : List Nat) (thr : Int) (h : List (Arr Int × K))
    (shift : List Int) (starts exts idx : List Nat) (hin : inShape exts idx = true)
    (hsrc : inShape shape (postSrc shape shift starts idx) = true) :
    (postprocess (run shape thr h) shift starts exts).scores.getD idx 0 =
      specMax thr (valsAt h (postSrc shape shift starts idx)) := by
  rw [(postprocess_reindex _ shift starts exts idx hin).1, run_shape, scores_eq_max_threshold _ _ _ _ hsrc]

example : inShape [2] [1] = true ∧ inShape [3] (postSrc [3] [-1] [1] [1]) = true ∧ postSrc [3] [-1] [1] [1] = [0] := by decide +kernel
example : ([-1] : List Int).length = [3].length ∧ [1].length = [3].length ∧ (∀ n ∈ [3], 0 < n) := by decide +kernel

/-- value a store holds for the absolute voxel `p`; the threshold outside its box -/
def Store.valOr (S : Store K) (thr : Int) (p : List Nat) : Int := (S.valAt? p).getD thr

/-- `merge` (same threshold as the stores) of any number of stores, each a correct aggregate of some
collection of partial problems, is a correct aggregate of all of them together: the score map is the
maximum of everything submitted anywhere at that voxel, the identifier maps through the merged table to a
rotation attaining it, the marker stays where nothing exceeded the threshold, the merged table is a
bijection onto the submitted rotations.  Covers the single-store shortcut and any nesting of merges. -/
theorem merge_represents {thr : Int} {d : Nat} (pairs : List (Store K × List (Tile K)))
    (hrep : ∀ pr ∈ pairs, Represents thr pr.1 pr.2) (hd : SameDim d (pairs.map Prod.fst))
    {M : Store K} (hM : merge thr (pairs.map Prod.fst) = some M) :
    Represents thr M (pairs.map Prod.snd).flatten := by
  cases pairs with
  | nil => cases hM
  | cons pr rest =>
    cases rest with
    | nil =>
      cases hM
      show Represents thr pr.1 (pr.2 ++ [])
      rw [List.append_nil]
      exact hrep pr List.mem_cons_self
    | cons pr2 rest =>
      cases hM
      exact mergeMany_represents (pr :: pr2 :: rest) hrep hd

/-- the same for `merge` as it is called, with `None` entries in the list (they are skipped; the single-entry
shortcut looks at the raw list length) -/
theorem mergeOpt_represents {thr : Int} {d : Nat} (pairs : List (Store K × List (Tile K)))
    (hrep : ∀ pr ∈ pairs, Represents thr pr.1 pr.2) (hd : SameDim d (pairs.map Prod.fst))
    (ps : List (Option (Store K))) (hps : ps.filterMap id = pairs.map Prod.fst)
    {M : Store K} (hM : mergeOpt thr ps = some M) :
    Represents thr M (pairs.map Prod.snd).flatten := by
  by_cases h1 : ps.length = 1
  · obtain ⟨p, rfl⟩ := List.length_eq_one_iff.mp h1
    cases (show p = some M from hM)
    exact merge_represents pairs hrep hd (by rw [← hps]; rfl)
  · cases mergeOpt_eq_some h1 hps hM
    exact mergeMany_represents pairs hrep hd

/-- merging the analyzers of any tiling yields a correct aggregate of the whole tiling -/
theorem merge_tiles_represents {thr : Int} {d : Nat} (ts : List (Tile K))
    (hd : ∀ t ∈ ts, t.offset.length = d ∧ t.shape.length = d)
    {M : Store K} (hM : merge thr (ts.map (tileStore thr)) = some M) : Represents thr M ts := by
  have hrep : ∀ pr ∈ ts.map (fun t => (tileStore thr t, [t])), Represents thr pr.1 pr.2 := by
    intro pr hpr
    obtain ⟨t, _, rfl⟩ := List.mem_map.mp hpr
    exact tile_represents thr t
  have e1 : (ts.map (fun t => (tileStore thr t, [t]))).map Prod.fst = ts.map (tileStore thr) := by
    rw [List.map_map]; rfl
  have e2 : ((ts.map (fun t => (tileStore thr t, [t]))).map Prod.snd).flatten = ts := by
    rw [List.map_map, ← List.flatMap_def]; exact List.flatMap_singleton' ts
  have hd' : SameDim d ((ts.map (fun t => (tileStore thr t, [t]))).map Prod.fst) := by
    rw [e1]
    intro S hS
    obtain ⟨t, ht, rfl⟩ := List.mem_map.mp hS
    exact ⟨(hd t ht).1, (congrArg List.length (run_shape t.shape thr t.hist)).trans (hd t ht).2⟩
  have R := merge_represents (ts.map (fun t => (tileStore thr t, [t]))) hrep hd' (by rw [e1]; exact hM)
  rwa [e2] at R

/-- Merging the partial results of any tiling (boxes at arbitrary, possibly overlapping offsets) gives at
every voxel of the merged volume exactly the result of aggregating everything at once, and nothing was
submitted outside the merged volume. -/
theorem merge_eq_aggregate_all {thr : Int} {d : Nat} (ts : List (Tile K))
    (hd : ∀ t ∈ ts, t.offset.length = d ∧ t.shape.length = d)
    {M : Store K} (hM : merge thr (ts.map (tileStore thr)) = some M) :
    (∀ p q, localIdx M.offset M.scores.shape p = some q →
        M.scores.getD q 0 = specMax thr (allVals ts p) ∧
        (M.rots.getD q 0 = -1 ↔ ∀ x ∈ allVals ts p, x ≤ thr) ∧
        (M.rots.getD q 0 ≠ -1 → ∃ k i, lookup k M.table = some i ∧ M.rots.getD q 0 = (i : Int) ∧
            Attains ts p k (M.scores.getD q 0))) ∧
    (∀ p, localIdx M.offset M.scores.shape p = none → allVals ts p = []) ∧
    (∀ k k' i, lookup k M.table = some i → lookup k' M.table = some i → k = k') ∧
    (∀ k, (lookup k M.table).isSome ↔ ∃ t ∈ ts, ∃ a, (a, k) ∈ t.hist) := by
  have R := merge_tiles_represents ts hd hM
  refine ⟨?_, R.outside, fun _ _ _ h1 h2 => R.table_ok.injective h1 h2, R.keys⟩
  intro p q hl
  obtain ⟨cv, cr⟩ := R.cell p q hl
  refine ⟨cv, ?_, ?_⟩
  · exact marker_iff cv (cr.imp id fun ⟨_, i, _, hr, _, ht⟩ => ⟨i, hr, ht⟩)
  · intro hne
    rcases cr with ⟨h1, _⟩ | ⟨k, i, hk, hr, hat, _⟩
    · exact absurd h1 hne
    · exact ⟨k, i, hk, hr, hat⟩

/-- being a correct aggregate does not depend on the order in which the partial problems are listed -/
theorem represents_perm {thr : Int} {S : Store K} {ts ts' : List (Tile K)} (hp : ts.Perm ts')
    (R : Represents thr S ts) : Represents thr S ts' := by
  have hv : ∀ p, (allVals ts p).Perm (allVals ts' p) := fun p => hp.flatMap_right _
  have hat : ∀ p k v, Attains ts p k v → Attains ts' p k v :=
    fun p k v h => h.mono (fun t ht => hp.mem_iff.mp ht)
  refine ⟨R.table_ok, ?_, ?_, ?_⟩
  · intro k; rw [R.keys k]
    constructor <;> rintro ⟨t, ht, r⟩
    · exact ⟨t, hp.mem_iff.mp ht, r⟩
    · exact ⟨t, hp.mem_iff.mpr ht, r⟩
  · intro p h
    have := hv p; rw [R.outside p h] at this
    exact this.symm.eq_nil
  · intro p q h
    obtain ⟨cv, cr⟩ := R.cell p q h
    refine ⟨by rw [cv]; exact specMax_perm (hv p), ?_⟩
    rcases cr with c | ⟨k, i, a, b, c, d⟩
    · exact Or.inl c
    · exact Or.inr ⟨k, i, a, b, hat _ _ _ c, d⟩

/-- what a correct aggregate holds at an absolute voxel: the maximum of everything submitted there (the threshold
outside its box) -/
theorem represents_valOr {thr : Int} {T : Store K} {us : List (Tile K)} (RT : Represents thr T us) (p : List Nat) :
    T.valOr thr p = specMax thr (allVals us p) := by
  unfold Store.valOr Store.valAt?
  cases hl : localIdx T.offset T.scores.shape p with
  | none => rw [RT.outside p hl]; rfl
  | some q => exact (RT.cell p q hl).1

/-- two correct aggregates of the same partial problems (in any order) hold the same value at every
absolute voxel (outside its box a store is read as the threshold) -/
theorem represents_valOr_eq {thr : Int} {S S' : Store K} {ts ts' : List (Tile K)} (hp : ts.Perm ts')
    (R : Represents thr S ts) (R' : Represents thr S' ts') (p : List Nat) :
    S.valOr thr p = S'.valOr thr p := by
  rw [represents_valOr R, represents_valOr R']
  exact specMax_perm (hp.flatMap_right _)

/-- Any order: merging the partial results of a tiling in a permuted order gives the same score map. -/
theorem merge_any_order {thr : Int} {d : Nat} (ts ts' : List (Tile K)) (hp : ts.Perm ts')
    (hd : ∀ t ∈ ts, t.offset.length = d ∧ t.shape.length = d)
    {M M' : Store K} (hM : merge thr (ts.map (tileStore thr)) = some M)
    (hM' : merge thr (ts'.map (tileStore thr)) = some M') (p : List Nat) :
    M.valOr thr p = M'.valOr thr p := by
  exact represents_valOr_eq hp (merge_tiles_represents ts hd hM)
    (merge_tiles_represents ts' (fun t ht => hd t (hp.mem_iff.mpr ht)) hM') p

/-- Any grouping: merging two already merged groups represents the union of the groups, so it holds the same
value at every voxel as merging everything in one call. -/
theorem merge_any_grouping {thr : Int} {d : Nat} {A B : Store K} {as bs : List (Tile K)}
    (RA : Represents thr A as) (RB : Represents thr B bs)
    (hA : A.offset.length = d ∧ A.scores.shape.length = d) (hB : B.offset.length = d ∧ B.scores.shape.length = d)
    {M N : Store K} (hM : merge thr [A, B] = some M) (RN : Represents thr N (as ++ bs)) (p : List Nat) :
    Represents thr M (as ++ bs) ∧ M.valOr thr p = N.valOr thr p :=
  ⟨merge_two_represents RA RB hA hB hM,
   represents_valOr_eq (List.Perm.refl _) (merge_two_represents RA RB hA hB hM) RN p⟩

section examples
def tA : Tile String := ⟨[0], [2], [(⟨[2], #[3, 1]⟩, "r0")]⟩
def tB : Tile String := ⟨[1], [2], [(⟨[2], #[4, -2]⟩, "r1"), (⟨[2], #[0, 9]⟩, "r0")]⟩
/-- overlapping offsets, tables with different local identifiers -/
example : ((merge 0 [tileStore 0 tA, tileStore 0 tB]).map (fun M => (M.scores.toList, M.rots.toList, M.table, M.offset)))
    = some ([3, 4, 9], [0, 1, 0], [("r0", 0), ("r1", 1)], [0]) := by decide +kernel
example : ((merge 0 [tileStore 0 tB, tileStore 0 tA]).map (fun M => (M.scores.toList, M.rots.toList, M.table)))
    = some ([3, 4, 9], [1, 0, 1], [("r1", 0), ("r0", 1)]) := by decide +kernel
example : ∀ t ∈ [tA, tB], t.offset.length = 1 ∧ t.shape.length = 1 := by decide +kernel
/-- the hypotheses of the merge theorems are satisfiable: a tile's analyzer represents the tile, and the merge of
two overlapping tiles exists and represents both -/
example : Represents 0 (tileStore 0 tA) [tA] := tile_represents 0 tA
example : ∃ M, merge 0 ([tA, tB].map (tileStore 0)) = some M ∧ Represents 0 M [tA, tB] :=
  ⟨_, rfl, merge_tiles_represents (d := 1) [tA, tB] (by decide +kernel) rfl⟩
/-- `None` entries are skipped, but two raw entries mean the general path: offset zero, threshold fill -/
example : ((mergeOpt 0 [none, some (tileStore 0 tB)]).map (fun M => (M.scores.toList, M.rots.toList, M.offset)))
    = some ([0, 4, 9], [-1, 0, 1], [0]) ∧
    ((mergeOpt 0 [some (tileStore 0 tB)]).map (fun M => (M.scores.toList, M.offset))) = some ([4, 9], [1]) ∧
    (mergeOpt 0 [none, (none : Option (Store String))]).isNone = true := by decide +kernel
end examples

/-! ## several submitters, one shared analyzer

`step` runs one of the five steps of `__call__` (take the lock, `setdefault`, read `scores > max_scores`,
write scores, write identifiers and release) of one process; a schedule is any list of process numbers.
With the lock a process that finds it taken does not move. -/

/-- With the lock, after *any* schedule the shared analyzer is exactly a single analyzer fed a serial history
`log` (the submissions in the order the lock was released), and that history is an order-preserving
interleaving of the processes' work: process `j`'s part of `log`, followed by what it has not done yet, is
its work list.  (When the lock is held the statement is about the state before the in-flight submission.) -/
theorem interleave_eq_some_sequential (shape : List Nat) (thr : Int) (work : List (List (Arr Int × K)))
    (sched : List Nat) :
    ∃ log : List (Nat × Arr Int × K),
      (∀ j, consumed log j ++ ((runSched true (sysInit shape thr work) sched).procs j).todo = work.getD j []) ∧
      ((runSched true (sysInit shape thr work) sched).lock = none →
        (runSched true (sysInit shape thr work) sched).shared = run shape thr (log.map Prod.snd)) ∧
      (∀ h, (runSched true (sysInit shape thr work) sched).lock = some h →
        ((runSched true (sysInit shape thr work) sched).procs h).todo ≠ []) := by
  obtain ⟨log, inv⟩ := linv_sched sched _ _ (linv_init shape thr work)
  refine ⟨log, inv.acct, fun h => (inv.free h).2, ?_⟩
  intro h hh
  obtain ⟨_, a, k, rest, ht, _⟩ := inv.held h hh
  rw [ht]; simp

/-- No update is lost: once every process has finished, whatever the schedule was, the shared map holds at
every voxel the largest value submitted by *any* process above the threshold (the threshold where none is),
and the shared analyzer is a single analyzer fed a serial history containing exactly the submitted work. -/
theorem concurrent_no_lost_update (shape : List Nat) (thr : Int) (work : List (List (Arr Int × K)))
    (sched : List Nat)
    (hdone : ∀ j, ((runSched true (sysInit shape thr work) sched).procs j).todo = []) :
    (∃ serial : List (Arr Int × K), (∀ x, x ∈ serial ↔ x ∈ work.flatten) ∧
        (runSched true (sysInit shape thr work) sched).shared = run shape thr serial) ∧
    ∀ idx, inShape shape idx = true →
      (runSched true (sysInit shape thr work) sched).shared.scores.getD idx 0 = specMax thr (valsAt work.flatten idx) := by
  obtain ⟨log, acct, free, held⟩ := interleave_eq_some_sequential shape thr work sched
  have hlock : (runSched true (sysInit shape thr work) sched).lock = none := by
    cases hl : (runSched true (sysInit shape thr work) sched).lock with
    | none => rfl
    | some h => exact absurd (hdone h) (held h hl)
  have hshared := free hlock
  have hcons : ∀ j, consumed log j = work.getD j [] := by
    intro j; have := acct j; rw [hdone j, List.append_nil] at this; exact this
  have hmem := mem_log_iff_of_consumed hcons
  refine ⟨⟨log.map Prod.snd, hmem, hshared⟩, ?_⟩
  intro idx hin
  rw [hshared, scores_eq_max_threshold _ _ _ _ hin]
  generalize log.map Prod.snd = L at hmem
  exact specMax_congr_mem fun v => by simp only [valsAt, List.mem_map, hmem]

section examples
def w5 : Arr Int := ⟨[1], #[5]⟩
def w7 : Arr Int := ⟨[1], #[7]⟩
/-- process 0 reads, process 1 runs its whole submission, process 0 writes -/
def raceSched : List Nat := [0, 0, 0, 1, 1, 1, 1, 1, 0, 0]

/-- Without the lock an update is lost: both processes finish, 7 was submitted, the map holds 5.
This is what a removed lock looks like. -/
theorem lost_update_without_lock :
    ∃ sched : List Nat,
      allDone (runSched false (sysInit [1] 0 [[(w5, 0)], [(w7, 1)]]) sched) 2 = true ∧
      (runSched false (sysInit [1] 0 [[(w5, 0)], [(w7, 1)]]) sched).shared.scores.toList = [5] ∧
      specMax 0 (valsAt [(w5, 0), (w7, 1)] [0]) = 7 :=
  ⟨raceSched, by decide +kernel⟩

/-- the same schedule with the lock (process 1 is refused until process 0 is through; it then needs five
more steps): nothing is lost — the hypotheses of `concurrent_no_lost_update` are satisfiable -/
example : allDone (runSched true (sysInit [1] 0 [[(w5, 0)], [(w7, 1)]]) (raceSched ++ [1, 1, 1, 1, 1])) 2 = true ∧
    (runSched true (sysInit [1] 0 [[(w5, 0)], [(w7, 1)]]) (raceSched ++ [1, 1, 1, 1, 1])).shared.scores.toList = [7] ∧
    (runSched true (sysInit [1] 0 [[(w5, 0)], [(w7, 1)]]) (raceSched ++ [1, 1, 1, 1, 1])).shared.rots.toList = [1] := by decide +kernel
end examples

/-- `rotation_index = len(mapping); mapping.setdefault(bytes, rotation_index)` without the lock gives, after any
history, the same scores, identifiers and table as the lock path — every theorem about `run` holds for it. -/
theorem nolock_path_eq (shape : List Nat) (thr : Int) (h : List (Arr Int × K)) :
    runNoLock shape thr h = run shape thr h := runNoLock_eq shape thr h

example : (runNoLock [2] 0 [(exA, "r0"), (exB, "r1"), (exC, "r0")]).rots.toList = [0, -1] := by decide +kernel

/-- The score map of the `only_unique_rotations` path is the maximum for *every* history, unique rotations or not. -/
theorem unique_rotations_scores_eq_max (shape : List Nat) (thr : Int) (h : List (Arr Int × K)) (idx : List Nat)
    (hin : inShape shape idx = true) :
    (iterInv (runInv shape thr h) (List.replicate shape.length 0)).scores.getD idx 0 = specMax thr (valsAt h idx) := by
  simp only [iterInv]
  rw [runInv_scores, scores_eq_max_threshold _ _ _ _ hin]

/-- When the submitted rotations are pairwise different — what the option's name promises — `tuple(analyzer)` on
the `only_unique_rotations` path is *equal* (scores, identifiers, table with its order) to the standard path. -/
theorem unique_rotations_eq_standard (shape : List Nat) (thr : Int) (h : List (Arr Int × K)) (offset : List Nat)
    (hn : (h.map Prod.snd).Nodup) :
    iterInv (runInv shape thr h) offset = (run shape thr h).toStore offset :=
  iterInv_eq_of_nodup shape thr h offset hn

example : ([(exA, "r0"), (exB, "r1")].map Prod.snd).Nodup ∧
    (iterInv (runInv [2] 0 [(exA, "r0"), (exC, "r1")]) [0]).table = [("r0", 0), ("r1", 1)] := by decide +kernel

/-- The hypothesis is needed: when a rotation is submitted twice the inverted dict keeps the later identifier
only, and a voxel can hold an identifier that the reported mapping does not contain (here `0` at voxel 0). -/
theorem unique_rotations_needs_unique :
    let S := iterInv (runInv [2] 0 [(⟨[2], #[5, 0]⟩, "r0"), (⟨[2], #[0, 7]⟩, "r0")]) [0]
    S.rots.toList = [0, 1] ∧ S.table = [("r0", 1)] ∧ keyOf S.table 0 = none := by decide +kernel

/-! ## reading a rotation back from a result

`keyOf t r` is the key whose value is `r` (the loop of the class docstring); keys are `rotation_matrix.tobytes()`,
`keyMat n` is `np.frombuffer(key, dtype).reshape(n, n)`. -/

/-- `frombuffer(tobytes(m)).reshape(n, n) = m` for every `n × n` matrix, hence keys identify matrices -/
theorem frombuffer_tobytes {W : Type} {n : Nat} {m m' : List (List W)} (hm : IsMat n m) (hm' : IsMat n m') :
    keyMat n (matKey m) = m ∧ (matKey m = matKey m' → m = m') :=
  ⟨keyMat_matKey hm, matKey_injective hm hm'⟩

example : IsMat 2 [[1, 2], [3, 4]] ∧ keyMat 2 (matKey [[1, 2], [3, 4]]) = [[1, 2], [3, 4]] := by decide +kernel

/-- Decoding the reported identifier through the reported mapping returns a rotation that was submitted with an
array attaining the reported score at that voxel — for every history. -/
theorem rot_decodes_attains (shape : List Nat) (thr : Int) (h : List (Arr Int × K)) (idx : List Nat)
    (hin : inShape shape idx = true) (hr : (run shape thr h).rots.getD idx 0 ≠ -1) :
    ∃ a k, (a, k) ∈ h ∧ keyOf (run shape thr h).table ((run shape thr h).rots.getD idx 0) = some k ∧
      a.getD idx 0 = (run shape thr h).scores.getD idx 0 := by
  obtain ⟨a, k, i, hm, hl, hri, hv, _⟩ := rot_attains shape thr h idx hin hr
  exact ⟨a, k, hm, by rw [hri]; exact keyOf_of_lookup (inv_run shape thr h).table_ok hl, hv⟩

/-- The same with the keys produced from matrices: the key found for the identifier, cut into rows, *is* one of
the submitted matrices, and its array attains the score. -/
theorem matrix_decode_attains {W : Type} [DecidableEq W] (n : Nat) (shape : List Nat) (thr : Int)
    (h : List (Arr Int × List (List W))) (hmat : ∀ am ∈ h, IsMat n am.2) (idx : List Nat)
    (hin : inShape shape idx = true) :
    let S := run shape thr (h.map (fun am => (am.1, matKey am.2)))
    S.rots.getD idx 0 ≠ -1 →
    ∃ a m, (a, m) ∈ h ∧ decodeRot n S.table (S.rots.getD idx 0) = some m ∧ a.getD idx 0 = S.scores.getD idx 0 := by
  intro S hr
  obtain ⟨a, k, hm, hk, hv⟩ := rot_decodes_attains shape thr _ idx hin hr
  obtain ⟨am, ham, e⟩ := List.mem_map.mp hm
  cases e
  refine ⟨am.1, am.2, ham, ?_, hv⟩
  simp only [decodeRot]
  rw [hk]
  simp [keyMat_matKey (hmat am ham)]

example : let h : List (Arr Int × List (List Nat)) := [(exA, [[1, 0], [0, 1]]), (exC, [[0, 1], [1, 0]])]
    (∀ am ∈ h, IsMat 2 am.2) ∧
    decodeRot 2 (run [2] 0 (h.map (fun am => (am.1, matKey am.2)))).table 1 = some [[0, 1], [1, 0]] := by decide +kernel

/-- … on the `only_unique_rotations` path (pairwise different rotations) -/
theorem unique_rotations_decode_attains (shape : List Nat) (thr : Int) (h : List (Arr Int × K)) (offset idx : List Nat)
    (hn : (h.map Prod.snd).Nodup) (hin : inShape shape idx = true)
    (hr : (iterInv (runInv shape thr h) offset).rots.getD idx 0 ≠ -1) :
    ∃ a k, (a, k) ∈ h ∧
      keyOf (iterInv (runInv shape thr h) offset).table ((iterInv (runInv shape thr h) offset).rots.getD idx 0) = some k ∧
      a.getD idx 0 = (iterInv (runInv shape thr h) offset).scores.getD idx 0 := by
  rw [unique_rotations_eq_standard shape thr h offset hn] at hr ⊢
  exact rot_decodes_attains shape thr h idx hin hr

/-- … after `merge`, for any store that is a correct aggregate of some partial problems (so: merged once or
repeatedly, from stores whose tables number the same rotation differently) -/
theorem represents_decode_attains {thr : Int} {M : Store K} {ts : List (Tile K)} (R : Represents thr M ts)
    (p q : List Nat) (hl : localIdx M.offset M.scores.shape p = some q) (hr : M.rots.getD q 0 ≠ -1) :
    ∃ k, keyOf M.table (M.rots.getD q 0) = some k ∧ Attains ts p k (M.scores.getD q 0) := by
  rcases (R.cell p q hl).2 with ⟨h1, _⟩ | ⟨k, i, hk, hri, hat, _⟩
  · exact absurd h1 hr
  · exact ⟨k, by rw [hri]; exact keyOf_of_lookup R.table_ok hk, hat⟩

theorem merge_decode_attains {thr : Int} {d : Nat} (ts : List (Tile K))
    (hd : ∀ t ∈ ts, t.offset.length = d ∧ t.shape.length = d)
    {M : Store K} (hM : merge thr (ts.map (tileStore thr)) = some M)
    (p q : List Nat) (hl : localIdx M.offset M.scores.shape p = some q) (hr : M.rots.getD q 0 ≠ -1) :
    ∃ k, keyOf M.table (M.rots.getD q 0) = some k ∧ Attains ts p k (M.scores.getD q 0) :=
  represents_decode_attains (merge_tiles_represents ts hd hM) p q hl hr

example : ∃ M, merge 0 ([tA, tB].map (tileStore 0)) = some M ∧ localIdx M.offset M.scores.shape [2] = some [2] ∧
    M.rots.getD [2] 0 ≠ -1 ∧ keyOf M.table (M.rots.getD [2] 0) = some "r0" := ⟨_, rfl, by decide +kernel⟩

/-- … after `merge`, with matrix keys: the decoded matrix is a submitted matrix attaining the merged score -/
theorem merge_matrix_decode_attains {W : Type} [DecidableEq W] {thr : Int} (n : Nat) {M : Store (List W)}
    {ts : List (Tile (List W))} (R : Represents thr M ts)
    (hmat : ∀ t ∈ ts, ∀ ak ∈ t.hist, ∃ m, IsMat n m ∧ ak.2 = matKey m)
    (p q : List Nat) (hl : localIdx M.offset M.scores.shape p = some q) (hr : M.rots.getD q 0 ≠ -1) :
    ∃ m, IsMat n m ∧ decodeRot n M.table (M.rots.getD q 0) = some m ∧ Attains ts p (matKey m) (M.scores.getD q 0) := by
  obtain ⟨k, hk, hat⟩ := represents_decode_attains R p q hl hr
  obtain ⟨t, ht, q', a, hq', ha, hv⟩ := hat
  obtain ⟨m, hm, e⟩ := hmat t ht (a, k) ha
  simp only at e
  subst e
  refine ⟨m, hm, ?_, ⟨t, ht, q', a, hq', ha, hv⟩⟩
  simp only [decodeRot, hk, Option.map_some, keyMat_matKey hm]

/-- Whatever the stores are, the merged table numbers its rotations `0, 1, …` without repetition: identifiers and
rotations of a merged result are in one-to-one correspondence. -/
theorem merged_table_injective_any (thr : Int) (ss : List (Store K)) :
    (mergeMany thr ss).table.map Prod.snd = List.range (mergeMany thr ss).table.length ∧
    ((mergeMany thr ss).table.map Prod.fst).Nodup ∧
    (∀ k k' i, lookup k (mergeMany thr ss).table = some i → lookup k' (mergeMany thr ss).table = some i → k = k') ∧
    (∀ k, (lookup k (mergeMany thr ss).table).isSome ↔ ∃ S ∈ ss, (lookup k S.table).isSome) :=
  ⟨(newTable_ok ss).1, (newTable_ok ss).2, fun _ _ _ h1 h2 => (newTable_ok ss).injective h1 h2, newTable_keys ss⟩

/-- The same rotation may carry different identifiers in different stores: the `lookup_table` of a store sends
each of its identifiers to an identifier that decodes, in the merged table, to the same rotation. -/
theorem merge_remap_decode {ss : List (Store K)} {S : Store K} (hS : S ∈ ss) (ok : TableOK S.table)
    {k : K} {i : Nat} (hk : lookup k S.table = some i) :
    keyOf (newTable ss) (lutGet (lookupTable S.table (newTable ss)) (i : Int)) = some k ∧
    keyOf S.table (i : Int) = some k := by
  have hs : (lookup k (newTable ss)).isSome := (newTable_keys ss k).mpr ⟨S, hS, by simp [hk]⟩
  obtain ⟨j, hj⟩ := Option.isSome_iff_exists.mp hs
  rw [lutGet_lookupTable ok hk hj]
  exact ⟨keyOf_of_lookup (newTable_ok ss) hj, keyOf_of_lookup ok hk⟩

example : let ss := [tileStore 0 tB, tileStore 0 tA]
    lookup "r0" (tileStore 0 tA).table = some 0 ∧ lookup "r0" (tileStore 0 tB).table = some 1 ∧
    lookup "r0" (newTable ss) = some 1 ∧ TableOK (tileStore 0 tA).table :=
  ⟨by decide +kernel, by decide +kernel, by decide +kernel, (tile_represents 0 tA).table_ok⟩

/-- `None` entries never matter for the values: two calls whose lists hold the same partial results (with `None`
entries anywhere, so possibly one through the single-entry shortcut and one through the general path) give the
same value at every absolute voxel. -/
theorem mergeOpt_none_entries_irrelevant {thr : Int} {d : Nat} (pairs : List (Store K × List (Tile K)))
    (hrep : ∀ pr ∈ pairs, Represents thr pr.1 pr.2) (hd : SameDim d (pairs.map Prod.fst))
    (ps ps' : List (Option (Store K))) (hps : ps.filterMap id = pairs.map Prod.fst)
    (hps' : ps'.filterMap id = pairs.map Prod.fst)
    {M M' : Store K} (hM : mergeOpt thr ps = some M) (hM' : mergeOpt thr ps' = some M') (p : List Nat) :
    M.valOr thr p = M'.valOr thr p :=
  represents_valOr_eq (List.Perm.refl _) (mergeOpt_represents pairs hrep hd ps hps hM)
    (mergeOpt_represents pairs hrep hd ps' hps' hM') p

/-- `tuple(analyzer)` with `use_memmap`: what is read through the two memory maps is the in-memory result; two
files are created, no existing file changes. -/
theorem iter_memmap_eq (fs : FS) (s : State K) (offset : List Nat) :
    (iterMem fs s offset).2.load (iterMem fs s offset).1 = s.toStore offset ∧
    (iterMem fs s offset).1.length = fs.length + 2 ∧
    ∀ q < fs.length, (iterMem fs s offset).1.read q = fs.read q :=
  ⟨(iterMem_spec fs s offset).1, (iterMem_spec fs s offset).2.2.1, (iterMem_spec fs s offset).2.2.2⟩

/-- `merge(use_memmap=True)` of memory-mapped stores: read through its memory maps, the result is exactly the
in-memory `merge` of what the input maps hold (single-entry shortcut and `None` entries included); the input
files are left as they were. -/
theorem merge_memmap_eq (thr : Int) (fs : FS) (ps : List (Option (MStore K)))
    (hv : ∀ m, some m ∈ ps → m.Valid fs) :
    (mergeOptMem thr fs ps).2.map (MStore.load (mergeOptMem thr fs ps).1) =
      mergeOpt thr (ps.map (Option.map (MStore.load fs))) ∧
    (∀ q < fs.length, (mergeOptMem thr fs ps).1.read q = fs.read q) :=
  mergeOptMem_spec thr fs ps hv

/-- End to end on disk: analyzers of a tiling hand out memory maps, `merge(use_memmap=True)` combines them; what
the merged memory maps hold is a correct aggregate of the whole tiling (so every statement proved for the
in-memory merge — maximum, marker, attaining rotation, bijective table, order and grouping — holds for it). -/
theorem merge_memmap_represents {thr : Int} {d : Nat} (ts : List (Tile K))
    (hd : ∀ t ∈ ts, t.offset.length = d ∧ t.shape.length = d)
    (fs : FS) (ms : List (MStore K)) (hv : ∀ m ∈ ms, m.Valid fs)
    (hload : ms.map (MStore.load fs) = ts.map (tileStore thr))
    {M : MStore K} (hM : (mergeOptMem thr fs (ms.map some)).2 = some M) :
    Represents thr (M.load (mergeOptMem thr fs (ms.map some)).1) ts := by
  have sp := (mergeOptMem_some_spec thr fs ms hv).1
  rw [hM, hload] at sp
  exact merge_tiles_represents ts hd sp.symm

section examples
/-- two analyzers write their results to files 0‥3, the merge creates files 4 and 5 -/
def fsEx : FS × List (MStore String) :=
  let a := iterMem [] (run tA.shape 0 tA.hist) tA.offset
  let b := iterMem a.1 (run tB.shape 0 tB.hist) tB.offset
  (b.1, [a.2, b.2])
example : fsEx.2.map (MStore.load fsEx.1) = [tA, tB].map (tileStore 0) := by rfl
example : (∀ m ∈ fsEx.2, m.Valid fsEx.1) ∧
    ((mergeOptMem 0 fsEx.1 (fsEx.2.map some)).2.map (fun M => (M.scores, M.rots))) = some (4, 5) ∧
    ((mergeOptMem 0 fsEx.1 (fsEx.2.map some)).1.read 4).toList = [3, 4, 9] ∧
    ((mergeOptMem 0 fsEx.1 (fsEx.2.map some)).1.read 5).toList = [0, 1, 0] := by decide +kernel
end examples

/-- After any history whose rotations all have a file, every file holds, voxel by voxel, what it held before plus
everything submitted for *its* rotation (placed at the box `starts`), files keep their shape, none is created. -/
theorem memmap_handler_file_eq_sum (paths : Table K) (starts : List Nat) (h : List (Arr Int × K)) (fs : FS)
    (hk : ∀ ak ∈ h, (lookup ak.2 paths).isSome) :
    ∃ fs', memmapHandlerRun paths starts fs h = some fs' ∧ fs'.length = fs.length ∧
      ∀ p, (fs'.read p).shape = (fs.read p).shape ∧
        ∀ idx, p < fs.length → inShape (fs.read p).shape idx = true →
          (fs'.read p).getD idx 0 = (fs.read p).getD idx 0 + handlerAdded paths starts h p idx :=
  memmapHandler_spec paths starts h fs hk

/-- a rotation without a file stops the run (`KeyError`) -/
theorem memmap_handler_unknown_rotation (paths : Table K) (starts : List Nat) :
    ∀ (h : List (Arr Int × K)) (fs : FS), (∃ ak ∈ h, lookup ak.2 paths = none) →
      memmapHandlerRun paths starts fs h = none := by
  intro h
  induction h with
  | nil => intro _ hex; obtain ⟨_, hm, _⟩ := hex; cases hm
  | cons ak t ih =>
    intro fs hex
    rw [memmapHandlerRun_cons]
    cases hc : memmapHandlerCall paths starts fs ak.1 ak.2 with
    | none => rfl
    | some fs1 =>
      obtain ⟨x, hx, hn⟩ := hex
      rcases List.mem_cons.mp hx with e | hx'
      · subst e
        rw [memmapHandlerCall, hn] at hc
        cases hc
      · exact ih fs1 ⟨x, hx', hn⟩

section examples
/-- two rotations, two files of shape [3]; arrays of shape [2] are added at position 1 -/
example : (memmapHandlerRun [("r0", 0), ("r1", 1)] [1] [⟨[3], #[1, 1, 1]⟩, ⟨[3], #[0, 0, 0]⟩]
      [(⟨[2], #[5, 6]⟩, "r0"), (⟨[2], #[1, 2]⟩, "r1"), (⟨[2], #[10, 20]⟩, "r0")]).map (fun fs => fs.map Arr.toList)
    = some [[1, 16, 27], [0, 1, 2]] ∧
    handlerAdded [("r0", 0), ("r1", 1)] [1] [(⟨[2], #[5, 6]⟩, "r0"), (⟨[2], #[1, 2]⟩, "r1"), (⟨[2], #[10, 20]⟩, "r0")] 0 [2] = 26 ∧
    (memmapHandlerRun [("r0", 0)] [1] [⟨[3], #[1, 1, 1]⟩] [(⟨[2], #[5, 6]⟩, "r7")]).isNone = true := by decide +kernel
end examples

/-- `merge(stores, score_threshold=thr')` through its general path (two or more entries, `None`s allowed): when
every store is a correct aggregate for a threshold of its own that is not above `thr'`, the result is a correct
aggregate *for `thr'`* of everything — maximum above `thr'`, else `thr'`; marker exactly where nothing exceeds `thr'`;
attaining rotation; bijective table.  (`merge_represents` is the case of equal thresholds.) -/
theorem merge_threshold_raise {thr' : Int} {d : Nat} (pairs : List (Store K × List (Tile K)))
    (hrep : ∀ pr ∈ pairs, ∃ thr, thr ≤ thr' ∧ Represents thr pr.1 pr.2) (hd : SameDim d (pairs.map Prod.fst))
    (ps : List (Option (Store K))) (hps : ps.filterMap id = pairs.map Prod.fst) (hlen : 2 ≤ ps.length)
    {M : Store K} (hM : mergeOpt thr' ps = some M) :
    Represents thr' M (pairs.map Prod.snd).flatten := by
  cases mergeOpt_eq_some (Nat.ne_of_gt hlen) hps hM
  exact mergeMany_represents_raise pairs hrep hd

example : ∃ M, mergeOpt 3 [some (tileStore 0 tA), some (tileStore 1 tB)] = some M ∧
    M.scores.toList = [3, 4, 9] ∧ M.rots.toList = [-1, 1, 0] := ⟨_, rfl, by decide +kernel⟩
example : (0 : Int) ≤ 3 ∧ (1 : Int) ≤ 3 ∧ Represents 1 (tileStore 1 tB) [tB] := ⟨by decide +kernel, by decide +kernel, tile_represents 1 tB⟩

/-- The hypothesis is needed: with a threshold *below* the stores' a voxel that was never improved (value = the
stores' threshold 5, marker) wins against the lower fill value, its marker `-1` is sent through `lookup_table[-1]`,
the spare last entry, and comes out as identifier 1 — the rotation "r1", which held 1 there, not 5. -/
theorem merge_lower_threshold_marker_lost :
    let A := tileStore 5 (⟨[0], [2], [(⟨[2], #[7, 1]⟩, "r0")]⟩ : Tile String)
    let B := tileStore 5 (⟨[0], [2], [(⟨[2], #[1, 1]⟩, "r1")]⟩ : Tile String)
    A.rots.toList = [0, -1] ∧ (mergeMany 0 [A, B]).scores.toList = [7, 5] ∧ (mergeMany 0 [A, B]).rots.toList = [0, 1] ∧
    keyOf (mergeMany 0 [A, B]).table 1 = some "r1" := by decide +kernel

/-- For *every* history — rotations repeated or not — on the `only_unique_rotations` path the identifier stored at
a voxel is the position in the history of a submission that attains the stored score there, and the analyzer's own
identifier → matrix dict (before `__iter__` inverts it) sends that identifier to the rotation of that submission.
(What can get lost with repeated rotations is only the inverted dict's entry, `unique_rotations_needs_unique`.) -/
theorem unique_rotations_id_is_position (shape : List Nat) (thr : Int) (h : List (Arr Int × K)) (idx : List Nat)
    (hin : inShape shape idx = true) (hr : (runInv shape thr h).rots.getD idx 0 ≠ -1) :
    ∃ (i : Nat) (a : Arr Int) (k : K), h[i]? = some (a, k) ∧ (runInv shape thr h).rots.getD idx 0 = (i : Int) ∧
      (i, k) ∈ (runInv shape thr h).imap ∧ a.getD idx 0 = (runInv shape thr h).scores.getD idx 0 ∧
      thr < (runInv shape thr h).scores.getD idx 0 := by
  have inv := invI_run shape thr h
  rcases inv.rot idx hin with ⟨h1, _⟩ | ⟨i, a, k, hm, hri, hv, ht⟩
  · exact absurd h1 hr
  · exact ⟨i, a, k, hm, hri, by rw [inv.imap_eq]; exact mem_imap_of_getElem? hm, hv, ht⟩

example : (runInv [2] 0 [((⟨[2], #[5, 0]⟩ : Arr Int), "r0"), (⟨[2], #[0, 7]⟩, "r0")]).rots.toList = [0, 1] ∧
    (runInv [2] 0 [((⟨[2], #[5, 0]⟩ : Arr Int), "r0"), (⟨[2], #[0, 7]⟩, "r0")]).imap = [(0, "r0"), (1, "r0")] := by decide +kernel

/-- `MemmapHandler`: the files do not depend on the order in which the submissions arrive (the comment in the code
says the lock is not really needed because processes work on different rotations; as atomic actions the
submissions commute even for the same rotation). -/
theorem memmap_handler_order_free (paths : Table K) (starts : List Nat) (h h' : List (Arr Int × K)) (fs : FS)
    (hp : h.Perm h') (hk : ∀ ak ∈ h, (lookup ak.2 paths).isSome) :
    ∃ fs1 fs2, memmapHandlerRun paths starts fs h = some fs1 ∧ memmapHandlerRun paths starts fs h' = some fs2 ∧
      ∀ p idx, p < fs.length → inShape (fs.read p).shape idx = true →
        (fs1.read p).getD idx 0 = (fs2.read p).getD idx 0 := by
  obtain ⟨fs1, r1, _, f1⟩ := memmap_handler_file_eq_sum paths starts h fs hk
  obtain ⟨fs2, r2, _, f2⟩ := memmap_handler_file_eq_sum paths starts h' fs
    (fun ak hak => hk ak (hp.mem_iff.mpr hak))
  refine ⟨fs1, fs2, r1, r2, ?_⟩
  intro p idx hlt hin
  rw [(f1 p).2 idx hlt hin, (f2 p).2 idx hlt hin, handlerAdded_perm paths starts p idx hp]

example : ([((⟨[2], #[5, 6]⟩ : Arr Int), "r0"), (⟨[2], #[1, 2]⟩, "r1")]).Perm [(⟨[2], #[1, 2]⟩, "r1"), (⟨[2], #[5, 6]⟩, "r0")] :=
  List.Perm.swap _ _ _

/-- Analyzers of any tiling write their results to files one after the other (`use_memmap`), starting from any file
system; `merge(use_memmap=True)` combines the memory maps.  What the merged memory maps hold is a correct aggregate
of the whole tiling, and every file that existed before (and every analyzer's file) is left as it was. -/
theorem memmap_pipeline_represents {thr : Int} {d : Nat} (ts : List (Tile K))
    (hd : ∀ t ∈ ts, t.offset.length = d ∧ t.shape.length = d) (fs : FS) :
    let w := iterMemAll fs (ts.map (tileStore thr))
    let r := mergeOptMem thr w.1 (w.2.map some)
    (∀ M, r.2 = some M → Represents thr (M.load r.1) ts) ∧
    (∀ q < w.1.length, r.1.read q = w.1.read q) ∧ (∀ q < fs.length, r.1.read q = fs.read q) ∧
    w.2.map (MStore.load w.1) = ts.map (tileStore thr) := by
  intro w r
  obtain ⟨hl, hold, hload, hv⟩ := iterMemAll_spec (ts.map (tileStore thr)) fs
  have hsame := (mergeOptMem_some_spec thr w.1 w.2 hv).2
  refine ⟨?_, hsame, ?_, hload⟩
  · intro M hM
    exact merge_memmap_represents ts hd w.1 w.2 hv hload hM
  · intro q hq
    rw [hsame q (Nat.lt_of_lt_of_eq (Nat.lt_add_right _ hq) hl.symm), hold q hq]

example : let w := iterMemAll ([] : FS) ([tA, tB].map (tileStore 0))
    w.2.map (fun m => (m.scores, m.rots)) = [(0, 1), (2, 3)] ∧
    ((mergeOptMem 0 w.1 (w.2.map some)).2.map (fun M => (M.scores, M.rots))) = some (4, 5) := by decide +kernel

/-- What `__iter__` reports on the `only_unique_rotations` path, for every history: the identifier of a rotation is
the position of its *last* submission (`lastId`: last entry of the identifier → matrix dict carrying that rotation);
rotations never submitted have none.  Together with `unique_rotations_id_is_position`: an identifier stored at a
voxel can be read back through the reported mapping exactly when its rotation was not submitted again later. -/
theorem inverted_map_last_position (shape : List Nat) (thr : Int) (h : List (Arr Int × K)) (offset : List Nat) (k : K) :
    lookup k (iterInv (runInv shape thr h) offset).table =
      lastId ((List.range h.length).zip (h.map Prod.snd)) k := by
  simp only [iterInv]
  rw [invertMap_lookup, (invI_run shape thr h).imap_eq]

example : lastId ((List.range 3).zip ["r0", "r1", "r0"]) "r0" = some 2 ∧
    lastId ((List.range 3).zip ["r0", "r1", "r0"]) "r1" = some 1 ∧
    lastId ((List.range 3).zip ["r0", "r1", "r0"]) "r2" = none := by decide +kernel

/-- … and on disk: the identifier read through the merged memory maps decodes, through the merged mapping, to a
rotation attaining the value read through the merged score map. -/
theorem memmap_merge_decode_attains {thr : Int} {d : Nat} (ts : List (Tile K))
    (hd : ∀ t ∈ ts, t.offset.length = d ∧ t.shape.length = d) (fs : FS)
    {M : MStore K} (hM : (mergeOptMem thr (iterMemAll fs (ts.map (tileStore thr))).1
        ((iterMemAll fs (ts.map (tileStore thr))).2.map some)).2 = some M)
    (p q : List Nat) :
    let S := M.load (mergeOptMem thr (iterMemAll fs (ts.map (tileStore thr))).1
        ((iterMemAll fs (ts.map (tileStore thr))).2.map some)).1
    localIdx S.offset S.scores.shape p = some q → S.rots.getD q 0 ≠ -1 →
    ∃ k, keyOf S.table (S.rots.getD q 0) = some k ∧ Attains ts p k (S.scores.getD q 0) := by
  intro S hl hr
  exact represents_decode_attains ((memmap_pipeline_represents ts hd fs).1 M hM) p q hl hr

/-- The identifier at an improved voxel belongs to the *first* submission whose array holds the final value there:
every earlier submission is strictly below it (strict `>`: ties keep the first).  With `table_injective` this fixes
the rotation map completely — `run` is a function of the history, this says which. -/
theorem rot_first_attaining (shape : List Nat) (thr : Int) (h : List (Arr Int × K)) (idx : List Nat)
    (hin : inShape shape idx = true) (hr : (run shape thr h).rots.getD idx 0 ≠ -1) :
    ∃ (j : Nat) (a : Arr Int) (k : K) (i : Nat), h[j]? = some (a, k) ∧ lookup k (run shape thr h).table = some i ∧
      (run shape thr h).rots.getD idx 0 = (i : Int) ∧ a.getD idx 0 = (run shape thr h).scores.getD idx 0 ∧
      ∀ (j' : Nat) (a' : Arr Int) (k' : K), j' < j → h[j']? = some (a', k') →
        a'.getD idx 0 < (run shape thr h).scores.getD idx 0 := by
  rcases (inv_run shape thr h).rot idx hin with ⟨h1, _⟩ | ⟨j, a, k, i, hj, hl, hri, hv, _, hb⟩
  · exact absurd h1 hr
  · exact ⟨j, a, k, i, hj, hl, hri, hv, hb⟩

/-- exA and exB both hold 3 at voxel 0: the first one's rotation is reported, whichever order they come in -/
example : (run [2] 0 [(exA, "r0"), (exB, "r1")]).rots.getD [0] 0 = 0 ∧
    keyOf (run [2] 0 [(exB, "r1"), (exA, "r0")]).table ((run [2] 0 [(exB, "r1"), (exA, "r0")]).rots.getD [0] 0) = some "r1" := by
  decide +kernel

/-- `merge` of the analyzers of any tiling, in the given order, is equal to ONE analyzer of the merged volume fed
every submission of every tile (each array placed at its offset, the threshold outside its box — `bigHist`), tile
after tile: the same table with the same numbering, and at every voxel the same score and the same rotation
identifier (`merge_eq_aggregate_all` gave the scores and *an* attaining rotation; this gives the very identifier).
For the general path of `merge`, any number of tiles, overlapping or not. -/
theorem merge_eq_aggregate_at_once_exact (thr : Int) (ts : List (Tile K)) :
    let out := outShape (ts.map (tileStore thr))
    let M := mergeMany thr (ts.map (tileStore thr))
    let B := run out thr (bigHist thr out ts)
    M.table = B.table ∧ M.scores.shape = B.scores.shape ∧
    ∀ p, inShape out p = true → M.scores.getD p 0 = B.scores.getD p 0 ∧ M.rots.getD p 0 = B.rots.getD p 0 := by
  intro out M B
  have htab : M.table = B.table := by
    show newTable (ts.map (tileStore thr)) = (run out thr (bigHist thr out ts)).table
    rw [newTable, newTable_fold_tiles thr ts [] tableOK_nil, run_table, bigHist_keys]
  have invB := inv_run out thr (bigHist thr out ts)
  refine ⟨htab, (mergeMany_shape thr _).trans invB.shape_sc.symm, ?_⟩
  intro p hp
  have cM' : CellF thr M.table (bigHist thr out ts) p (M.scores.getD p 0) (M.rots.getD p 0) :=
    mergeMany_tiles_cellF thr ts hp
  obtain ⟨mv, mr⟩ := cM'
  have bv : B.scores.getD p 0 = specMax thr (valsAt (bigHist thr out ts) p) := invB.score p hp
  have hsame : B.scores.getD p 0 = M.scores.getD p 0 := bv.trans mv.symm
  refine ⟨hsame.symm, ?_⟩
  rcases mr with ⟨m1, m2⟩ | ⟨k, i, hk, hri, hfk, hlt⟩
  · rcases invB.rot p hp with ⟨b1, _⟩ | ⟨_, _, _, _, _, _, _, _, blt, _⟩
    · rw [m1]; exact b1.symm
    · exact absurd (lt_of_lt_of_eq blt hsame) (by rw [m2]; exact Int.lt_irrefl _)
  · rcases invB.rot p hp with ⟨_, b2⟩ | ⟨j, a, k', i', hj, hk', hri', hv, _, hb⟩
    · have hM : M.scores.getD p 0 = thr := hsame.symm.trans b2
      exact absurd hlt (by rw [hM]; exact Int.lt_irrefl _)
    · -- both identifiers belong to the first submission attaining the common value
      have ek : k = k' :=
        hfk.unique ⟨j, a, hj, hv.trans hsame, fun j' a' k'' hj' hjj => lt_of_lt_of_eq (hb j' a' k'' hj' hjj) hsame⟩
      subst ek
      rw [← htab, hk] at hk'
      cases hk'
      rw [hri]; exact hri'.symm

/-- the same for `merge` as called with two or more partial results -/
theorem merge_two_or_more_eq_at_once (thr : Int) (t1 t2 : Tile K) (ts : List (Tile K)) {M : Store K}
    (hM : merge thr ((t1 :: t2 :: ts).map (tileStore thr)) = some M) :
    let out := outShape ((t1 :: t2 :: ts).map (tileStore thr))
    let B := run out thr (bigHist thr out (t1 :: t2 :: ts))
    M.table = B.table ∧
    ∀ p, inShape out p = true → M.scores.getD p 0 = B.scores.getD p 0 ∧ M.rots.getD p 0 = B.rots.getD p 0 := by
  intro out B
  simp only [List.map_cons, merge, Option.some.injEq] at hM
  subst hM
  have := merge_eq_aggregate_at_once_exact thr (t1 :: t2 :: ts)
  simp only [List.map_cons] at this
  exact ⟨this.1, this.2.2⟩

/-- overlapping tiles with different local numberings: merged and at-once agree (table, scores, identifiers) -/
example : let out := outShape ([tA, tB].map (tileStore 0))
    let M := mergeMany 0 ([tA, tB].map (tileStore 0))
    let B := run out 0 (bigHist 0 out [tA, tB])
    out = [3] ∧ M.table = B.table ∧ M.scores.toList = B.scores.toList ∧ M.rots.toList = B.rots.toList ∧
    B.rots.toList = [0, 1, 0] := by decide +kernel

/-- … and on disk: what the memory maps of `merge(use_memmap=True)` hold for two or more memory-mapped analyzers
of a tiling is, voxel by voxel and identifier by identifier, the one analyzer fed everything at once. -/
theorem memmap_merge_eq_at_once (thr : Int) (t1 t2 : Tile K) (ts : List (Tile K)) (fs : FS) (ms : List (MStore K))
    (hv : ∀ m ∈ ms, m.Valid fs) (hload : ms.map (MStore.load fs) = (t1 :: t2 :: ts).map (tileStore thr))
    {M : MStore K} (hM : (mergeOptMem thr fs (ms.map some)).2 = some M) :
    let S := M.load (mergeOptMem thr fs (ms.map some)).1
    let out := outShape ((t1 :: t2 :: ts).map (tileStore thr))
    let B := run out thr (bigHist thr out (t1 :: t2 :: ts))
    S.table = B.table ∧
    ∀ p, inShape out p = true → S.scores.getD p 0 = B.scores.getD p 0 ∧ S.rots.getD p 0 = B.rots.getD p 0 := by
  intro S out B
  have sp := (mergeOptMem_some_spec thr fs ms hv).1
  rw [hM, hload] at sp
  exact merge_two_or_more_eq_at_once thr t1 t2 ts sp.symm

example : fsEx.2.map (MStore.load fsEx.1) = (tA :: tB :: []).map (tileStore 0) := by rfl

/-- … and after concurrent submissions under the lock: whatever the schedule, once every process has finished the
identifier at an improved voxel of the shared analyzer decodes, through the shared mapping, to a rotation that some
process submitted with an array attaining the shared score there. -/
theorem concurrent_decode_attains (shape : List Nat) (thr : Int) (work : List (List (Arr Int × K)))
    (sched : List Nat)
    (hdone : ∀ j, ((runSched true (sysInit shape thr work) sched).procs j).todo = [])
    (idx : List Nat) (hin : inShape shape idx = true)
    (hr : (runSched true (sysInit shape thr work) sched).shared.rots.getD idx 0 ≠ -1) :
    ∃ a k, (a, k) ∈ work.flatten ∧
      keyOf (runSched true (sysInit shape thr work) sched).shared.table
        ((runSched true (sysInit shape thr work) sched).shared.rots.getD idx 0) = some k ∧
      a.getD idx 0 = (runSched true (sysInit shape thr work) sched).shared.scores.getD idx 0 := by
  obtain ⟨⟨serial, hmem, hs⟩, _⟩ := concurrent_no_lost_update shape thr work sched hdone
  rw [hs] at hr ⊢
  obtain ⟨a, k, hm, hk, hv⟩ := rot_decodes_attains shape thr serial idx hin hr
  exact ⟨a, k, (hmem _).mp hm, hk, hv⟩

section examples
/-- hypotheses of `concurrent_decode_attains`: the locked schedule above finishes with an improved voxel -/
example : let sys := runSched true (sysInit [1] 0 [[(w5, 0)], [(w7, 1)]]) (raceSched ++ [1, 1, 1, 1, 1])
    allDone sys 2 = true ∧ inShape [1] [0] = true ∧ sys.shared.rots.getD [0] 0 ≠ -1 ∧
    keyOf sys.shared.table (sys.shared.rots.getD [0] 0) = some 1 := by decide +kernel

/-- hypotheses of `merge_matrix_decode_attains`: two overlapping tiles whose rotations are 2 × 2 matrices -/
def mA : Tile (List Nat) := ⟨[0], [2], [(⟨[2], #[3, 1]⟩, matKey [[1, 0], [0, 1]])]⟩
def mB : Tile (List Nat) := ⟨[1], [2], [(⟨[2], #[4, -2]⟩, matKey [[0, 1], [1, 0]]), (⟨[2], #[0, 9]⟩, matKey [[1, 0], [0, 1]])]⟩
example : (∀ t ∈ [mA, mB], ∀ ak ∈ t.hist, ak.2 = matKey [[1, 0], [0, 1]] ∨ ak.2 = matKey [[0, 1], [1, 0]]) ∧
    IsMat 2 ([[1, 0], [0, 1]] : List (List Nat)) ∧ IsMat 2 ([[0, 1], [1, 0]] : List (List Nat)) ∧
    decodeRot 2 (mergeMany 0 ([mA, mB].map (tileStore 0))).table
      ((mergeMany 0 ([mA, mB].map (tileStore 0))).rots.getD [1] 0) = some [[0, 1], [1, 0]] := by decide +kernel
example : Represents 0 (mergeMany 0 ([mA, mB].map (tileStore 0))) [mA, mB] :=
  merge_tiles_represents (d := 1) [mA, mB] (by decide +kernel) rfl
end examples

/-- `tuple(analyzer)` with `use_memmap` is `array_to_memmap` applied to both arrays of the in-memory result (the
function the driver runs on every store before `mergeOptMem`) -/
theorem iterMem_eq_storeToFiles (fs : FS) (s : State K) (offset : List Nat) :
    iterMem fs s offset = storeToFiles fs (s.toStore offset) := rfl

/-- … and for `merge` as it is called, with `None` entries among two or more raw entries: still equal to the one
analyzer fed everything (the `None`s are skipped, the order of the others is kept). -/
theorem mergeOpt_eq_at_once (thr : Int) (ts : List (Tile K)) (ps : List (Option (Store K)))
    (hps : ps.filterMap id = ts.map (tileStore thr)) (hlen : 2 ≤ ps.length)
    {M : Store K} (hM : mergeOpt thr ps = some M) :
    let out := outShape (ts.map (tileStore thr))
    let B := run out thr (bigHist thr out ts)
    M.table = B.table ∧
    ∀ p, inShape out p = true → M.scores.getD p 0 = B.scores.getD p 0 ∧ M.rots.getD p 0 = B.rots.getD p 0 := by
  intro out B
  cases mergeOpt_eq_some (Nat.ne_of_gt hlen) hps hM
  exact ⟨(merge_eq_aggregate_at_once_exact thr ts).1, (merge_eq_aggregate_at_once_exact thr ts).2.2⟩

example : [none, some (tileStore 0 tA), none, some (tileStore 0 tB)].filterMap id = [tA, tB].map (tileStore 0) ∧
    2 ≤ [none, some (tileStore 0 tA), none, some (tileStore 0 tB)].length := ⟨rfl, by decide +kernel⟩

/-- Resubmitting the same array with the same rotation changes nothing: scores, identifiers and table are
*equal* to those after the first submission (`__call__` is idempotent). -/
theorem submit_idempotent (s : State K) (a : Arr Int) (k : K) :
    submit (submit s a k) a k = submit s a k := by
  have hsd : setdefault (setdefault s.table k).1 k = ((setdefault s.table k).1, (setdefault s.table k).2) :=
    setdefault_of_some (setdefault_spec s.table k).1
  show State.mk
      (maxUpdate a (submit s a k).scores (submit s a k).rots ((setdefault (setdefault s.table k).1 k).2 : Nat)).1
      (maxUpdate a (submit s a k).scores (submit s a k).rots ((setdefault (setdefault s.table k).1 k).2 : Nat)).2
      (setdefault (setdefault s.table k).1 k).1 = _
  rw [hsd]
  exact congrArg (fun m : Arr Int × Arr Int => State.mk m.1 m.2 (setdefault s.table k).1)
    (maxUpdate_idem a s.scores s.rots _)

/-- Two submissions commute on the score map: the arrays after `a` then `b` and after `b` then `a` are equal
(whatever the rotations and the state they are submitted to). -/
theorem submit_comm_scores (s : State K) (a b : Arr Int) (k k' : K) :
    (submit (submit s a k) b k').scores = (submit (submit s b k') a k).scores :=
  maxUpdate_fst_comm a b s.scores s.rots (submit s a k).rots s.rots (submit s b k').rots
    (setdefault s.table k).2 (setdefault (submit s a k).table k').2
    (setdefault s.table k').2 (setdefault (submit s b k').table k).2

/-- The identifier map after two submissions, exactly: the second submission's identifier where it is strictly
above both the old map and the first array, else the first one's where that was strictly above the old map, else
the old identifier.  In particular on a tie between the two arrays the *first submitted* rotation stays. -/
theorem submit_two_rots (s : State K) (a b : Arr Int) (k k' : K) (idx : List Nat)
    (hin : inShape s.scores.shape idx = true) :
    (submit (submit s a k) b k').rots.getD idx 0 =
      if b.getD idx 0 > max (s.scores.getD idx 0) (a.getD idx 0) then ((setdefault (setdefault s.table k).1 k').2 : Int)
      else if a.getD idx 0 > s.scores.getD idx 0 then ((setdefault s.table k).2 : Int)
      else s.rots.getD idx 0 := by
  rw [submit_rots_getD _ _ _ _ (by exact hin), submit_scores_getD _ _ _ _ hin, submit_rots_getD _ _ _ _ hin, submit_table]

/-- ties: when both arrays hold the same value at a voxel and it improves the map, the identifier of the first
submitted rotation is stored, in either order of submission -/
theorem submit_tie_first_wins (s : State K) (a b : Arr Int) (k k' : K) (idx : List Nat)
    (hin : inShape s.scores.shape idx = true) (htie : a.getD idx 0 = b.getD idx 0)
    (himp : a.getD idx 0 > s.scores.getD idx 0) :
    (submit (submit s a k) b k').rots.getD idx 0 = ((setdefault s.table k).2 : Int) ∧
    (submit (submit s b k') a k).rots.getD idx 0 = ((setdefault s.table k').2 : Int) := by
  constructor
  · rw [submit_two_rots _ _ _ _ _ _ hin, if_neg (htie ▸ Int.not_lt.mpr (Int.le_max_right _ _)), if_pos himp]
  · rw [submit_two_rots _ _ _ _ _ _ hin, if_neg (htie ▸ Int.not_lt.mpr (Int.le_max_right _ _)), if_pos (htie ▸ himp)]

example : inShape (run [2] 0 ([] : List (Arr Int × String))).scores.shape [0] = true ∧ exA.getD [0] 0 = exB.getD [0] 0 ∧
    exA.getD [0] 0 > (run [2] 0 ([] : List (Arr Int × String))).scores.getD [0] 0 := by decide +kernel

/-- One submission never decreases the map at any voxel, and the new value is the old one or the submitted one. -/
theorem submit_monotone (s : State K) (a : Arr Int) (k : K) (idx : List Nat)
    (hin : inShape s.scores.shape idx = true) :
    s.scores.getD idx 0 ≤ (submit s a k).scores.getD idx 0 ∧ a.getD idx 0 ≤ (submit s a k).scores.getD idx 0 ∧
    ((submit s a k).scores.getD idx 0 = s.scores.getD idx 0 ∨ (submit s a k).scores.getD idx 0 = a.getD idx 0) := by
  rw [submit_scores_getD _ _ _ _ hin]
  exact ⟨Int.le_max_left _ _, Int.le_max_right _ _,
    (Int.le_total (s.scores.getD idx 0) (a.getD idx 0)).elim (fun h => Or.inr (Int.max_eq_right h))
      (fun h => Or.inl (Int.max_eq_left h))⟩

/-- Monotonicity: appending any further submissions never decreases the aggregated map at any voxel. -/
theorem scores_monotone_append (shape : List Nat) (thr : Int) (h h' : List (Arr Int × K)) (idx : List Nat)
    (hin : inShape shape idx = true) :
    (run shape thr h).scores.getD idx 0 ≤ (run shape thr (h ++ h')).scores.getD idx 0 := by
  rw [scores_eq_max_threshold _ _ _ _ hin, scores_eq_max_threshold _ _ _ _ hin]
  simp only [valsAt, List.map_append]
  rw [specMax_append]
  exact le_specMax _ _

/-- Upper bound: the aggregated value is at most any bound of the threshold and of all submitted values at that
voxel (so it is at most `max(threshold, all submitted values)`), and at least the threshold. -/
theorem scores_upper_bound (shape : List Nat) (thr m : Int) (h : List (Arr Int × K)) (idx : List Nat)
    (hin : inShape shape idx = true) (hthr : thr ≤ m) (hall : ∀ ak ∈ h, ak.1.getD idx 0 ≤ m) :
    thr ≤ (run shape thr h).scores.getD idx 0 ∧ (run shape thr h).scores.getD idx 0 ≤ m := by
  rw [scores_eq_max_threshold _ _ _ _ hin]
  refine ⟨le_specMax _ _, specMax_le_iff.mpr ⟨hthr, fun x hx => ?_⟩⟩
  obtain ⟨ak, hak, rfl⟩ := List.mem_map.mp hx
  exact hall ak hak

example : (0 : Int) ≤ 7 ∧ ∀ ak ∈ [(exA, "r0"), (exC, "r1")], ak.1.getD [0] 0 ≤ 7 := by decide +kernel

/-- Submitting an array that is nowhere above the current map changes nothing at any voxel: neither the score nor
the stored identifier (the table only gains the rotation if it is new). -/
theorem submit_dominated_noop (s : State K) (a : Arr Int) (k : K)
    (hdom : ∀ idx, inShape s.scores.shape idx = true → a.getD idx 0 ≤ s.scores.getD idx 0)
    (idx : List Nat) (hin : inShape s.scores.shape idx = true) :
    (submit s a k).scores.getD idx 0 = s.scores.getD idx 0 ∧ (submit s a k).rots.getD idx 0 = s.rots.getD idx 0 ∧
    (∀ k' i, lookup k' s.table = some i → lookup k' (submit s a k).table = some i) := by
  have := hdom idx hin
  refine ⟨?_, ?_, (setdefault_spec s.table k).2.1⟩
  · rw [submit_scores_getD _ _ _ _ hin, Int.max_eq_left this]
  · rw [submit_rots_getD _ _ _ _ hin, if_neg (Int.not_lt.mpr this)]

example : ∀ idx, inShape (run [2] 0 [(exC, "r0")]).scores.shape idx = true →
    exB.getD idx 0 ≤ (run [2] 0 [(exC, "r0")]).scores.getD idx 0 := by
  intro idx h
  have : idx = [0] ∨ idx = [1] := by
    match idx, h with
    | [0], _ => exact Or.inl rfl
    | [1], _ => exact Or.inr rfl
  rcases this with rfl | rfl <;> decide +kernel

/-- Under the lock the final map does not depend on the schedule: two complete schedules of the same work give the
same value at every voxel. -/
theorem concurrent_schedule_independent (shape : List Nat) (thr : Int) (work : List (List (Arr Int × K)))
    (sched sched' : List Nat)
    (hdone : ∀ j, ((runSched true (sysInit shape thr work) sched).procs j).todo = [])
    (hdone' : ∀ j, ((runSched true (sysInit shape thr work) sched').procs j).todo = [])
    (idx : List Nat) (hin : inShape shape idx = true) :
    (runSched true (sysInit shape thr work) sched).shared.scores.getD idx 0 =
      (runSched true (sysInit shape thr work) sched').shared.scores.getD idx 0 := by
  rw [(concurrent_no_lost_update shape thr work sched hdone).2 idx hin,
    (concurrent_no_lost_update shape thr work sched' hdone').2 idx hin]

/-- Resubmitting any earlier submission (same array, same rotation) at any later time changes nothing: the table
is the same and every voxel keeps its score and its identifier. -/
theorem resubmit_earlier_noop (shape : List Nat) (thr : Int) (h : List (Arr Int × K)) (a : Arr Int) (k : K)
    (hmem : (a, k) ∈ h) :
    (run shape thr (h ++ [(a, k)])).table = (run shape thr h).table ∧
    ∀ idx, inShape shape idx = true →
      (run shape thr (h ++ [(a, k)])).scores.getD idx 0 = (run shape thr h).scores.getD idx 0 ∧
      (run shape thr (h ++ [(a, k)])).rots.getD idx 0 = (run shape thr h).rots.getD idx 0 := by
  rw [run_snoc]
  have hsh := run_shape shape thr h
  constructor
  · rw [submit_table]
    have hs : (lookup k (run shape thr h).table).isSome := ((inv_run shape thr h).keys k).mpr ⟨a, hmem⟩
    obtain ⟨i, hi⟩ := Option.isSome_iff_exists.mp hs
    rw [setdefault_of_some hi]
  · intro idx hin
    have hdom : ∀ idx, inShape (run shape thr h).scores.shape idx = true →
        a.getD idx 0 ≤ (run shape thr h).scores.getD idx 0 := by
      intro idx hin'
      rw [scores_eq_max_threshold _ _ _ _ (hsh ▸ hin')]
      exact mem_le_specMax (List.mem_map.mpr ⟨(a, k), hmem, rfl⟩)
    obtain ⟨h1, h2, _⟩ := submit_dominated_noop (run shape thr h) a k hdom idx (hsh.symm ▸ hin)
    exact ⟨h1, h2⟩

example : (exA, "r0") ∈ [(exA, "r0"), (exC, "r1")] := List.mem_cons_self

/-- One pass of `merge`'s second loop with a partial result that is nowhere above the accumulated map (e.g. one
holding only the threshold) leaves every voxel of both output arrays as it was. -/
theorem mergeStep_dominated_noop (out : List Nat) (new : Table K) (acc : Arr Int × Arr Int) (S : Store K)
    (p : List Nat) (hin : inShape out p = true)
    (hdom : ∀ q, localIdx S.offset S.scores.shape p = some q → S.scores.getD q 0 ≤ acc.1.getD p 0) :
    (mergeStep out new acc S).1.getD p 0 = acc.1.getD p 0 ∧ (mergeStep out new acc S).2.getD p 0 = acc.2.getD p 0 := by
  cases hl : localIdx S.offset S.scores.shape p with
  | none => exact mergeStep_getD_none hin hl
  | some q =>
    obtain ⟨e1, e2⟩ := mergeStep_getD_some (new := new) (acc := acc) hin hl
    rw [e1, e2, Int.max_eq_left (hdom q hl), if_neg (Int.not_lt.mpr (hdom q hl))]
    exact ⟨rfl, rfl⟩

/-- Merging with a partial result that never received a submission (its map holds only the threshold) is the
identity on the values: at every absolute voxel the merged result holds what the other operand held. -/
theorem merge_empty_partial_identity {thr : Int} {d : Nat} {A : Store K} {as : List (Tile K)}
    (RA : Represents thr A as) (hA : A.offset.length = d ∧ A.scores.shape.length = d)
    (off shp : List Nat) (he : off.length = d ∧ shp.length = d)
    {M M' : Store K} (hM : merge thr [A, tileStore thr ⟨off, shp, []⟩] = some M)
    (hM' : merge thr [tileStore thr ⟨off, shp, []⟩, A] = some M') (p : List Nat) :
    M.valOr thr p = A.valOr thr p ∧ M'.valOr thr p = A.valOr thr p := by
  have RE := tile_represents thr (⟨off, shp, []⟩ : Tile K)
  have tv : tileVals (⟨off, shp, []⟩ : Tile K) p = [] := by
    rw [tileVals]; split <;> rfl
  rw [represents_valOr (merge_two_represents RA RE hA he hM), represents_valOr (merge_two_represents RE RA he hA hM'),
    represents_valOr RA, allVals_append, allVals_append, allVals_single, tv, List.append_nil, List.nil_append]
  exact ⟨rfl, rfl⟩

example : ∃ M, merge 0 [tileStore 0 tA, tileStore 0 (⟨[1], [2], []⟩ : Tile String)] = some M ∧
    M.scores.toList = [3, 1, 0] := ⟨_, rfl, by decide +kernel⟩

/-- Re-indexing of rotation identifiers in `merge` is injective on every store: two different identifiers of a
store are sent by its `lookup_table` to two different identifiers of the merged table. -/
theorem merge_remap_injective {ss : List (Store K)} {S : Store K} (hS : S ∈ ss) (ok : TableOK S.table)
    {k k' : K} {i i' : Nat} (hk : lookup k S.table = some i) (hk' : lookup k' S.table = some i')
    (heq : lutGet (lookupTable S.table (newTable ss)) (i : Int) = lutGet (lookupTable S.table (newTable ss)) (i' : Int)) :
    i = i' ∧ k = k' := by
  have h1 := (merge_remap_decode hS ok hk).1
  have h2 := (merge_remap_decode hS ok hk').1
  rw [heq, h2] at h1
  have e : k' = k := Option.some.inj h1
  subst e
  rw [hk] at hk'
  exact ⟨Option.some.inj hk', rfl⟩

/-- Associativity at full strength, `n` groups: merge each group of partial results on its own, then merge the `n`
group results — the outcome is a correct aggregate of all tiles and holds at every absolute voxel the same value
as one `merge` call over all tiles of all groups. -/
theorem merge_n_groups {thr : Int} {d : Nat} (pairs : List (Store K × List (Tile K)))
    (hg : ∀ pr ∈ pairs, merge thr (pr.2.map (tileStore thr)) = some pr.1)
    (hdt : ∀ pr ∈ pairs, ∀ t ∈ pr.2, t.offset.length = d ∧ t.shape.length = d)
    (hd : SameDim d (pairs.map Prod.fst))
    {M N : Store K} (hM : merge thr (pairs.map Prod.fst) = some M)
    (hN : merge thr ((pairs.map Prod.snd).flatten.map (tileStore thr)) = some N) (p : List Nat) :
    Represents thr M (pairs.map Prod.snd).flatten ∧ M.valOr thr p = N.valOr thr p := by
  have hrep : ∀ pr ∈ pairs, Represents thr pr.1 pr.2 :=
    fun pr hpr => merge_tiles_represents pr.2 (hdt pr hpr) (hg pr hpr)
  have R := merge_represents pairs hrep hd hM
  have RN : Represents thr N (pairs.map Prod.snd).flatten := by
    refine merge_tiles_represents (d := d) _ ?_ hN
    intro t ht
    obtain ⟨l, hl, htl⟩ := List.mem_flatten.mp ht
    obtain ⟨pr, hpr, rfl⟩ := List.mem_map.mp hl
    exact hdt pr hpr t htl
  exact ⟨R, represents_valOr_eq (List.Perm.refl _) R RN p⟩

example : (∀ pr ∈ [(tileStore 0 tA, [tA]), (tileStore 0 tB, [tB])], merge 0 (pr.2.map (tileStore 0)) = some pr.1) ∧
    ∃ M, merge 0 ([(tileStore 0 tA, [tA]), (tileStore 0 tB, [tB])].map Prod.fst) = some M := by
  refine ⟨?_, _, rfl⟩
  intro pr hpr
  rcases List.mem_cons.mp hpr with rfl | hpr
  · rfl
  · rcases List.mem_cons.mp hpr with rfl | hpr
    · rfl
    · cases hpr

/-- Splitting a history: the aggregate of `h ++ h'` is, voxel by voxel, the larger of the aggregates of `h` and of
`h'` (two analyzers of the same volume and threshold can be combined by an element-wise maximum). -/
theorem scores_append_eq_max (shape : List Nat) (thr : Int) (h h' : List (Arr Int × K)) (idx : List Nat)
    (hin : inShape shape idx = true) :
    (run shape thr (h ++ h')).scores.getD idx 0 =
      max ((run shape thr h).scores.getD idx 0) ((run shape thr h').scores.getD idx 0) := by
  rw [scores_eq_max_threshold _ _ _ _ hin, scores_eq_max_threshold _ _ _ _ hin, scores_eq_max_threshold _ _ _ _ hin]
  simp only [valsAt, List.map_append]
  rw [specMax_append, max_specMax _ (le_specMax thr _)]

/-- Raising the configured threshold: the aggregate for a threshold `thr' ≥ thr` is the aggregate for `thr` clipped
from below at `thr'`; in particular it never decreases with the threshold. -/
theorem scores_threshold_raise (shape : List Nat) (thr thr' : Int) (hle : thr ≤ thr') (h : List (Arr Int × K))
    (idx : List Nat) (hin : inShape shape idx = true) :
    (run shape thr' h).scores.getD idx 0 = max thr' ((run shape thr h).scores.getD idx 0) ∧
    (run shape thr h).scores.getD idx 0 ≤ (run shape thr' h).scores.getD idx 0 := by
  rw [scores_eq_max_threshold _ _ _ _ hin, scores_eq_max_threshold _ _ _ _ hin]
  rw [← max_specMax (valsAt h idx) hle]
  exact ⟨rfl, Int.le_max_right _ _⟩

/-- A voxel that holds a rotation identifier keeps one as submissions are appended: it never falls back to the
'no rotation' marker. -/
theorem marker_never_returns (shape : List Nat) (thr : Int) (h h' : List (Arr Int × K)) (idx : List Nat)
    (hin : inShape shape idx = true) (hr : (run shape thr h).rots.getD idx 0 ≠ -1) :
    (run shape thr (h ++ h')).rots.getD idx 0 ≠ -1 := by
  intro e
  apply hr
  rw [untouched_marker _ _ _ _ hin] at e ⊢
  intro x hx
  apply e x
  simp only [valsAt, List.map_append, List.mem_append]
  exact Or.inl hx

/-- Identifiers are never re-assigned: the rotation table after further submissions extends the earlier table
(same rotations, same identifiers, new rotations appended). -/
theorem table_prefix_append (shape : List Nat) (thr : Int) (h h' : List (Arr Int × K)) :
    ∃ l, (run shape thr (h ++ h')).table = (run shape thr h).table ++ l := by
  rw [run_table, run_table, List.map_append, tableOf_append]
  exact tableOf_extends _ _

end Pm.C04
