import PytmeModel.Proofs.C05Post
import PytmeModel.Proofs.C05Batch

/-!
# C05 — reported peaks are in bounds, separated, limited, and agree with the score map

Statements are about the executable model `Pm.C05` (Model/C05.lean), which mirrors
`tme/analyzer.py` (`PeakCaller.__call__`, `_update`, `merge`, `_postprocess`, the five
`call_peaks`), the C++ `find_candidate_indices<int64>`, `topk_indices`,
`max_filter_coordinates` and `split_shape` *after* the `fix:` commits; the pre-fix functions
(`ppAxisOld`, `callMaxFilterConst`, `tileStartsOld`) are kept for the `…_current_defect` witnesses.

* `run cfg strat subs`  = `tuple(peak_caller)` after submitting `subs` (any length, any shapes).
* `merge cfg off [] parts` = `PeakCaller.merge(parts, offset=off)`.
* Library answers with unspecified tie order (`argpartition`, `argsort`) and
  `skimage.peak_local_max` are oracle arguments; `HistOk` / `MaxOrcOk` / `MergeOk` say they meet the
  contracts the harness checks on every recorded answer (`TopkOk_of_isTopK`).  With no oracle the
  deterministic model is used and, for every strategy but the one delegating to `peak_local_max`, the contracts hold by
  `histOk_none`, `maxOrcOk_none`; for merges by `mergeOk_none`.
* The separation clause needs `0 < min_distance` (`min_distance = 0` switches the filter off by design).
* Model/C05Batch.lean adds what the peak callers reach beyond that: `_batchify`, the `batch_dims` rescaling inside
  `filter_points_indices`, `__call__` / `_update` / `merge` of a caller built with `batch_dims` (`runB`, `updateB`,
  `mergeB`: deterministic model, tie-free scores), `_filter_bucket` (non-numpy backends), the C++
  `max_index_by_label` and the representatives `PeakClustering.merge` keeps (DBSCAN's labels are an oracle).
* The last sections say more about `filter_points_indices` (order, maximality, idempotence, monotonicity), `_update`
  and the tile offset of `merge`, and evaluate the model on small runs.
-/
namespace Pm.C05

/-- **master invariant**: every reported peak is justified by one of the submissions — an in-bounds
translation of that array, with that array's value and that submission's rotation, inside the
configured score window and boundary margin. -/
theorem peaks_submitted (cfg : Cfg) (strat : Strategy) (subs : List Sub)
    (hwf : ∀ s ∈ subs, WF s.scores) (hok : HistOk cfg strat [] subs) :
    ∀ p ∈ run cfg strat subs, ∃ s ∈ subs, Submitted cfg s p := by
  intro p hp
  exact (run_aux_submitted subs [] hwf hok p hp).resolve_left List.not_mem_nil

/-- every reported peak lies inside the scored volume -/
theorem peaks_in_bounds (cfg : Cfg) (strat : Strategy) (subs : List Sub)
    (hwf : ∀ s ∈ subs, WF s.scores) (hok : HistOk cfg strat [] subs) :
    ∀ p ∈ run cfg strat subs, ∃ s ∈ subs, ∃ c : List Nat,
      p.pos = c.map Int.ofNat ∧ inShape s.scores.shape c = true := by
  intro p hp
  obtain ⟨s, hs, c, hc, hpos, _⟩ := peaks_submitted cfg strat subs hwf hok p hp
  exact ⟨s, hs, c, hpos, hc⟩

/-- it carries exactly the score and the rotation that were submitted at that translation -/
theorem peaks_score_rotation_match (cfg : Cfg) (strat : Strategy) (subs : List Sub)
    (hwf : ∀ s ∈ subs, WF s.scores) (hok : HistOk cfg strat [] subs) :
    ∀ p ∈ run cfg strat subs, ∃ s ∈ subs, ∃ c : List Nat,
      p.pos = c.map Int.ofNat ∧ p.rot = s.rot ∧ p.score = s.scores.getD c 0 := by
  intro p hp
  obtain ⟨s, hs, c, _, hpos, hrot, hsc, _⟩ := peaks_submitted cfg strat subs hwf hok p hp
  exact ⟨s, hs, c, hpos, hrot, hsc⟩

/-- boundary margin, per axis: a translation passing the margin test is at least `min_boundary_distance`
from the lower face and strictly more than that from the upper end on every axis -/
theorem inMargin_axis (mb : Nat) : ∀ (shape p : List Nat), inMargin mb shape p = true →
    ∀ i (hs : i < shape.length) (hp : i < p.length), mb ≤ p[i] ∧ p[i] + mb < shape[i] :=
  fun shape p h i hs hp => inMarginB_spec mb [] 0 shape p (inMarginB_nil mb 0 shape p ▸ h) i hs hp rfl

example : inMargin 1 [4, 5] [1, 3] = true := by decide +kernel

/-- it respects the score window and the boundary margin (per axis `mb ≤ c < shape - mb`) -/
theorem peaks_respect_window_margin (cfg : Cfg) (strat : Strategy) (subs : List Sub)
    (hwf : ∀ s ∈ subs, WF s.scores) (hok : HistOk cfg strat [] subs) :
    ∀ p ∈ run cfg strat subs,
      (∀ m, cfg.minScore = some m → m ≤ p.score) ∧ (∀ m, cfg.maxScore = some m → p.score ≤ m) ∧
      ∃ s ∈ subs, ∃ c : List Nat, p.pos = c.map Int.ofNat ∧
        ∀ i (h1 : i < s.scores.shape.length) (h2 : i < c.length),
          cfg.minBoundary ≤ c[i] ∧ c[i] + cfg.minBoundary < s.scores.shape[i] := by
  intro p hp
  obtain ⟨s, hs, c, hc, hpos, _, _, hw, hm⟩ := peaks_submitted cfg strat subs hwf hok p hp
  obtain ⟨hlo, hhi⟩ := (Bool.and_eq_true _ _).mp hw
  refine ⟨fun m hm' => ?_, fun m hm' => ?_, s, hs, c, hpos, fun i h1 h2 => ?_⟩
  · rw [hm'] at hlo; exact of_decide_eq_true hlo
  · rw [hm'] at hhi; exact of_decide_eq_true hhi
  · by_cases hmb : 0 < cfg.minBoundary
    · exact inMargin_axis _ _ _ (hm hmb) i h1 h2
    · rw [Nat.eq_zero_of_not_pos hmb]
      exact ⟨Nat.zero_le _, inShape_getElem _ _ hc i h1 h2⟩

/-- no two reported peaks are closer than or equal to the minimum distance (Euclidean), whatever the
history and whatever the library answered -/
theorem peaks_pairwise_far (cfg : Cfg) (strat : Strategy) (subs : List Sub) (hmd : 0 < cfg.minDist) :
    (run cfg strat subs).Pairwise
      (fun a b => (cfg.minDist : Int) * (cfg.minDist : Int) < d2 a.pos b.pos) := by
  have := run_aux_pairwise strat hmd subs [] List.Pairwise.nil
  exact this.imp (fun h => far_sep h)

/-- the executable predicate `specSeparated`, which the harness evaluates on the lists reported by the
real code, is exactly the conclusion of `peaks_pairwise_far` / `merge_pairwise_far` -/
theorem specSeparated_iff (md : Nat) (ps : List Peak) :
    specSeparated md (ps.map (·.pos)) = true ↔
      ps.Pairwise (fun a b => (md : Int) * (md : Int) < d2 a.pos b.pos) := by
  unfold specSeparated
  induction ps with
  | nil => simp [pairwiseB]
  | cons x xs ih =>
    simp only [List.map_cons, pairwiseB, Bool.and_eq_true, List.pairwise_cons, ih, List.all_eq_true,
      List.mem_map, forall_exists_index, and_imp, forall_apply_eq_imp_iff₂, sepOk, decide_eq_true_eq]

/-- at most the requested number are reported -/
theorem peaks_card_le (cfg : Cfg) (strat : Strategy) (subs : List Sub) (hok : HistOk cfg strat [] subs) :
    (run cfg strat subs).length ≤ cfg.nPeaks :=
  run_aux_length subs [] hok (Nat.zero_le _)

/-- without margin and score window the highest-scoring translation of everything submitted is among
the reported peaks (for the strategy delegating to `peak_local_max` under its contract `MaxOrcOk`:
the library reports a maximiser — checked by the harness whenever one lies farther than the minimum
distance from the border). -/
theorem global_max_kept (cfg : Cfg) (strat : Strategy) (subs : List Sub) (hne : subs ≠ [])
    (hn : 0 < cfg.nPeaks) (hmb : cfg.minBoundary = 0) (hlo : cfg.minScore = none) (hhi : cfg.maxScore = none)
    (hwf : ∀ s ∈ subs, WF s.scores) (hok : HistOk cfg strat [] subs)
    (hmx : ∀ s ∈ subs, MaxOrcOk cfg strat s) :
    ∃ p ∈ run cfg strat subs, ∀ s ∈ subs, ∀ idx, inShape s.scores.shape idx = true →
      s.scores.getD idx 0 ≤ p.score := by
  obtain ⟨p, hp, hps, _⟩ := run_aux_max hn hmb hlo hhi subs [] hwf hok hmx hne
  exact ⟨p, hp, hps⟩

/-- the deterministic model (no recorded library answers) meets every contract, so the theorems above
are unconditional for it -/
theorem contracts_hold_without_oracles (cfg : Cfg) (strat : Strategy) (hs : strat ≠ .scipy) (subs : List Sub)
    (h : ∀ s ∈ subs, s.orc.callTopk = none ∧ s.orc.updTopk = none ∧ s.orc.argsort = none) :
    HistOk cfg strat [] subs ∧ ∀ s ∈ subs, MaxOrcOk cfg strat s :=
  ⟨histOk_none hs subs [] (fun s hs' => ⟨(h s hs').1, (h s hs').2.1⟩),
   fun s hs' => maxOrcOk_none hs s (h s hs').2.2⟩

/-- a recorded `topk_indices` answer that passes the harness' check `isTopK` is admissible -/
theorem recorded_topk_admissible (scores : List Int) (k : Nat) (order : List Nat)
    (h : isTopK scores k order = true) : TopkOk scores k order := TopkOk_of_isTopK h

/-- a recorded `argsort` answer that passes the harness' check `isArgsortDesc` is admissible -/
theorem recorded_argsort_admissible (scores : List Int) (order : List Nat)
    (h : isArgsortDesc scores order = true) : PermOk scores.length order := by
  unfold isArgsortDesc at h
  simp only [Bool.and_eq_true, List.all_eq_true, List.mem_range, List.contains_eq_mem,
    decide_eq_true_eq] at h
  exact fun i hi => h.2 i hi

/-! ## merges of partial results (any number, any nesting: `parts` are arbitrary lists) -/

/-- every merged peak is a peak of one of the parts moved by the offset, score and rotation kept -/
theorem merge_peaks_from_parts (cfg : Cfg) (off : Option (List Int))
    (parts : List (Option (List Peak) × Option (List Nat))) :
    ∀ p ∈ merge cfg off [] parts, ∃ pt ∈ parts, ∃ c, pt.1 = some c ∧ ∃ q ∈ c,
      p = shiftPeak off q ∧ p.score = q.score ∧ p.rot = q.rot := by
  intro p hp
  rcases merge_mem parts [] p hp with h | ⟨pt, hpt, c, hc, q, hq, rfl⟩
  · cases h
  · exact ⟨pt, hpt, c, hc, q, hq, rfl, shiftPeak_score _ _, shiftPeak_rot _ _⟩

theorem merge_pairwise_far (cfg : Cfg) (off : Option (List Int))
    (parts : List (Option (List Peak) × Option (List Nat))) (hmd : 0 < cfg.minDist) :
    (merge cfg off [] parts).Pairwise
      (fun a b => (cfg.minDist : Int) * (cfg.minDist : Int) < d2 a.pos b.pos) :=
  (merge_pairwise hmd parts [] List.Pairwise.nil).imp (fun h => far_sep h)

theorem merge_card_le (cfg : Cfg) (off : Option (List Int))
    (parts : List (Option (List Peak) × Option (List Nat))) (hok : MergeOk cfg off [] parts) :
    (merge cfg off [] parts).length ≤ cfg.nPeaks :=
  merge_length parts [] hok (Nat.zero_le _)

/-- the best peak of all parts survives the merge -/
theorem merge_best_kept (cfg : Cfg) (off : Option (List Int))
    (parts : List (Option (List Peak) × Option (List Nat))) (hn : 0 < cfg.nPeaks)
    (hok : MergeOk cfg off [] parts) :
    ∀ pt ∈ parts, ∀ c, pt.1 = some c → ∀ q ∈ c, ∃ p ∈ merge cfg off [] parts, q.score ≤ p.score := by
  intro pt hpt c hc q hq
  exact merge_max hn parts [] hok q.score (Or.inr ⟨pt, hpt, c, hc, q, hq, Int.le_refl _⟩)

theorem merge_contracts_hold_without_oracles (cfg : Cfg) (off : Option (List Int))
    (parts : List (Option (List Peak) × Option (List Nat))) (h : ∀ pt ∈ parts, pt.2 = none) :
    MergeOk cfg off [] parts := mergeOk_none parts [] h

/-! ## `_postprocess`: target frame = frame of the score map -/

/-- **soundness**: a post-processed peak keeps score and rotation, lies inside the output window on
every axis, and sits exactly at the index where the score map of the same run (`roll` by
`fourier_shift`, cut to the convolution shape, centred crop) shows the raw voxel it came from. -/
theorem postprocess_target_frame (axes : List Axis) (hax : ∀ ax ∈ axes, AxOk ax) (peaks : List Peak)
    (hraw : ∀ p ∈ peaks, RawOk axes p.pos) :
    ∀ q ∈ postprocess true axes peaks, ∃ p ∈ peaks,
      q.rot = p.rot ∧ q.score = p.score ∧ FrameOk axes p.pos q.pos := by
  intro q hq
  obtain ⟨p, hp, hpp, hr, hs⟩ := postprocess_mem hq
  exact ⟨p, hp, hr, hs, ppPos_sound axes p.pos q.pos (hraw p hp) hpp⟩

/-- **completeness, first and last index included**: for every index `t` of the output window the raw
voxel that the score map shows at `t` is kept and reported at `t`. -/
theorem postprocess_covers_score_map (axes : List Axis) (hax : ∀ ax ∈ axes, AxOk ax) (peaks : List Peak)
    (t : List Nat) (ht : OutOk axes t) (rot : Nat) (score : Int)
    (hp : (⟨mapSrcN axes t, rot, score⟩ : Peak) ∈ peaks) :
    (⟨t.map Int.ofNat, rot, score⟩ : Peak) ∈ postprocess true axes peaks := by
  unfold postprocess
  rw [List.mem_filterMap]
  refine ⟨_, hp, ?_⟩
  simp only [ppPos_complete axes t hax ht, Option.map_some]

/-- one axis, explicitly: the first (`t = 0`) and the last (`t = out - 1`) index are produced -/
theorem postprocess_first_last_index (ax : Axis) (h : AxOk ax) (hout : 0 < ax.out) :
    ppAxis true ax (mapSrc ax 0 : Nat) = some 0 ∧
    ppAxis true ax (mapSrc ax (ax.out - 1).toNat : Nat) = some (ax.out - 1) := by
  have e : (((ax.out - 1).toNat : Nat) : Int) = ax.out - 1 := Int.toNat_of_nonneg (Int.le_sub_one_of_lt hout)
  refine ⟨ppAxis_complete h (t := 0) hout, ?_⟩
  rw [ppAxis_complete h (t := (ax.out - 1).toNat) (e.symm ▸ Int.sub_one_lt_of_le (Int.le_refl ax.out)), e]

/-- **a template-matching run** (`scan`): calls on the raw FFT-grid score arrays, `_postprocess`,
`merge(offset = tile offset)`.  Every returned peak is, up to the tile offset, the index at which the
score map of the same run shows the raw voxel it was found at, with that voxel's score for that
rotation. -/
theorem scan_peaks_target_frame (cfg : Cfg) (strat : Strategy) (subs : List Sub) (axes : List Axis)
    (off : Option (List Int)) (o : Option (List Nat))
    (hwf : ∀ s ∈ subs, WF s.scores) (hok : HistOk cfg strat [] subs) (hax : ∀ ax ∈ axes, AxOk ax)
    (hshape : ∀ s ∈ subs, s.scores.shape = axes.map (·.fast)) :
    ∀ p ∈ merge cfg off [] [(some (postprocess true axes (run cfg strat subs)), o)],
      ∃ s ∈ subs, ∃ (c : List Nat) (t : List Int), inShape s.scores.shape c = true ∧
        FrameOk axes (c.map Int.ofNat) t ∧ p = shiftPeak off ⟨t, s.rot, s.scores.getD c 0⟩ := by
  intro p hp
  obtain ⟨pt, hpt, l, hl, q, hq, rfl, _, _⟩ := merge_peaks_from_parts cfg off _ p hp
  cases List.mem_singleton.mp hpt
  cases hl
  have hraw : ∀ r ∈ run cfg strat subs, RawOk axes r.pos := by
    intro r hr
    obtain ⟨s, hs, c, hc, hpos, _⟩ := peaks_submitted cfg strat subs hwf hok r hr
    rw [hpos]
    exact rawOk_of_inShape axes c (by rw [← hshape s hs]; exact hc)
  obtain ⟨r, hr, hrot, hsc, hframe⟩ := postprocess_target_frame axes hax _ hraw q hq
  obtain ⟨s, hs, c, hc, hpos, hrot', hsc', _⟩ := peaks_submitted cfg strat subs hwf hok r hr
  refine ⟨s, hs, c, q.pos, hc, hpos ▸ hframe, ?_⟩
  obtain ⟨qp, qr, qs⟩ := q
  cases (hrot.trans hrot' : qr = s.rot)
  cases (hsc.trans hsc' : qs = s.scores.getD c 0)
  rfl

theorem postprocess_card_le (wrap : Bool) (axes : List Axis) (peaks : List Peak) :
    (postprocess wrap axes peaks).length ≤ peaks.length := List.length_filterMap_le _ _

/-! ## the tiles `PeakCallerFast` works on (`split_shape(equal_shape=True)`) -/

theorem tileStarts_in_bounds_and_cover (n md : Nat) (hn : 0 < n) :
    (∀ s ∈ tileStarts n md, s + tileLen n md ≤ n) ∧ 0 < tileLen n md ∧
    (∀ x, x < n → ∃ s ∈ tileStarts n md, s ≤ x ∧ x < s + tileLen n md) :=
  ⟨fun _ hs => tileStarts_inBounds hs hn, tileLen_pos hn, fun _ hx => tileStarts_cover hx⟩

/-! ## behaviour before the `fix:` commits: witnesses on `ppAxisOld`, `callMaxFilterConst`, `tileStartsOld` -/

/-- pre-fix window `start < p <= stop`: the first index is dropped, index = shape is reported
(8 voxels, no shift: raw 0 ↦ none, raw 8 ↦ 8) -/
theorem postprocess_window_current_defect :
    ppAxisOld true ⟨16, 8, 8, 0⟩ 0 = none ∧ ppAxisOld true ⟨16, 8, 8, 0⟩ 8 = some 8 ∧
    ppAxis true ⟨16, 8, 8, 0⟩ 0 = some 0 ∧ ppAxis true ⟨16, 8, 8, 0⟩ 8 = none := by decide +kernel

/-- pre-fix truncating wrap: raw 0 with shift −2 on a 16-grid stays at −2 and is dropped, while the
score map (modular roll) shows it at index 14 -/
theorem postprocess_wrap_current_defect :
    ppAxisOld true ⟨16, 16, 16, -2⟩ 0 = none ∧ ppAxis true ⟨16, 16, 16, -2⟩ 0 = some 14 ∧
    mapSrc ⟨16, 16, 16, -2⟩ 14 = 0 := by decide +kernel

/-- pre-fix `maximum_filter(mode="constant")`: on an all-negative 1×5 map with the maximum −1 at the
border and window 3 the maximiser is not a candidate; with `mode="nearest"` it is -/
theorem maxfilter_constant_padding_current_defect :
    [0, 4] ∉ callMaxFilterConst 3 ⟨[1, 5], #[-5, -5, -5, -5, -1]⟩ ∧
    [0, 4] ∈ callMaxFilter 3 ⟨[1, 5], #[-5, -5, -5, -5, -1]⟩ := by decide +kernel

/-- pre-fix `split_shape`: extent 15, distance 2 (7 tiles of 3) — tile 5 starts at 15, it is empty -/
theorem split_shape_current_defect :
    15 ∈ tileStartsOld 15 2 ∧ ∀ s ∈ tileStarts 15 2, s + tileLen 15 2 ≤ 15 := by decide +kernel

/-! ## `filter_points_indices(..., batch_dims)`: batch axes are multiplied by `2 * min_distance` -/

/-- without `batch_dims` the filter is the one of the theorems above -/
theorem batch_filter_without_batch_dims (md : Nat) (xs : List Peak) :
    filterPointsB md none xs = filterPoints md xs := filterPointsB_none md xs

example : filterPointsB 1 none [⟨[0, 0], 0, 9⟩, ⟨[0, 1], 1, 8⟩, ⟨[3, 3], 2, 7⟩] = [⟨[0, 0], 0, 9⟩, ⟨[3, 3], 2, 7⟩] := by decide +kernel

/-- the rows handed in are reported unchanged (not the rescaled ones) -/
theorem batch_filter_reports_input_rows (md : Nat) (bd : Option (List Nat)) (xs : List Peak) :
    ∀ p ∈ filterPointsB md bd xs, p ∈ xs := fun _ hp => filterPointsB_mem hp

/-- the C++ test on the rescaled rows, for rows of different batches: always passed -/
theorem batch_filter_other_batches_never_suppress {md : Nat} (hmd : 0 < md) (bd : List Nat) (p q : List Int)
    (i : Nat) (hi : i ∈ bd) (hp : i < p.length) (hq : i < q.length) (hne : p[i] ≠ q[i]) :
    farB md (some bd) p q = true := farB_diff hmd bd p q i hi hp hq hne

example : farB 5 (some [0]) [0, 7, 7] [1, 7, 7] = true ∧ far 5 [0, 7, 7] [1, 7, 7] = false := by decide +kernel

/-- inside one batch the distance rule is unchanged -/
theorem batch_filter_same_batch_rule_unchanged (md : Nat) (bd : List Nat) (p q : List Int)
    (h : ∀ i ∈ bd, p[i]? = q[i]?) : farB md (some bd) p q = far md p q := farB_same md bd p q h

example : farB 2 (some [0]) [4, 0, 0] [4, 1, 2] = far 2 [4, 0, 0] [4, 1, 2] ∧ far 2 [4, 0, 0] [4, 1, 2] = false := by decide +kernel

/-- reported rows of one batch are farther apart than the minimum distance -/
theorem batch_filter_same_batch_far {md : Nat} (hmd : 0 < md) (bd : List Nat) (xs : List Peak) :
    (filterPointsB md (some bd) xs).Pairwise (fun a b =>
      (∀ i ∈ bd, a.pos[i]? = b.pos[i]?) → (md : Int) * (md : Int) < d2 a.pos b.pos) :=
  filterPointsB_sepB hmd bd xs

/-- peaks in different batches never suppress each other: a row that is not reported has a reported
row *of its own batch* that fails the C++ distance test against it -/
theorem batch_filter_suppressor_in_same_batch {md : Nat} (hmd : 0 < md) (bd : List Nat) (xs : List Peak) (n : Nat)
    (hlen : ∀ p ∈ xs, p.pos.length = n) (hbd : ∀ i ∈ bd, i < n) (x : Peak) (hx : x ∈ xs)
    (hdrop : x ∉ filterPointsB md (some bd) xs) :
    ∃ k ∈ filterPointsB md (some bd) xs, (∀ i ∈ bd, x.pos[i]? = k.pos[i]?) ∧ far md x.pos k.pos = false := by
  obtain ⟨k, hk, hf⟩ := (filterPointsB_maximal md (some bd) xs x hx).resolve_left hdrop
  -- the suppressor cannot differ on a batch axis: rows of different batches always pass the test
  have hsame : ∀ i ∈ bd, x.pos[i]? = k.pos[i]? := by
    intro i hi
    have h1 : i < x.pos.length := (hlen x hx).symm ▸ hbd i hi
    have h2 : i < k.pos.length := (hlen k (batch_filter_reports_input_rows md _ xs k hk)).symm ▸ hbd i hi
    rw [List.getElem?_eq_getElem h1, List.getElem?_eq_getElem h2]
    by_contra hne
    exact Bool.false_ne_true (hf.symm.trans
      (farB_diff hmd bd x.pos k.pos i hi h1 h2 fun h => hne (congrArg some h)))
  exact ⟨k, hk, hsame, (farB_same md bd _ _ hsame).symm.trans hf⟩

/-- hypotheses of `batch_filter_suppressor_in_same_batch` on the example below: rows of rank 3, batch axis 0, and
(0,7,9) is handed in but not reported -/
example : (∀ p ∈ ([⟨[0, 7, 7], 0, 9⟩, ⟨[1, 7, 7], 1, 8⟩, ⟨[0, 7, 9], 2, 7⟩] : List Peak), p.pos.length = 3) ∧
    (∀ i ∈ ([0] : List Nat), i < 3) ∧
    (⟨[0, 7, 9], 2, 7⟩ : Peak) ∉ filterPointsB 5 (some [0]) [⟨[0, 7, 7], 0, 9⟩, ⟨[1, 7, 7], 1, 8⟩, ⟨[0, 7, 9], 2, 7⟩] := by
  decide +kernel

/-- the best row is always reported -/
theorem batch_filter_first_kept (md : Nat) (bd : Option (List Nat)) (x : Peak) (rest : List Peak) :
    x ∈ filterPointsB md bd (x :: rest) :=
  List.mem_of_mem_head? (filterPointsB_head md bd x rest)

/-- two batches (axis 0), distance 5: the rows (0,7,7) and (1,7,7) are both reported although they are one voxel
apart, (0,7,9) is suppressed by (0,7,7) of its own batch -/
example : filterPointsB 5 (some [0]) [⟨[0, 7, 7], 0, 9⟩, ⟨[1, 7, 7], 1, 8⟩, ⟨[0, 7, 9], 2, 7⟩]
    = [⟨[0, 7, 7], 0, 9⟩, ⟨[1, 7, 7], 1, 8⟩] := by decide +kernel

/-! ## `_filter_bucket` (the path of `filter_points_indices` for coordinates that are not a `numpy.ndarray`:
reachable on the cupy / jax backends only; on the numpy backend the C++ greedy pass above runs) -/

/-- the reported rows lie in pairwise different buckets -/
theorem filterBucket_distinct_buckets (md : Nat) (coords : List (List Int)) (i j : Nat)
    (hi : i ∈ filterBucket md coords) (hj : j ∈ filterBucket md coords) (hne : i ≠ j) :
    (bucketRows md coords).getD i [] ≠ (bucketRows md coords).getD j [] := by
  intro heq
  unfold filterBucket at hi hj
  have h := firstOcc_distinct hi hj hne
  have li := (mem_firstOcc.mp hi).1
  have lj := (mem_firstOcc.mp hj).1
  rw [bucketFlat, List.length_map] at li lj
  rw [bucketFlat_getD _ i li, bucketFlat_getD _ j lj, heq] at h
  exact h rfl

/-- rows are reported in the order given, the first row always -/
theorem filterBucket_sorted_first (md : Nat) (coords : List (List Int)) :
    (filterBucket md coords).Pairwise (· < ·) ∧ (coords ≠ [] → 0 ∈ filterBucket md coords) := by
  refine ⟨firstOcc_sorted _, fun h => firstOcc_zero fun h0 => h ?_⟩
  rw [← List.length_eq_zero_iff, ← length_bucketFlat_bucketRows md, h0]; rfl

/-- one representative per flattened bucket id: every row has a reported row at or before it with the same id -/
theorem filterBucket_representative (md : Nat) (coords : List (List Int)) (i : Nat) (hi : i < coords.length) :
    ∃ j ∈ filterBucket md coords, j ≤ i ∧
      (bucketFlat (bucketRows md coords)).getD j 0 = (bucketFlat (bucketRows md coords)).getD i 0 :=
  firstOcc_repr _ i ((length_bucketFlat_bucketRows md coords).symm ▸ hi)

example : filterBucket 2 [[0, 0], [1, 1], [4, 0], [5, 1], [0, 5]] = [0, 2, 4] ∧
    bucketRows 2 [[0, 0], [1, 1], [4, 0], [5, 1], [0, 5]] = [[0, 0], [0, 0], [2, 0], [2, 0], [0, 2]] := by decide +kernel

/-- **the bucket filter does not enforce the distance**: 5 and 6 lie in neighbouring buckets of width 3, both are
reported although they are 1 apart (the greedy pass reports rows 0 and 1 only) -/
theorem filterBucket_close_pair_witness :
    filterBucket 3 [[0], [5], [6]] = [0, 1, 2] ∧ d2 [5] [6] = 1 ∧
    (filterPoints 3 [⟨[0], 0, 0⟩, ⟨[5], 1, 0⟩, ⟨[6], 2, 0⟩]).map (·.rot) = [0, 1] := by decide +kernel

/-- **the flattening `Σ bucket_j * (max_j + 1) ^ j` is not injective**: the buckets (0,1) and (2,0) get the same id 2,
so the row (2,0) is dropped although it is alone in its bucket and far from the only other row -/
theorem filterBucket_collision_witness :
    filterBucket 1 [[0, 1], [2, 0]] = [0] ∧ bucketRows 1 [[0, 1], [2, 0]] = [[0, 1], [2, 0]] ∧
    bucketFlat [[0, 1], [2, 0]] = [2, 2] ∧ far 1 [0, 1] [2, 0] = true := by decide +kernel

/-! ## C++ `max_index_by_label` and the representatives `PeakClustering.merge` keeps (DBSCAN's labels are an oracle) -/

/-- every reported pair `(label, row)`: the row carries that label, no row of the label scores higher, and among the
best rows of the label it is the first -/
theorem maxIndexByLabel_best_first_of_label (L S : List Int) (hlen : L.length = S.length) :
    ∀ lj ∈ maxIndexByLabel L S, lj.2 < L.length ∧ L[lj.2]? = some lj.1 ∧
      ∀ (i : Nat) (t u : Int), L[i]? = some lj.1 → S[i]? = some t → S[lj.2]? = some u → t ≤ u ∧ (t = u → lj.2 ≤ i) := by
  intro lj h
  obtain ⟨e, he, rfl⟩ := List.mem_map.mp h
  obtain ⟨p1, p2, p3, p4⟩ := (mibl_final L S hlen).2.1 e he
  refine ⟨p1, p2, ?_⟩
  intro i t u hi ht hu
  cases p3.symm.trans hu
  exact p4 i (List.getElem?_eq_some_iff.mp hi).1 hi t ht

/-- every label that occurs has a representative -/
theorem maxIndexByLabel_complete (L S : List Int) (hlen : L.length = S.length) (i : Nat) (l : Int)
    (hi : L[i]? = some l) : ∃ j, (l, j) ∈ maxIndexByLabel L S := by
  obtain ⟨_, _, hcov⟩ := mibl_final L S hlen
  obtain ⟨e, he, hk⟩ := List.mem_map.mp (hcov i (List.getElem?_eq_some_iff.mp hi).1 l hi)
  exact ⟨e.2.2, List.mem_map.mpr ⟨e, he, hk ▸ rfl⟩⟩

/-- exactly one representative per label -/
theorem maxIndexByLabel_one_per_label (L S : List Int) (hlen : L.length = S.length) :
    ((maxIndexByLabel L S).map (·.1)).Nodup := by
  obtain ⟨hnd, _, _⟩ := mibl_final L S hlen
  rw [maxIndexByLabel, List.map_map]
  exact hnd

example : maxIndexByLabel [0, 1, -1, 1, 0] [1, 5, 2, 5, 3] = [(0, 4), (1, 1), (-1, 2)] := by decide +kernel

/-- the rows `PeakClustering.merge` keeps: exactly the representatives of the labels other than the noise label,
in row order -/
theorem clusterKeep_iff (L S : List Int) (i : Nat) :
    i ∈ clusterKeep L S ↔ i < L.length ∧ ∃ l, l ≠ -1 ∧ (l, i) ∈ maxIndexByLabel L S := by
  unfold clusterKeep
  refine List.mem_filter.trans (and_congr List.mem_range (List.contains_iff_mem.trans (List.mem_map.trans ?_)))
  constructor
  · rintro ⟨e, he, rfl⟩
    obtain ⟨he1, he2⟩ := List.mem_filter.mp he
    exact ⟨e.1, bne_iff_ne.mp he2, he1⟩
  · rintro ⟨l, hl, hm⟩
    exact ⟨(l, i), List.mem_filter.mpr ⟨hm, bne_iff_ne.mpr hl⟩, rfl⟩

/-- no noise row is kept, a kept row is the first best row of its cluster, and every cluster keeps a row -/
theorem clusterKeep_spec (L S : List Int) (hlen : L.length = S.length) :
    (∀ i ∈ clusterKeep L S, ∃ l, l ≠ -1 ∧ L[i]? = some l ∧
      ∀ (k : Nat) (t u : Int), L[k]? = some l → S[k]? = some t → S[i]? = some u → t ≤ u ∧ (t = u → i ≤ k)) ∧
    (∀ (k : Nat) (l : Int), L[k]? = some l → l ≠ -1 → ∃ i ∈ clusterKeep L S, L[i]? = some l) ∧
    (clusterKeep L S).Pairwise (· < ·) := by
  refine ⟨?_, ?_, ?_⟩
  · intro i hi
    obtain ⟨_, l, hl, hm⟩ := (clusterKeep_iff L S i).mp hi
    obtain ⟨_, h2, h3⟩ := maxIndexByLabel_best_first_of_label L S hlen _ hm
    exact ⟨l, hl, h2, h3⟩
  · intro k l hk hl
    obtain ⟨j, hj⟩ := maxIndexByLabel_complete L S hlen k l hk
    obtain ⟨h1, h2, _⟩ := maxIndexByLabel_best_first_of_label L S hlen _ hj
    exact ⟨j, (clusterKeep_iff L S j).mpr ⟨h1, l, hl, hj⟩, h2⟩
  · unfold clusterKeep
    exact List.Pairwise.filter _ List.pairwise_lt_range

example : clusterKeep [0, 1, -1, 1, 0] [1, 5, 2, 5, 3] = [1, 4] := by decide +kernel

/-- **today's `PeakClustering.merge` ranks and reports `candidate[2]`, the third coordinate, not the score**: of two
rows of one cluster with scores 10 and 20 at the same voxel it keeps the first and reports the score 3 (ranking by the
scores keeps the second with its score 20) -/
theorem cluster_merge_third_coordinate_current_defect :
    clusterMerge [⟨[1, 2, 3], 0, 10⟩, ⟨[1, 2, 3], 1, 20⟩] [0, 0] = [⟨[1, 2, 3], 0, 3⟩] ∧
    clusterMergeByScore [⟨[1, 2, 3], 0, 10⟩, ⟨[1, 2, 3], 1, 20⟩] [0, 0] = [⟨[1, 2, 3], 1, 20⟩] := by decide +kernel

/-- ranking by the scores: every reported row is one of the rows handed in, unchanged, and not a noise row -/
theorem clusterMergeByScore_mem (peaks : List Peak) (labels : List Int) :
    ∀ p ∈ clusterMergeByScore peaks labels, ∃ i ∈ clusterKeep labels (peaks.map (·.score)), peaks[i]? = some p := by
  intro p hp
  unfold clusterMergeByScore at hp
  obtain ⟨i, hi, h⟩ := List.mem_filterMap.mp hp
  exact ⟨i, hi, h⟩

example : clusterMergeByScore [⟨[1, 2, 3], 0, 10⟩, ⟨[4, 4, 4], 2, 30⟩, ⟨[1, 2, 3], 1, 20⟩] [0, -1, 0]
    = [⟨[1, 2, 3], 1, 20⟩] := by decide +kernel

/-! ## `PeakCaller._batchify`: the subsets `__call__` hands to `call_peaks` and the offsets it adds back -/

/-- without `batch_dims`: one subset, the whole array, offset zero -/
theorem batchify_none (shape : List Nat) :
    batchify shape none = [shape.map (fun _ => none)] ∧
    selShape shape (shape.map (fun _ => none)) = shape ∧
    selOffset (shape.map (fun _ => (none : Option Nat))) = shape.map (fun _ => 0) := by
  refine ⟨rfl, ?_, by simp [selOffset]⟩
  induction shape with
  | nil => rfl
  | cons s ss ih => simp [selShape, ih]

/-- every yielded subset addresses every axis -/
theorem batchify_rank (shape : List Nat) (bd : Option (List Nat)) :
    ∀ sel ∈ batchify shape bd, sel.length = shape.length := by
  intro sel h
  cases bd with
  | none => simp only [batchify, List.mem_singleton] at h; simp [h]
  | some b =>
    simp only [batchify, List.mem_map] at h
    obtain ⟨cur, _, rfl⟩ := h
    exact batchAxes_length b cur _ 0 0

/-- the number of `(subset, offset)` pairs is the product of the batch extents (any `batch_dims`) -/
theorem batchify_count (shape bd : List Nat) :
    (batchify shape (some bd)).length = (bd.map (fun d => shape.getD d 0)).foldr (· * ·) 1 := by
  rw [batchify, List.length_map, prodLists_length, List.map_map]
  exact congrArg _ (List.map_congr_left fun d _ => List.length_range)

example : (batchify [2, 3, 2] (some [0, 2])).length = 4 := by decide +kernel

/-- ascending `batch_dims`: the yielded subsets are exactly "one index `< extent` on every batch axis, `slice(None)`
on every other axis" -/
theorem batchify_subsets_explicit (shape bd : List Nat) (hs : bd.Pairwise (· < ·)) (sel : List (Option Nat)) :
    sel ∈ batchify shape (some bd) ↔ ∃ cur : List Nat,
      List.Forall₂ (fun x d => x < shape.getD d 0) cur bd ∧
      sel = (List.range shape.length).map (fun a =>
        if bd.contains a then some (cur.getD (bd.idxOf a) 0) else none) := mem_batchify hs

/-- **the batches cover the array**: every voxel lies in a yielded subset -/
theorem batchify_covers (shape bd : List Nat) (hs : bd.Pairwise (· < ·)) (hin : ∀ d ∈ bd, d < shape.length)
    (idx : List Nat) (h : inShape shape idx = true) :
    ∃ sel ∈ batchify shape (some bd), inSel sel idx = true := by
  have hl := inShape_length h
  have hget : ∀ d (hd : d < shape.length), idx.getD d 0 = idx[d]'(hl ▸ hd) := fun d hd =>
    (List.getElem_eq_getD 0).symm
  refine ⟨_, (mem_batchify hs).mpr ⟨bd.map (fun d => idx.getD d 0),
    forall2_map_self (R := fun x d => x < shape.getD d 0) _ bd fun d hd => ?_, rfl⟩,
    (inSel_iff _ _).mpr ⟨?_, fun a v hv => ?_⟩⟩
  · have hd := hin d hd
    rw [hget d hd, ← List.getElem_eq_getD (h := hd) 0]
    exact inShape_getElem shape idx h d hd (hl ▸ hd)
  · rw [List.length_map, List.length_range, hl]
  · by_cases ha : a < shape.length
    · rw [List.getElem?_map, List.getElem?_range ha, Option.map_some] at hv
      by_cases hc : bd.contains a = true
      · rw [if_pos hc, getD_map_idxOf _ bd a (List.contains_iff_mem.mp hc), hget a ha] at hv
        cases hv
        exact List.getElem?_eq_getElem _
      · rw [if_neg hc] at hv; cases hv
    · rw [List.getElem?_eq_none (by rw [List.length_map, List.length_range]; exact Nat.le_of_not_lt ha)] at hv
      cases hv

/-- **the batches are disjoint**: a voxel lies in one subset only -/
theorem batchify_disjoint (shape bd : List Nat) (hs : bd.Pairwise (· < ·)) (idx : List Nat)
    (s1 s2 : List (Option Nat)) (h1 : s1 ∈ batchify shape (some bd)) (h2 : s2 ∈ batchify shape (some bd))
    (i1 : inSel s1 idx = true) (i2 : inSel s2 idx = true) : s1 = s2 := by
  obtain ⟨c1, _, rfl⟩ := (mem_batchify hs).mp h1
  obtain ⟨c2, _, rfl⟩ := (mem_batchify hs).mp h2
  refine List.map_congr_left fun a ha => ?_
  by_cases hc : bd.contains a = true
  · have hsel : ∀ c : List Nat, ((List.range shape.length).map fun a =>
        if bd.contains a then some (c.getD (bd.idxOf a) 0) else none)[a]? = some (some (c.getD (bd.idxOf a) 0)) :=
      fun c => by rw [List.getElem?_map, List.getElem?_range (List.mem_range.mp ha), Option.map_some, if_pos hc]
    have v1 := ((inSel_iff _ idx).mp i1).2 a _ (hsel c1)
    have v2 := ((inSel_iff _ idx).mp i2).2 a _ (hsel c2)
    rw [if_pos hc, if_pos hc]
    exact congrArg some (Option.some.inj (v1.symm.trans v2))
  · rw [if_neg hc, if_neg hc]

/-- **the offset restores global coordinates**: a position of `scores[subset]` plus the yielded offset is a position of
`scores` that lies in the subset (any `batch_dims`) -/
theorem batchify_offset_restores_global (shape : List Nat) (bd : Option (List Nat)) (sel : List (Option Nat))
    (hsel : sel ∈ batchify shape bd) (loc : List Nat) (hloc : inShape (selShape shape sel) loc = true) :
    inShape shape (List.zipWith (· + ·) loc (selOffset sel)) = true ∧
    inSel sel (List.zipWith (· + ·) loc (selOffset sel)) = true :=
  selOffset_restores shape sel loc (batchify_rank shape bd sel hsel) hloc

/-- and every position of the subset is reached that way -/
theorem batchify_offset_reaches_subset (shape : List Nat) (sel : List (Option Nat)) (idx : List Nat)
    (h : inShape shape idx = true) (hs : inSel sel idx = true) :
    ∃ loc, inShape (selShape shape sel) loc = true ∧ List.zipWith (· + ·) loc (selOffset sel) = idx := by
  fun_induction inShape shape idx generalizing sel with
  | case1 =>
    cases sel with
    | nil => exact ⟨[], rfl, rfl⟩
    | cons o _ => cases o <;> cases hs
  | case2 s ss i is ih =>
    obtain ⟨h0, hr⟩ := inShape_cons.mp h
    cases sel with
    | nil => cases hs
    | cons o r =>
      cases o with
      | none =>
        obtain ⟨loc, l1, l2⟩ := ih r hr hs
        exact ⟨i :: loc, inShape_cons.mpr ⟨h0, l1⟩, congrArg (i :: ·) l2⟩
      | some v =>
        rw [inSel, Bool.and_eq_true, decide_eq_true_eq] at hs
        obtain ⟨loc, l1, l2⟩ := ih r hr hs.2
        refine ⟨0 :: loc, inShape_cons.mpr ⟨?_, l1⟩, ?_⟩
        · show 0 < if v < s then 1 else 0
          rw [if_pos (hs.1 ▸ h0)]; exact Nat.one_pos
        · show (0 + v) :: List.zipWith (· + ·) loc (selOffset r) = i :: is
          rw [l2, Nat.zero_add, hs.1]
  | case3 => cases h

/-- a 2×3×2 array with batch axes 0 and 2: four subsets of shape 1×3×1; voxel (1,2,0) lies in the third one, at
local position (0,2,0) + offset (1,0,0) -/
example : batchify [2, 3, 2] (some [0, 2]) =
    [[some 0, none, some 0], [some 0, none, some 1], [some 1, none, some 0], [some 1, none, some 1]] ∧
    selShape [2, 3, 2] [some 1, none, some 0] = [1, 3, 1] ∧ selOffset [some 1, none, some 0] = [1, 0, 0] ∧
    inSel [some 1, none, some 0] [1, 2, 0] = true ∧
    List.zipWith (· + ·) [0, 2, 0] (selOffset [some 1, none, some 0]) = [1, 2, 0] := by decide +kernel
example : ([0, 2] : List Nat).Pairwise (· < ·) ∧ (∀ d ∈ ([0, 2] : List Nat), d < [2, 3, 2].length) ∧
    inShape [2, 3, 2] [1, 2, 0] = true := by decide +kernel
/-- a batch axis of extent 1: one subset, the whole array -/
example : batchify [1, 3] (some [0]) = [[some 0, none]] ∧ selShape [1, 3] [some 0, none] = [1, 3] := by decide +kernel

/-- **`batch_dims` that are not ascending**: the indices are enumerated in `batch_dims` order but assigned in axis
order, so with shape 2×3 and `batch_dims = (1, 0)` axis 0 is sliced at 0, 1, 2 and axis 1 at 0, 1 only: the voxel (0,2)
lies in no subset and the last two subsets are empty -/
theorem batchify_descending_batch_dims_current_defect :
    (∀ sel ∈ batchify [2, 3] (some [1, 0]), inSel sel [0, 2] = false) ∧ inShape [2, 3] [0, 2] = true ∧
    [some 2, some 0] ∈ batchify [2, 3] (some [1, 0]) ∧ selShape [2, 3] [some 2, some 0] = [0, 1] := by decide +kernel

/-! ## callers built with `batch_dims` (`runB`, `updateB`, `mergeB`) -/

/-- `_update` with `batch_dims` reports rows it was given (running list or new candidates), unchanged -/
theorem batched_update_reports_given_rows (cfg : Cfg) (bd : List Nat) (st cands : List Peak) :
    ∀ p ∈ updateB cfg bd st cands, p ∈ st ∨ p ∈ cands := fun _ h => updateB_mem h

/-- **any history of submissions to a caller with `batch_dims`**: two reported peaks of the same batch (equal on every
batch axis) are strictly farther apart than the minimum distance -/
theorem batched_history_same_batch_far (cfg : Cfg) (strat : Strategy) (bd : List Nat) (subs : List Sub)
    (hmd : 0 < cfg.minDist) :
    (runB cfg strat bd subs).Pairwise (fun a b =>
      (∀ i ∈ bd, a.pos[i]? = b.pos[i]?) → (cfg.minDist : Int) * (cfg.minDist : Int) < d2 a.pos b.pos) :=
  runB_aux_sepB hmd strat bd subs [] List.Pairwise.nil

/-- **any history, every strategy with a deterministic model**: a reported peak is an in-bounds translation of one of
the submitted arrays (global coordinates: the batch offset has been added back), carries that array's value there and
that submission's rotation, lies in the score window, and keeps the margin on every non-batch axis -/
theorem batched_history_submitted (cfg : Cfg) (strat : Strategy) (hs : strat ≠ .scipy) (bd : List Nat)
    (subs : List Sub) (ho : ∀ s ∈ subs, s.orc.callTopk = none) :
    ∀ p ∈ runB cfg strat bd subs, ∃ s ∈ subs, ∃ c : List Nat,
      inShape s.scores.shape c = true ∧ p.pos = c.map Int.ofNat ∧ p.rot = s.rot ∧ p.score = s.scores.getD c 0 ∧
      inWindow cfg p.score = true ∧
      (0 < cfg.minBoundary → ∀ i (h1 : i < s.scores.shape.length) (h2 : i < c.length), bd.contains i = false →
        cfg.minBoundary ≤ c[i] ∧ c[i] + cfg.minBoundary < s.scores.shape[i]) := by
  intro p hp
  rcases runB_aux_mem hs subs [] ho p hp with h | ⟨s, hs', c, h1, h2, h3, h4, h5, h6⟩
  · cases h
  · exact ⟨s, hs', c, h1, h2, h3, h4, h5, fun hmb i hi1 hi2 hb =>
      inMarginB_spec _ bd 0 _ c (h6 hmb) i hi1 hi2 ((Nat.zero_add i).symm ▸ hb)⟩

/-- two batches along axis 0 of a 2×5 array, `min_distance = 2`, up to 3 peaks per batch: each row reports its own
separated voxels ((0,2)=7 is suppressed by (0,4)=8 of its row); (0,4)=8 and (1,4)=9 are one voxel apart and both reported -/
def exBatch : Arr Int := ⟨[2, 5], #[5, 1, 7, 0, 8, 6, 2, 3, 4, 9]⟩
example : runB ⟨3, 2, 0, none, none⟩ .sort [0] [⟨exBatch, 1, {}⟩]
    = [⟨[0, 4], 1, 8⟩, ⟨[0, 0], 1, 5⟩, ⟨[1, 4], 1, 9⟩, ⟨[1, 0], 1, 6⟩] := by decide +kernel
example : runB ⟨2, 2, 0, none, none⟩ .maxFilter [0] [⟨exBatch, 1, {}⟩]
    = runB ⟨2, 2, 0, none, none⟩ .sort [0] [⟨exBatch, 1, {}⟩] := by decide +kernel
example : (⟨exBatch, 1, {}⟩ : Sub).orc.callTopk = none := rfl
/-- with a margin of 1 the batch axis (extent 2) is exempt: columns 1..3 remain -/
example : runB ⟨5, 2, 1, none, none⟩ .sort [0] [⟨exBatch, 1, {}⟩] = [⟨[0, 2], 1, 7⟩, ⟨[1, 3], 1, 4⟩] := by decide +kernel
/-- the batch id of `_update` uses the flattening of `_filter_bucket`: the batches (0,1) and (2,0) of two batch axes
share the id 2, so with `number_of_peaks = 1` only the better of the two is kept -/
example : batchIds [0, 1] [⟨[0, 1, 0], 0, 5⟩, ⟨[2, 0, 0], 0, 9⟩] = [2, 2] ∧
    updateB ⟨1, 1, 0, none, none⟩ [0, 1] [] [⟨[0, 1, 0], 0, 5⟩, ⟨[2, 0, 0], 0, 9⟩] = [⟨[2, 0, 0], 0, 9⟩] := by decide +kernel

/-- `PeakCaller.merge(..., batch_dims, offset)`: every merged peak is a peak of one of the parts moved by the offset -/
theorem batched_merge_from_parts (cfg : Cfg) (bd : List Nat) (off : Option (List Int)) (parts : List (Option (List Peak))) :
    ∀ p ∈ mergeB cfg bd off [] parts, ∃ c, some c ∈ parts ∧ ∃ q ∈ c,
      p = shiftPeak off q ∧ p.score = q.score ∧ p.rot = q.rot := by
  intro p hp
  rcases mergeB_mem parts [] p hp with h | ⟨c, hc, q, hq, rfl⟩
  · cases h
  · exact ⟨c, hc, q, hq, rfl, shiftPeak_score _ _, shiftPeak_rot _ _⟩

/-- merged peaks of one batch are strictly farther apart than the minimum distance -/
theorem batched_merge_same_batch_far (cfg : Cfg) (bd : List Nat) (off : Option (List Int))
    (parts : List (Option (List Peak))) (hmd : 0 < cfg.minDist) :
    (mergeB cfg bd off [] parts).Pairwise (fun a b =>
      (∀ i ∈ bd, a.pos[i]? = b.pos[i]?) → (cfg.minDist : Int) * (cfg.minDist : Int) < d2 a.pos b.pos) :=
  mergeB_sepB hmd bd off parts [] List.Pairwise.nil

example : mergeB ⟨3, 2, 0, none, none⟩ [0] (some [10, 20]) []
    [some [⟨[0, 4], 1, 8⟩, ⟨[1, 4], 1, 9⟩], none, some [⟨[0, 3], 2, 7⟩, ⟨[1, 0], 2, 6⟩]]
    = [⟨[10, 24], 1, 8⟩, ⟨[11, 24], 1, 9⟩, ⟨[11, 20], 2, 6⟩] := by decide +kernel

/-! ## more on `filter_points_indices` without batch axes, `_update`, and the tile offset of `merge` -/

/-- `filter_points_indices` returns the candidates it keeps in their original (score) order -/
theorem filterPoints_sublist (md : Nat) (xs : List Peak) : (filterPoints md xs).Sublist xs :=
  filterPointsB_none md xs ▸ filterPointsB_sublist md none xs

/-- candidates handed over by descending score are reported by descending score -/
theorem filterPoints_sorted_desc (md : Nat) (xs : List Peak)
    (h : xs.Pairwise (fun a b => b.score ≤ a.score)) :
    (filterPoints md xs).Pairwise (fun a b => b.score ≤ a.score) :=
  List.Pairwise.sublist (filterPoints_sublist md xs) h

/-- `min_distance = 0` switches the filter off: every candidate is kept -/
theorem filterPoints_zero (xs : List Peak) : filterPoints 0 xs = xs := if_pos rfl

/-- the best candidate is not only kept, it is reported first -/
theorem filterPoints_head_first (md : Nat) (x : Peak) (xs : List Peak) :
    (filterPoints md (x :: xs)).head? = some x :=
  filterPointsB_none md (x :: xs) ▸ filterPointsB_head md none x xs

/-- maximality of `filter_points_indices`: every rejected candidate lies within the minimum distance of a reported one -/
theorem filterPoints_maximal (md : Nat) (xs : List Peak) (x : Peak) (hx : x ∈ xs) :
    x ∈ filterPoints md xs ∨ ∃ k ∈ filterPoints md xs, far md x.pos k.pos = false :=
  filterPointsB_none md xs ▸ filterPointsB_maximal md none xs x hx

/-- filtering is idempotent: filtering a reported list again changes nothing -/
theorem filterPoints_idempotent (md : Nat) (xs : List Peak) :
    filterPoints md (filterPoints md xs) = filterPoints md xs := by
  have := filterPointsB_idempotent md none xs
  rwa [filterPointsB_none, filterPointsB_none] at this

/-- monotone in the candidate list: the result for a prefix of the candidates is a prefix of the result -/
theorem filterPoints_prefix_mono (md : Nat) (a b : List Peak) (h : a <+: b) :
    filterPoints md a <+: filterPoints md b :=
  filterPointsB_none md a ▸ filterPointsB_none md b ▸ filterPointsB_prefix_mono md none a b h

/-- `_update` looks at `min_distance` and `number_of_peaks` only, and is monotone in the latter -/
theorem update_prefix_of_le {cfg cfg' : Cfg} (hmd : cfg.minDist = cfg'.minDist) (hn : cfg.nPeaks ≤ cfg'.nPeaks)
    (st cands : List Peak) : update cfg st cands none <+: update cfg' st cands none := by
  unfold update
  rw [hmd]
  apply filterPoints_prefix_mono
  apply List.IsPrefix.filterMap
  exact List.take_prefix_take_left (by omega)

/-- monotone in `number_of_peaks` (deterministic top-k): the peaks kept for a smaller limit are a prefix of
those kept for a larger one -/
theorem update_numPeaks_prefix (n n' md mb : Nat) (lo hi : Option Int) (hn : n ≤ n') (st cands : List Peak) :
    update ⟨n, md, mb, lo, hi⟩ st cands none <+: update ⟨n', md, mb, lo, hi⟩ st cands none :=
  update_prefix_of_le (cfg := ⟨n, md, mb, lo, hi⟩) (cfg' := ⟨n', md, mb, lo, hi⟩) rfl hn st cands

/-- with a positive minimum distance the reported translations are pairwise distinct -/
theorem filterPoints_distinct_positions {md : Nat} (hmd : 0 < md) (xs : List Peak) :
    (filterPoints md xs).Pairwise (fun a b => a.pos ≠ b.pos) :=
  (filterPoints_pairwise hmd xs).imp (by
    intro a b h he
    unfold FarP at h
    rw [he, far_irrefl] at h
    exact Bool.noConfusion h)

theorem d2_shift (o : List Int) : ∀ (p q : List Int), p.length = o.length → q.length = o.length →
    d2 (List.zipWith (· + ·) p o) (List.zipWith (· + ·) q o) = d2 p q := by
  induction o with
  | nil => intro p q hp hq; cases List.length_eq_zero_iff.mp hp; cases List.length_eq_zero_iff.mp hq; rfl
  | cons c o ih =>
    intro p q hp hq
    cases p with
    | nil => cases hp
    | cons a p =>
      cases q with
      | nil => cases hq
      | cons b q =>
        rw [List.zipWith_cons_cons, List.zipWith_cons_cons, d2, d2, ih p q (Nat.succ.inj hp) (Nat.succ.inj hq),
          Int.add_sub_add_right]

/-- `merge(offset=…)`: shifting two peaks by the tile offset preserves the distance test between them -/
theorem shiftPeak_preserves_far (md : Nat) (o : List Int) (a b : Peak)
    (ha : a.pos.length = o.length) (hb : b.pos.length = o.length) :
    far md (shiftPeak (some o) a).pos (shiftPeak (some o) b).pos = far md a.pos b.pos := by
  simp only [shiftPeak, far, d2_shift o _ _ ha hb]

example : (⟨[1, 2], 0, 5⟩ : Peak).pos.length = ([10, 20] : List Int).length := rfl

/-- whatever the history, with a positive minimum distance no translation is reported twice -/
theorem peaks_distinct_positions (cfg : Cfg) (strat : Strategy) (subs : List Sub) (hmd : 0 < cfg.minDist) :
    (run cfg strat subs).Pairwise (fun a b => a.pos ≠ b.pos) :=
  (peaks_pairwise_far cfg strat subs hmd).imp (by
    intro a b h he
    rw [he, d2_self] at h
    have h1 : (0 : Int) < (cfg.minDist : Int) := Int.natCast_pos.mpr hmd
    exact Int.lt_irrefl 0 (Int.lt_trans (Int.mul_pos h1 h1) h))

/-- a tile of extent `tile` placed at offset `o` lies inside the full volume `full` -/
def tileFits : List Nat → List Nat → List Int → Prop
  | t :: ts, f :: fs, o :: os => 0 ≤ o ∧ o + (t : Int) ≤ (f : Int) ∧ tileFits ts fs os
  | [], [], [] => True
  | _, _, _ => False

/-- `merge(offset=…)`: a peak inside its tile, shifted by the tile offset, lies inside the full volume -/
theorem shift_inBounds (tile : List Nat) : ∀ (full : List Nat) (o p : List Int), tileFits tile full o →
    inBoundsI tile p = true → inBoundsI full (List.zipWith (· + ·) p o) = true := by
  intro full o p hf hp
  fun_induction tileFits tile full o generalizing p with
  | case1 t ts f fs o os ih =>
    cases p with
    | nil => cases hp
    | cons p ps =>
      obtain ⟨hf1, hf2, hf3⟩ := hf
      rw [inBoundsI, Bool.and_eq_true, Bool.and_eq_true, decide_eq_true_eq, decide_eq_true_eq] at hp
      rw [List.zipWith_cons_cons, inBoundsI, Bool.and_eq_true, Bool.and_eq_true, decide_eq_true_eq,
        decide_eq_true_eq]
      exact ⟨⟨Int.add_nonneg hp.1.1 hf1,
        Int.lt_of_lt_of_le (Int.add_lt_add_right hp.1.2 o) (Int.add_comm o t ▸ hf2)⟩, ih ps hf3 hp.2⟩
  | case2 =>
    cases p with
    | nil => rfl
    | cons _ _ => cases hp
  | case3 => cases hf

example : tileFits [2, 5] [10, 30] [8, 20] ∧ inBoundsI [2, 5] [1, 4] = true :=
  ⟨⟨by decide, by decide, by decide, by decide, trivial⟩, by decide⟩

/-- `merge(offset=…)`: a pairwise separated list stays pairwise separated after the common shift -/
theorem shift_preserves_pairwise_far (md : Nat) (o : List Int) (l : List Peak)
    (hl : ∀ p ∈ l, p.pos.length = o.length) (h : l.Pairwise (FarP md)) :
    (l.map (shiftPeak (some o))).Pairwise (FarP md) := by
  rw [List.pairwise_map]
  exact List.Pairwise.imp_of_mem (by
    intro a b ha hb hab
    unfold FarP
    rw [shiftPeak_preserves_far md o a b (hl a ha) (hl b hb)]
    exact hab) h

/-- `_update` is maximal: a candidate selected by the top-k step that is not reported lies within the
minimum distance of a reported peak -/
theorem update_maximal (cfg : Cfg) (st cands : List Peak) (o : Option (List Nat)) (i : Nat) (x : Peak)
    (hi : i ∈ selectTopk ((st ++ cands).map (·.score)) (min (st ++ cands).length cfg.nPeaks) o)
    (hx : (st ++ cands)[i]? = some x) :
    x ∈ update cfg st cands o ∨ ∃ k ∈ update cfg st cands o, far cfg.minDist x.pos k.pos = false := by
  unfold update
  apply filterPoints_maximal
  exact List.mem_filterMap.mpr ⟨i, hi, hx⟩

example : (0 : Nat) ∈ selectTopk ((([] : List Peak) ++ [(⟨[0], 0, 1⟩ : Peak)]).map Peak.score) (min 1 1) none := by decide +kernel

/-- with the deterministic top-k, `_update` reports its peaks by descending score -/
theorem update_sorted_desc (cfg : Cfg) (st cands : List Peak) :
    (update cfg st cands none).Pairwise (fun a b => b.score ≤ a.score) := by
  unfold update
  apply filterPoints_sorted_desc
  rw [List.pairwise_filterMap]
  have hd : Desc (fun i => ((st ++ cands).map (·.score)).getD i 0)
      (selectTopk ((st ++ cands).map (·.score)) (min (st ++ cands).length cfg.nPeaks) none) := by
    unfold selectTopk topkSort sortDesc
    exact List.Pairwise.sublist (List.take_sublist _ _) (sortDescL_desc _ _)
  refine hd.imp ?_
  intro i j hij b hb b' hb'
  obtain ⟨hi, rfl⟩ := List.getElem?_eq_some_iff.mp hb
  obtain ⟨hj, rfl⟩ := List.getElem?_eq_some_iff.mp hb'
  beta_reduce at hij
  rw [getD_map_of_lt _ _ i _ hi, getD_map_of_lt _ _ j _ hj] at hij
  exact hij

/-! ## concrete runs on which the hypotheses of the theorems above hold -/

/-- a 2×5 array, two submissions, `min_distance = 1`, at most 3 peaks -/
def exCfg : Cfg := ⟨3, 1, 0, none, none⟩
def exA : Arr Int := ⟨[2, 5], #[5, 1, 7, 0, 2, 9, 3, 4, 1, 0]⟩
def exB : Arr Int := ⟨[2, 5], #[-1, -2, -3, -4, -5, -6, -7, -8, 6, 8]⟩
def exSubs : List Sub := [⟨exA, 1, {}⟩, ⟨exB, 2, {}⟩]

example : run exCfg .sort exSubs = [⟨[1, 0], 1, 9⟩, ⟨[1, 4], 2, 8⟩, ⟨[0, 2], 1, 7⟩] := by decide +kernel
example : run exCfg .maxFilter exSubs = run exCfg .sort exSubs := by decide +kernel
example : run exCfg .recursive exSubs = run exCfg .sort exSubs := by decide +kernel
example : run exCfg .fast exSubs = run exCfg .sort exSubs := by decide +kernel
example : WF exA ∧ WF exB := ⟨⟨by decide, by decide⟩, ⟨by decide, by decide⟩⟩
example : HistOk exCfg .sort [] exSubs ∧ ∀ s ∈ exSubs, MaxOrcOk exCfg .sort s :=
  contracts_hold_without_oracles exCfg .sort (by decide) exSubs (by decide)
/-- the separation really removes something: (0,0)=5 is the third best of the first array but touches (1,0)=9 -/
example : run exCfg .sort [⟨exA, 1, {}⟩] = [⟨[1, 0], 1, 9⟩, ⟨[0, 2], 1, 7⟩] := by decide +kernel
example : isTopK [5, 1, 7, 0, 2, 9, 3, 4, 1, 0] 3 [5, 2, 0] = true := by decide +kernel
example : callFast 1 exA none = [[1, 0], [0, 2], [0, 0], [0, 4]] := by decide +kernel
example : merge exCfg (some [10, 20]) [] [(some (run exCfg .sort exSubs), none), (none, none)]
    = [⟨[11, 20], 1, 9⟩, ⟨[11, 24], 2, 8⟩, ⟨[10, 22], 1, 7⟩] := by decide +kernel
/-- `same` mode, target 5, template 3, no Fourier padding: fast = conv = 5, shift −1 -/
example : AxOk ⟨5, 5, 5, -1⟩ := ⟨by decide, by decide, by decide, by decide⟩
example : ([0, 1, 2, 3, 4] : List Int).map (fun p => ppAxis true ⟨5, 5, 5, -1⟩ p) = [some 4, some 0, some 1, some 2, some 3] := by decide +kernel
example : postprocess true [⟨8, 7, 5, 0⟩] [⟨[0], 1, 3⟩, ⟨[1], 1, 4⟩, ⟨[5], 1, 2⟩, ⟨[6], 1, 9⟩]
    = [⟨[0], 1, 4⟩, ⟨[4], 1, 2⟩] := by decide +kernel

end Pm.C05
