import PytmeModel.Model.C06
import PytmeModel.Proofs.C06
import PytmeModel.Proofs.C06Linear
import PytmeModel.Proofs.C06LinearMoment
import PytmeModel.Proofs.C06Examples
import Mathlib.Tactic.Ring
import Mathlib.Tactic.Linarith
import Mathlib.Tactic.NormNum
import Mathlib.Algebra.Order.BigOperators.Group.Finset
import Mathlib.Data.Int.Interval

/-! # C06 — rigid transforms move data forward about the centre, exactly on the grid group -/
namespace Pm.C06
open Finset

/-- **matrix = pull-back.**  Feeding the matrix of `_rigid_transform_matrix` to a resampler with scipy's
coordinate contract reads output voxel `o` from `R⁻¹(o − c) + c − t` — any dimension, any centre
(geometric or centre of mass), any matrix. -/
theorem matrix_eq_pullback {K : Type} [Field K] {d : Nat} (rinv : Mat d K) (t c o : Vec d K) :
    affineSrc (rigidMatrix rinv (some t) (some c)) o = pullback rinv t c o := by
  funext i
  rw [rigidMatrix_normalisation_noop, rigidMatrixRaw_eq_aff, affineSrc_aff]
  simp only [pullback, matVec_sub]
  ring

/-- without a translation / without a centre the same holds with `t = 0` resp. `c = 0` -/
theorem matrix_eq_pullback_optional {K : Type} [Field K] {d : Nat} (rinv : Mat d K) (t c : Option (Vec d K))
    (o : Vec d K) :
    affineSrc (rigidMatrix rinv t c) o = pullback rinv (t.getD (fun _ => 0)) (c.getD (fun _ => 0)) o := by
  -- a missing translation or centre multiplies by `transMat 0 = aff 1 0`, the identity
  have key : rigidMatrixRaw rinv t c =
      rigidMatrixRaw rinv (some (t.getD (fun _ => 0))) (some (c.getD (fun _ => 0))) := by
    cases t <;> cases c <;>
      simp only [rigidMatrixRaw, Option.getD, neg_zero, transMat_eq_aff, ← ident_eq_aff, matMul_ident_right]
  rw [← matrix_eq_pullback, rigidMatrix, rigidMatrix, key]

/-- the pull-back is the inverse of the forward map `x ↦ R(x + t − c) + c`: the value found at output
voxel `forward x` is the one read at `x`.  (`t = 0`: `x ↦ R(x − c) + c`; `R = 1`: `x ↦ x + t`.) -/
theorem pullback_forward {α : Type} [CommRing α] {d : Nat} (R rinv : Mat d α) (t c x : Vec d α)
    (hinv : matMul rinv R = ident d) : pullback rinv t c (forward R t c x) = x := by
  funext i
  simp only [pullback, forward, add_sub_cancel_right, matVec_cancel hinv, sub_add_cancel]

theorem forward_pullback {α : Type} [CommRing α] {d : Nat} (R rinv : Mat d α) (t c o : Vec d α)
    (hinv : matMul R rinv = ident d) : forward R t c (pullback rinv t c o) = o := by
  funext i
  simp only [pullback, forward, sub_add_cancel, add_sub_cancel_right, matVec_cancel hinv]

/-- with `t = 0` the forward map is literally `R(x − c) + c`, with `R = 1` it is `x + t` -/
theorem forward_rotation_only {α : Type} [CommRing α] {d : Nat} (R : Mat d α) (c x : Vec d α) (i : Fin d) :
    forward R (fun _ => 0) c x i = matVec R (fun j => x j - c j) i + c i := by
  simp [forward]

theorem forward_translation_only {α : Type} [CommRing α] {d : Nat} (t c x : Vec d α) (i : Fin d) :
    forward (ident d) t c x i = x i + t i := by
  simp only [forward, matVec_ident]; ring

/-- the doubled integer pull-back used for the grid group is twice the real pull-back about the
geometric centre `c = (n − 1)/2` -/
theorem pull2_eq_twice_pullback {K : Type} [Field K] [CharZero K] {d : Nat} (n : Fin d → Nat) (rinv : Mat d Int)
    (t o : Vec d Int) (i : Fin d) :
    ((pull2 n rinv t o i : Int) : K) =
      2 * pullback (fun a b => ((rinv a b : Int) : K)) (fun j => (t j : K)) (fun j => ((n j : K) - 1) / 2)
        (fun j => (o j : K)) i := by
  rw [pull2, pullback, Int.cast_sub, Int.cast_add, cast_matVec, mul_sub, mul_add, ← matVec_smul]
  simp only [Int.cast_sub, Int.cast_mul, Int.cast_natCast, Int.cast_one, Int.cast_ofNat, mul_sub,
    mul_div_cancel₀ _ (two_ne_zero (α := K))]

/-- if `R⁻¹·R = 1` and the doubled image of `x` under `x ↦ R(x + t − c) + c` is the grid point `y`, then
output voxel `y` is read from exactly `x` (integer matrices, any shape, any integer translation) -/
theorem pull2_push2 {d : Nat} (n : Fin d → Nat) (R rinv : Mat d Int) (t x y : Vec d Int)
    (hinv : matMul rinv R = ident d) (hy : ∀ i, push2 n R t x i = 2 * y i) :
    pull2 n rinv t y = fun i => 2 * x i := by
  have h1 : (fun j => 2 * y j - ((n j : Int) - 1)) = matVec R (fun j => 2 * x j + 2 * t j - ((n j : Int) - 1)) :=
    funext fun j => by rw [← hy j, push2, add_sub_cancel_right]
  funext i
  simp only [pull2, h1, matVec_cancel hinv, sub_add_cancel, add_sub_cancel_right]

/-- **value at `x` lands at the image of `x`.**  Whenever the image is a grid point `y`, the output there
is the input at `x` (zero if `x` is outside the array: zero fill). -/
theorem grid_value_lands {α : Type} [Zero α] {d : Nat} (n : Fin d → Nat) (R rinv : Mat d Int) (t x y : Vec d Int)
    (f : Vec d Int → α) (hinv : matMul rinv R = ident d) (hy : ∀ i, push2 n R t x i = 2 * y i) :
    gridTransform n rinv t f y = some (if inBox n x then f x else 0) := by
  simp only [gridTransform, pull2_push2 n R rinv t x y hinv hy, resample_double]

/-- **grid rotations are exact permutations (into).**  For a signed permutation matrix `R` and a shape
invariant under it, every voxel `x` of the array is moved to a voxel `y` of the array,
`y = R(x − c) + c`, and the output holds exactly `f x` there — no interpolation, any dimension. -/
theorem grid_perm {α : Type} [Zero α] {d : Nat} (n : Fin d → Nat) (R rinv : Mat d Int)
    (q : Fin d → Fin d) (s : Fin d → Int) (hR : IsSignedPerm R q s) (hn : ∀ i, n (q i) = n i)
    (hinv : matMul rinv R = ident d) (f : Vec d Int → α) (x : Vec d Int) (hx : inBox n x = true) :
    ∃ y : Vec d Int, inBox n y = true ∧ (∀ i, push2 n R (fun _ => 0) x i = 2 * y i) ∧
      gridTransform n rinv (fun _ => 0) f y = some (f x) := by
  obtain ⟨y, hyb, hy⟩ := push2_signedPerm_box hR n hn x hx
  refine ⟨y, hyb, hy, ?_⟩
  rw [grid_value_lands n R rinv _ x y f hinv hy, hx]
  rfl

/-- **… and onto.**  Every output voxel `o` is read from a voxel `x` of the array whose image is `o`:
together with `grid_perm` the transform is a bijection of the index box carrying the values along. -/
theorem grid_perm_onto {α : Type} [Zero α] {d : Nat} (n : Fin d → Nat) (R rinv : Mat d Int)
    (q : Fin d → Fin d) (s : Fin d → Int) (hRi : IsSignedPerm rinv q s) (hn : ∀ i, n (q i) = n i)
    (hinv : matMul R rinv = ident d) (f : Vec d Int → α) (o : Vec d Int) (ho : inBox n o = true) :
    ∃ x : Vec d Int, inBox n x = true ∧ (∀ i, push2 n R (fun _ => 0) x i = 2 * o i) ∧
      gridTransform n rinv (fun _ => 0) f o = some (f x) := by
  obtain ⟨x, hxb, hx⟩ := push2_signedPerm_box hRi n hn o ho
  have hx' : pull2 n rinv (fun _ => 0) o = fun i => 2 * x i := by
    rw [pull2_eq_push2]; exact funext hx
  refine ⟨x, hxb, fun i => ?_, by rw [gridTransform, hx', resample_double, hxb]; rfl⟩
  rw [← pull2_eq_push2]
  exact congrFun (pull2_push2 n rinv R (fun _ => 0) o x hinv hx) i

/-- for a grid rotation with a shape-invariant permutation and *any* integer translation no output voxel
is ever interpolated: every source position is a grid point (possibly outside the array → `0`) -/
theorem grid_never_interpolates {α : Type} [Zero α] {d : Nat} (n : Fin d → Nat) (rinv : Mat d Int)
    (q : Fin d → Fin d) (s : Fin d → Int) (hRi : IsSignedPerm rinv q s) (hn : ∀ i, n (q i) = n i)
    (t : Vec d Int) (f : Vec d Int → α) (o : Vec d Int) :
    ∃ src : Vec d Int, gridTransform n rinv t f o = some (if inBox n src then f src else 0) := by
  refine ⟨fun i => (if s i = 1 then o (q i) else (n i : Int) - 1 - o (q i)) - t i, ?_⟩
  rw [gridTransform, funext (pull2_signedPerm hRi n hn t o), resample_double]

/-- **integer translation with the identity is an exact shift with zero fill**: `out[o] = in[o − t]`,
i.e. the value at `x` moves to `x + t`, and voxels whose source is outside the array are `0`. -/
theorem int_translation_shift {α : Type} [Zero α] {d : Nat} (n : Fin d → Nat) (t : Vec d Int)
    (f : Vec d Int → α) (o : Vec d Int) :
    gridTransform n (ident d) t f o =
      some (if inBox n (fun i => o i - t i) then f (fun i => o i - t i) else 0) := by
  have : pull2 n (ident d) t o = fun i => 2 * (o i - t i) := by
    funext i; simp only [pull2, matVec_ident]; ring
  simp only [gridTransform, this, resample_double]

/-- **identity leaves the array unchanged** -/
theorem identity_id {α : Type} [Zero α] {d : Nat} (n : Fin d → Nat) (f : Vec d Int → α) (o : Vec d Int)
    (ho : inBox n o = true) : gridTransform n (ident d) (fun _ => 0) f o = some (f o) := by
  rw [int_translation_shift, show (fun i => o i - 0) = o from funext fun i => sub_zero _, ho]
  rfl

/-- **the mask is moved by the same map**: data and mask are read at the same source position for every
output voxel; in particular data supported inside the mask stays inside the transformed mask. -/
theorem mask_same_map {α : Type} [Zero α] {d : Nat} (n : Fin d → Nat) (rinv : Mat d Int) (t : Vec d Int)
    (f g : Vec d Int → α) :
    (rigidGrid n rinv t f (some g)).1 = gridTransform n rinv t f ∧
    (rigidGrid n rinv t f (some g)).2 = some (gridTransform n rinv t g) ∧
    (∀ o, (gridTransform n rinv t f o).isSome = (gridTransform n rinv t g o).isSome) ∧
    ((∀ x, g x = 0 → f x = 0) → ∀ o, gridTransform n rinv t g o = some 0 → gridTransform n rinv t f o = some 0) := by
  refine ⟨rfl, rfl, fun o => (resample_isSome n f _).trans (resample_isSome n g _).symm, fun hsupp o => ?_⟩
  rcases even_or_odd (pull2 n rinv t o) with ⟨src, hs⟩ | hodd
  · rw [gridTransform, gridTransform, hs, resample_double, resample_double]
    split
    · intro h; rw [hsupp src (Option.some.inj h)]
    · exact id
  · rw [gridTransform, gridTransform, resample_of_odd n g hodd, resample_of_odd n f hodd]
    exact id

/-- **… also where the mask is not prefiltered** (orders 2, 3): the mask output is the B-spline-smoothed mask
read at exactly the source position the data is read from; for orders 0 and 1 nothing is smoothed. -/
theorem mask_unprefiltered_same_map {d : Nat} (order : Nat) (n : Fin d → Nat) (rinv : Mat d Int) (t : Vec d Int)
    (f : Vec d Int → Rat) (m : Arr Rat) (o : Vec d Int) :
    (maskGrid order n rinv t m o).isSome = (gridTransform n rinv t f o).isSome ∧
    maskGrid order n rinv t m o = resample n (fun idx => (smoothMask order m).getI (List.ofFn idx) 0) (pull2 n rinv t o) ∧
    gridTransform n rinv t f o = resample n f (pull2 n rinv t o) := by
  refine ⟨?_, rfl, rfl⟩
  exact (resample_isSome n (fun idx => (smoothMask order m).getI (List.ofFn idx) 0) (pull2 n rinv t o)).trans
    (resample_isSome n f _).symm

/-- the smoothing weights of every order sum to one (a constant mask stays constant) -/
theorem bspline_weights_sum_one (order : Nat) : ((bsplineTaps order).map (·.2)).sum = 1 := by
  unfold bsplineTaps
  split_ifs <;> decide +kernel

/-- **caller buffers**: with a larger output buffer the transformed array occupies exactly the leading corner
`[0, n)`, every other voxel of the buffer keeps its previous content -/
theorem buffer_corner {α : Type} [Zero α] {d : Nat} (n : Fin d → Nat) (rinv : Mat d Int) (t : Vec d Int)
    (f buf : Vec d Int → α) (o : Vec d Int) :
    (inBox n o = true → rigidGridInto n rinv t f buf o = gridTransform n rinv t f o) ∧
    (inBox n o = false → rigidGridInto n rinv t f buf o = some (buf o)) := by
  exact ⟨fun h => by rw [rigidGridInto, writeCorner, if_pos h],
    fun h => by rw [rigidGridInto, writeCorner, if_neg (h ▸ Bool.false_ne_true)]⟩

/-! ## coordinate version (`matching_utils.rigid_transform`, `Structure.rigid_transform`) -/

/-- **coordinate formula.**  Default branch: every point is rotated about the centroid `x̄` of the set and
the centroid is then placed at `centre + t` (`centre = x̄` unless one is passed): `R(x − x̄) + centre + t`. -/
theorem coords_formula {K : Type} [Field K] {N M d : Nat} (hN : (N : K) ≠ 0) (x : Fin N → Vec d K)
    (R : Mat d K) (t : Vec d K) (center : Option (Vec d K)) (mask : Fin M → Vec d K) (k : Fin N) (i : Fin d) :
    (coordsTransform x R t center mask).1 k i =
      matVec R (fun j => x k j - mean x j) i + (center.getD (mean x)) i + t i :=
  coordsCore_fst hN x R t _ mask k i

/-- with the default centre this is the property's convention `R(x − x̄) + x̄ + t` -/
theorem coords_formula_default {K : Type} [Field K] {N M d : Nat} (hN : (N : K) ≠ 0) (x : Fin N → Vec d K)
    (R : Mat d K) (t : Vec d K) (mask : Fin M → Vec d K) (k : Fin N) (i : Fin d) :
    (coordsTransform x R t none mask).1 k i = matVec R (fun j => x k j - mean x j) i + mean x i + t i :=
  coordsCore_fst hN x R t _ mask k i

/-- the mask points are moved by the same affine map as the coordinates -/
theorem coords_mask_same_map {K : Type} [Field K] {N M d : Nat} (hN : (N : K) ≠ 0) (x : Fin N → Vec d K)
    (R : Mat d K) (t : Vec d K) (center : Option (Vec d K)) (mask : Fin M → Vec d K) (k : Fin M) (i : Fin d) :
    (coordsTransform x R t center mask).2 k i =
      matVec R (fun j => mask k j - mean x j) i + (center.getD (mean x)) i + t i :=
  coordsCore_snd hN x R t _ mask k i

/-- **the centroid is moved by exactly the translation** (to `centre + t`), for every matrix `R` -/
theorem centroid_moves_by_t {K : Type} [Field K] {N M d : Nat} (hN : (N : K) ≠ 0) (x : Fin N → Vec d K)
    (R : Mat d K) (t : Vec d K) (center : Option (Vec d K)) (mask : Fin M → Vec d K) (i : Fin d) :
    mean (coordsTransform x R t center mask).1 i = (center.getD (mean x)) i + t i := by
  -- the code adds `centre − mean(rotated set)` to the translation, so the mean of the rotated set cancels
  show mean (fun k j => matVec R (fun l => x k l - (center.getD (mean x)) l) j +
    (t j + ((center.getD (mean x)) j - mean (fun k => matVec R (fun l => x k l - (center.getD (mean x)) l)) j))) i = _
  rw [mean_add_const hN]
  ring

/-- **distances are preserved** by the default branch when `RᵀR = 1` -/
theorem dist_preserved {K : Type} [Field K] {N M d : Nat} (x : Fin N → Vec d K)
    (R : Mat d K) (hR : matMul (transpose R) R = ident d) (t : Vec d K) (center : Option (Vec d K))
    (mask : Fin M → Vec d K) (k l : Fin N) :
    ∑ i, ((coordsTransform x R t center mask).1 k i - (coordsTransform x R t center mask).1 l i) *
         ((coordsTransform x R t center mask).1 k i - (coordsTransform x R t center mask).1 l i)
      = ∑ i, (x k i - x l i) * (x k i - x l i) :=
  dist_sq_of_diff R hR (fun i => moved_sub_moved R (x k) (x l) _ _ i)

/-- … and by the `use_geometric_center=True` branch (which adds one common vector to `R x`) -/
theorem dist_preserved_geo {K : Type} [Field K] [Max K] [Min K] {N M d : Nat} (hf : K → K)
    (x : Fin (N+1) → Vec d K) (R : Mat d K) (hR : matMul (transpose R) R = ident d) (t : Vec d K)
    (center : Option (Vec d K)) (mask : Fin M → Vec d K) (k l : Fin (N+1)) :
    ∑ i, ((coordsTransformGeo hf x R t center mask).1 k i - (coordsTransformGeo hf x R t center mask).1 l i) *
         ((coordsTransformGeo hf x R t center mask).1 k i - (coordsTransformGeo hf x R t center mask).1 l i)
      = ∑ i, (x k i - x l i) * (x k i - x l i) :=
  dist_sq_of_diff R hR (fun i => (add_sub_add_right_eq_sub _ _ _).trans (matVec_sub R (x k) (x l) i).symm)

/-- **array and coordinate versions agree**: on a point set whose centroid is the array centre `c` (e.g. the
full index grid, or any centred content) the coordinate version is the array's forward map for `t = 0`,
followed by the translation … -/
theorem array_coords_agree {K : Type} [Field K] {N M d : Nat} (hN : (N : K) ≠ 0) (x : Fin N → Vec d K)
    (R : Mat d K) (t c : Vec d K) (hc : mean x = c) (mask : Fin M → Vec d K) (k : Fin N) (i : Fin d) :
    (coordsTransform x R t none mask).1 k i = forward R (fun _ => 0) c (x k) i + t i := by
  rw [coords_formula_default hN, hc]
  simp [forward]

/-- … whereas the array version applies its translation *before* the rotation: the two conventions differ by
`R t − t`, so they coincide exactly when `R t = t` (in particular for `t = 0` and for `R = 1`, the cases the
property speaks of). -/
theorem array_translation_in_input_frame {α : Type} [CommRing α] {d : Nat} (R : Mat d α) (t c x : Vec d α)
    (i : Fin d) : forward R t c x i = forward R (fun _ => 0) c x i + matVec R t i := by
  simp only [forward]
  have : (fun j => x j + t j - c j) = fun j => (x j + 0 - c j) + t j :=
    funext fun j => by rw [add_zero, sub_add_eq_add_sub]
  rw [this, matVec_add, add_right_comm]

/-! ## non-vacuity: the theorems applied to concrete instances (`Proofs/C06Examples.lean`) -/

example : ∃ y : Vec 3 Int, inBox exN3 y = true ∧ (∀ i, push2 exN3 exR3 (fun _ => 0) exX3 i = 2 * y i) ∧
    gridTransform exN3 exR3inv (fun _ => 0) exF3 y = some (exF3 exX3) :=
  grid_perm exN3 exR3 exR3inv exQ3 exS3 exR3_signed exN3_inv exR3_inv exF3 exX3 (by decide +kernel)
example : ∃ x : Vec 3 Int, inBox exN3 x = true ∧ (∀ i, push2 exN3 exR3 (fun _ => 0) x i = 2 * exX3 i) ∧
    gridTransform exN3 exR3inv (fun _ => 0) exF3 exX3 = some (exF3 x) :=
  grid_perm_onto exN3 exR3 exR3inv exQ3 exS3inv exR3inv_signed exN3_inv exR3_inv' exF3 exX3 (by decide +kernel)
example : ∃ src : Vec 3 Int, gridTransform exN3 exR3inv (vecOfList 3 [1, -2, 0]) exF3 exX3 =
    some (if inBox exN3 src then exF3 src else 0) :=
  grid_never_interpolates exN3 exR3inv exQ3 exS3inv exR3inv_signed exN3_inv _ exF3 exX3
-- the image of voxel (1,5,4) under (x,y,z) ↦ (z,y,−x) about the centre (2, 2.5, 2) is (4,5,3), and the value is found there
example : gridTransform exN3 exR3inv (fun _ => 0) exF3 (vecOfList 3 [4, 5, 3]) = some (exF3 exX3) := by decide +kernel
example : gridTransform exN3 exR3inv (fun _ => 0) exF3 (vecOfList 3 [4, 5, 3]) = some (if inBox exN3 exX3 then exF3 exX3 else 0) :=
  grid_value_lands exN3 exR3 exR3inv (fun _ => 0) exX3 (vecOfList 3 [4, 5, 3]) exF3 exR3_inv (by decide +kernel)
example : pull2 exN3 exR3inv (fun _ => 0) (vecOfList 3 [4, 5, 3]) = fun i => 2 * exX3 i :=
  pull2_push2 exN3 exR3 exR3inv (fun _ => 0) exX3 (vecOfList 3 [4, 5, 3]) exR3_inv (by decide +kernel)
-- a shape that is *not* invariant (4 × 5 under a quarter turn) does interpolate: the hypothesis matters
example : gridTransform (fun i : Fin 2 => if i.val = 0 then 4 else 5) (matOfRows 2 [[0, 1], [-1, 0]]) (fun _ => 0)
    (fun x => x 0 + x 1) (vecOfList 2 [1, 1]) = none := by decide +kernel
example : gridTransform exN3 (ident 3) (fun _ => 0) exF3 exX3 = some (exF3 exX3) := identity_id exN3 exF3 exX3 (by decide +kernel)
example : gridTransform exN3 (ident 3) (vecOfList 3 [1, 2, 1]) exF3 exX3 = some (exF3 (vecOfList 3 [0, 3, 3])) := by decide +kernel
example : gridTransform exN3 (ident 3) (vecOfList 3 [2, 0, 0]) exF3 exX3 = some 0 := by decide +kernel   -- zero fill
example : gridTransform exN3 (ident 3) (vecOfList 3 [1, 2, -1]) exF3 exX3 =
    some (if inBox exN3 (fun i => exX3 i - vecOfList 3 [1, 2, -1] i) then exF3 (fun i => exX3 i - vecOfList 3 [1, 2, -1] i) else 0) :=
  int_translation_shift exN3 _ exF3 exX3
example : rigidGridInto exN3 exR3inv (fun _ => 0) exF3 (fun _ => 77) (vecOfList 3 [4, 5, 3]) = some (exF3 exX3) ∧
    rigidGridInto exN3 exR3inv (fun _ => 0) exF3 (fun _ => 77) (vecOfList 3 [4, 6, 3]) = some 77 := by decide +kernel
example : ((bsplineTaps 3).map (·.2)).sum = 1 := bspline_weights_sum_one 3
example := mask_unprefiltered_same_map 3 exN3 exR3inv (fun _ => 0) (fun x => ((exF3 x : Int) : Rat)) ⟨[5, 6, 5], Array.replicate 150 1⟩ exX3
example : gridTransform exN3 exR3inv (fun _ => 0) (fun x => if x 0 = 1 then (1:Int) else 0) (vecOfList 3 [4, 5, 3]) = some 1 := by decide +kernel
example := (mask_same_map exN3 exR3inv (fun _ => 0) (fun x => if x 0 = 1 then exF3 x else 0) (fun x => if x 0 = 1 then (1:Int) else 0)).2.2.2
  (fun x h => if hx : x 0 = 1 then absurd ((if_pos hx).symm.trans h) one_ne_zero else if_neg hx)

example : affineSrc (rigidMatrix exRqinv (some exT) (some exC)) (vecOfList 2 [1, 2]) = pullback exRqinv exT exC (vecOfList 2 [1, 2]) :=
  matrix_eq_pullback _ _ _ _
example : pullback exRqinv exT exC (forward exRq exT exC (vecOfList 2 [1, 2])) = vecOfList 2 [1, 2] := pullback_forward _ _ _ _ _ exRq_inv
example : forward exRq exT exC (pullback exRqinv exT exC (vecOfList 2 [1, 2])) = vecOfList 2 [1, 2] := forward_pullback _ _ _ _ _ exRq_inv'
example : (3 : Rat) ≠ 0 := by norm_num
example : ∀ k i, (coordsTransform exPts exRq exT none (fun _ : Fin 0 => exC)).1 k i =
    matVec exRq (fun j => exPts k j - mean exPts j) i + mean exPts i + exT i :=
  fun k i => coords_formula_default (by norm_num) exPts exRq exT _ k i
example : ∀ i, mean (coordsTransform exPts exRq exT (some exC) (fun _ : Fin 0 => exC)).1 i = exC i + exT i :=
  fun i => centroid_moves_by_t (by norm_num) exPts exRq exT (some exC) _ i
example := dist_preserved exPts exRq exRq_orth exT none (fun _ : Fin 0 => exC) 0 2
example := dist_preserved_geo halfFloorRat exPts exRq exRq_orth exT none (fun _ : Fin 0 => exC) 0 2

example : affineSrc (rigidMatrix exRqinv none (some exC)) (vecOfList 2 [1, 2]) =
    pullback exRqinv (fun _ => 0) exC (vecOfList 2 [1, 2]) := matrix_eq_pullback_optional _ none (some exC) _
example : rigidMatrix exRqinv (some exT) (some exC) = rigidMatrixRaw exRqinv (some exT) (some exC) :=
  rigidMatrix_normalisation_noop _ _ _
example : rigidMatrixRaw exRqinv (some exT) (some exC) = aff exRqinv (fun i => exC i - exT i - matVec exRqinv exC i) :=
  rigidMatrixRaw_eq_aff _ _ _
example : forward exRq (fun _ => 0) exC (vecOfList 2 [1, 2]) 0 = matVec exRq (fun j => vecOfList 2 [1, 2] j - exC j) 0 + exC 0 :=
  forward_rotation_only _ _ _ _
example : forward (ident 2) exT exC (vecOfList 2 [1, 2]) 1 = vecOfList 2 [1, 2] 1 + exT 1 := forward_translation_only _ _ _ _
example :=
  pull2_eq_twice_pullback (K := Rat) exN3 exR3inv (vecOfList 3 [1, 0, 0]) exX3 0
example : ∀ k i, (coordsTransform exPts exRq exT (some exC) (fun _ : Fin 1 => exC)).1 k i =
    matVec exRq (fun j => exPts k j - mean exPts j) i + exC i + exT i :=
  fun k i => coords_formula (by norm_num) exPts exRq exT (some exC) _ k i
example : ∀ k i, (coordsTransform exPts exRq exT (some exC) (fun _ : Fin 1 => exC)).2 k i =
    matVec exRq (fun j => exC j - mean exPts j) i + exC i + exT i :=
  fun k i => coords_mask_same_map (by norm_num) exPts exRq exT (some exC) _ k i
example := coordsCore_fst (K := Rat) (by norm_num) exPts exRq exT exC (fun _ : Fin 1 => exC) 1 0
example := coordsCore_snd (K := Rat) (by norm_num) exPts exRq exT exC (fun _ : Fin 1 => exC) 0 1
example : (3 : Rat) ≠ 0 ∧ mean exPts = mean exPts := ⟨by norm_num, rfl⟩
example : ∀ k i, (coordsTransform exPts exRq exT none (fun _ : Fin 0 => exC)).1 k i =
    forward exRq (fun _ => 0) (mean exPts) (exPts k) i + exT i :=
  fun k i => array_coords_agree (by norm_num) exPts exRq exT (mean exPts) rfl _ k i
example : forward exRq exT exC (vecOfList 2 [1, 2]) 0 = forward exRq (fun _ => 0) exC (vecOfList 2 [1, 2]) 0 + matVec exRq exT 0 :=
  array_translation_in_input_frame _ _ _ _ _
-- the two conventions really differ for a rotation with a translation: R t ≠ t
example : matVec (matOfRows 2 [[0, -1], [1, 0]] : Mat 2 Int) (vecOfList 2 [1, 0]) 0 ≠ vecOfList 2 [1, 0] 0 := by decide +kernel

/-! ## order-1 (linear) interpolation: `affine_transform(order=1, mode="constant", cval=0)` exactly

`linInterp a src` (`Model/C06.lean`) is what the resampler returns for one output voxel whose pulled-back position is
`src`: the `2^d` corners `⌊src_i⌋ + {0, 1}` weighted multilinearly, `0` as soon as one coordinate is outside
`[0, n_i − 1]`.  `rigidLinear a R⁻¹ t c o = linInterp a (affineSrc (rigidMatrix R⁻¹ t c) o)` is the order-1 transform at
voxel `o`, `rigidLinearArr` the whole output array; the driver evaluates exactly these functions (`c06.linear`,
`c06.lineararr`) and the harness compares them with the real `rigid_transform(order=1)`.

`InsideL src shape` is the guard of the model (`0 ≤ src_i ≤ n_i − 1`, ranks agreeing), `InBoxL shape idx` says that a signed
index addresses a voxel, `Relevant`, `hat`, `hatProd`, `boxSum`, `dotL`, `SuppOK` are defined in `Proofs/C06Linear*.lean`. -/

/-- `InsideL` is literally the branch condition of the executable model; outside it the model returns `cval = 0` -/
theorem linInterp_guard (a : Arr Rat) (src : List Rat) :
    (InsideL src a.shape ↔ (src.length = a.shape.length ∧
      (List.zip src a.shape).all (fun (xn : Rat × Nat) => decide (0 ≤ xn.1) && decide (xn.1 ≤ ((xn.2 : Int) - 1 : Int))) = true)) ∧
    (¬ InsideL src a.shape → linInterp a src = 0) :=
  ⟨insideL_iff src a.shape, linInterp_outside a src⟩

/-- **(a) partition of unity.**  For every position (any dimension) the model uses `2^d` corners, every corner is a grid
neighbour `⌊x_i⌋` or `⌊x_i⌋ + 1` on each axis, its weight is the tensor-product hat function `Π_i Λ(x_i − corner_i)`, the
weights are non-negative and sum to `1`. -/
theorem linear_weights_partition_of_unity (xs : List Rat) :
    (linCorners xs).length = 2 ^ xs.length ∧
    (∀ iw ∈ linCorners xs, List.Forall₂ (fun (x : Rat) (i : Int) => i = ⌊x⌋ ∨ i = ⌊x⌋ + 1) xs iw.1) ∧
    (∀ iw ∈ linCorners xs, iw.2 = hatProd xs iw.1) ∧
    (∀ iw ∈ linCorners xs, 0 ≤ iw.2) ∧
    ((linCorners xs).map (fun (iw : List Int × Rat) => iw.2)).sum = 1 :=
  ⟨linCorners_length xs, linCorners_neighbours xs, linCorners_weight_hat xs, linCorners_nonneg xs, linCorners_sum_one xs⟩

/-- inside the array the model is the iterated one-dimensional interpolation of the zero-extended array, and
equivalently the sum over **all** voxels against hat functions: `out = Σ_x a[x] · Π_i Λ(src_i − x_i)` -/
theorem linInterp_closed_forms (a : Arr Rat) (src : List Rat) (hin : InsideL src a.shape) :
    linInterp a src = interpRec src (fun is => a.getI is 0) ∧
    linInterp a src = boxSum a.shape (fun x => a.getI x 0 * hatProd src x) :=
  ⟨linInterp_inside a src hin, linInterp_eq_boxSum a src hin⟩

/-- **(a) range.**  Inside the array the interpolated value lies between the smallest and the largest voxel:
`min ≤ out ≤ max` (no overshoot at order 1; the corner with index `n_i` that the cell of a position on the last grid
plane formally has carries weight `0`). -/
theorem linInterp_range (a : Arr Rat) (src : List Rat) (lo hi : Rat) (hin : InsideL src a.shape)
    (hv : ∀ idx, inShape a.shape idx = true → lo ≤ a.getD idx 0 ∧ a.getD idx 0 ≤ hi) :
    lo ≤ linInterp a src ∧ linInterp a src ≤ hi := by
  rw [linInterp_inside a src hin]
  refine interpRec_bounds lo hi src _ (fun is his => ?_)
  obtain ⟨h1, h2⟩ := getI_of_inBox a is (relevant_inBox hin his)
  rw [h1]; exact hv _ h2

/-- **(a) constants are reproduced** everywhere inside the array -/
theorem linInterp_constant (a : Arr Rat) (src : List Rat) (k : Rat) (hin : InsideL src a.shape)
    (hv : ∀ idx, inShape a.shape idx = true → a.getD idx 0 = k) : linInterp a src = k := by
  have := linInterp_range a src k k hin (fun idx h => by rw [hv idx h]; exact ⟨le_refl _, le_refl _⟩)
  exact le_antisymm this.2 this.1

/-- **(a) at every position, inside or outside**: non-negative data stays non-negative and `|out| ≤ max |a|` (no
overshoot, no ringing at order 1) -/
theorem linInterp_global_bounds (a : Arr Rat) (src : List Rat) :
    ((∀ idx, inShape a.shape idx = true → 0 ≤ a.getD idx 0) → 0 ≤ linInterp a src) ∧
    (∀ M : Rat, 0 ≤ M → (∀ idx, inShape a.shape idx = true → |a.getD idx 0| ≤ M) → |linInterp a src| ≤ M) :=
  ⟨linInterp_nonneg a src, fun M hM hv => by
    by_cases hin : InsideL src a.shape
    · exact abs_le.2 (linInterp_range a src (-M) M hin (fun idx h => abs_le.1 (hv idx h)))
    · rw [linInterp_outside a src hin, abs_zero]; exact hM⟩

/-- **(b) grid points.**  At an integer position the model returns the voxel itself, for every integer position
(outside the array both sides are `0`): nothing is interpolated. -/
theorem linInterp_grid_point (a : Arr Rat) (ks : List Int) :
    linInterp a (ks.map (fun (z : Int) => (z : Rat))) = a.getI ks 0 := by
  by_cases h : InsideL (ks.map (fun (z : Int) => (z : Rat))) a.shape
  · rw [linInterp_inside a _ h, interpRec_int]
  · rw [linInterp_outside a _ h, getI_of_not_inBox a ks (fun hb => h ((insideL_intCast_iff _ _).2 hb))]

/-- **(d) affine exactness.**  If the voxels are an affine function `α + Σ β_i x_i` of the voxel index, the model returns
`α + Σ β_i src_i` at every position inside the array. -/
theorem linInterp_affine_exact (a : Arr Rat) (src : List Rat) (α : Rat) (β : List Rat) (hin : InsideL src a.shape)
    (hv : ∀ idx, inShape a.shape idx = true → a.getD idx 0 = α + dotL β (ratIdx idx)) :
    linInterp a src = α + dotL β src := by
  rw [linInterp_inside a src hin]
  refine interpRec_affine src _ α β (fun is his => ?_)
  have hb := relevant_inBox hin his
  obtain ⟨h1, h2⟩ := getI_of_inBox a is hb
  rw [h1, hv _ h2, ratIdx_toNat _ _ hb]

/-- **the same over every ordered field with a floor function** (`interpRec` is the interpolant; at `K = ℚ` it is the
executable model by `linInterp_closed_forms`): range, affine exactness and exactness at grid points, where `Relevant xs is`
says that the corner `is` carries non-zero weight at `xs` -/
theorem linear_interpolation_any_field {K : Type} [Field K] [LinearOrder K] [IsStrictOrderedRing K] [FloorRing K]
    (xs : List K) (g : List Int → K) :
    (∀ lo hi : K, (∀ is, Relevant xs is → lo ≤ g is ∧ g is ≤ hi) → lo ≤ interpRec xs g ∧ interpRec xs g ≤ hi) ∧
    (∀ (α : K) (β : List K), (∀ is, Relevant xs is → g is = α + dotL β (is.map (fun (z : Int) => (z : K)))) →
      interpRec xs g = α + dotL β xs) ∧
    (∀ ks : List Int, xs = ks.map (fun (z : Int) => (z : K)) → interpRec xs g = g ks) ∧
    (∀ ns : List Nat, xs.length = ns.length → (∀ is, ¬ InBoxL ns is → g is = 0) →
      interpRec xs g = boxSum ns (fun x => g x * hatProd xs x)) :=
  ⟨fun lo hi h => interpRec_bounds lo hi xs g h, fun α β h => interpRec_affine xs g α β h,
   fun ks h => by rw [h]; exact interpRec_int ks g, fun ns h1 h2 => interpRec_eq_boxSum ns xs g h1 h2⟩

/-- … and the translation theorem over every such field: `out` is the order-1 resampling of `g` at `o − t` (zero where
the source is outside the box `ns`), the support of `g` shifted by `t` stays inside (`SuppL`: `SuppOK` on every axis);
then `Σ_o φ(o)·out(o) = Σ_x φ(x + t)·g(x)` for every affine `φ` -/
theorem translation_affine_functional_any_field {K : Type} [Field K] [LinearOrder K] [IsStrictOrderedRing K] [FloorRing K]
    (ns : List Nat) (ts : List K) (g out : List Int → K) (hlen : ts.length = ns.length)
    (hg0 : ∀ is, ¬ InBoxL ns is → g is = 0) (hsupp : ∀ x, g x ≠ 0 → SuppL ns ts x)
    (hin : ∀ o, InsideL (subL o ts) ns → out o = interpRec (subL o ts) g)
    (hout : ∀ o, ¬ InsideL (subL o ts) ns → out o = 0) (α : K) (β : List K) :
    boxSum ns (fun o => (α + dotL β (o.map (fun (z : Int) => (z : K)))) * out o) =
      boxSum ns (fun x => (α + dotL β (addL x ts)) * g x) :=
  shift_functional ns ts g out hlen hg0 hsupp hin hout α β

/-- the order-1 transform reads output voxel `o` at the pull-back `R⁻¹(o − c) + c − t` (every matrix, centre, translation) -/
theorem rigidLinear_eq_pullback {d : Nat} (a : Arr Rat) (rinv : Mat d Rat) (t c o : Vec d Rat) :
    rigidLinear a rinv t c o = linInterp a (List.ofFn (pullback rinv t c o)) := by
  simp only [rigidLinear, listOfVec, matrix_eq_pullback]

/-- (a), (d) for the transform: wherever the pulled-back position is inside the array, the output lies in the range
of the input, a constant array gives that constant, and an affine array `α + β·x` gives `α + β·(R⁻¹(o − c) + c − t)` -/
theorem rigidLinear_interior {d : Nat} (a : Arr Rat) (rinv : Mat d Rat) (t c o : Vec d Rat)
    (hin : InsideL (List.ofFn (pullback rinv t c o)) a.shape) :
    (∀ lo hi : Rat, (∀ idx, inShape a.shape idx = true → lo ≤ a.getD idx 0 ∧ a.getD idx 0 ≤ hi) →
      lo ≤ rigidLinear a rinv t c o ∧ rigidLinear a rinv t c o ≤ hi) ∧
    (∀ k : Rat, (∀ idx, inShape a.shape idx = true → a.getD idx 0 = k) → rigidLinear a rinv t c o = k) ∧
    (∀ (α : Rat) (β : List Rat), (∀ idx, inShape a.shape idx = true → a.getD idx 0 = α + dotL β (ratIdx idx)) →
      rigidLinear a rinv t c o = α + dotL β (List.ofFn (pullback rinv t c o))) := by
  rw [rigidLinear_eq_pullback]
  exact ⟨fun lo hi hv => linInterp_range a _ lo hi hin hv, fun k hv => linInterp_constant a _ k hin hv,
    fun α β hv => linInterp_affine_exact a _ α β hin hv⟩

/-- **(b) for the transform**: whenever the pulled-back position of `o` is a grid point `s`, the output is the voxel
`a[s]` (`0` outside the array), whatever the matrix, centre and translation -/
theorem rigidLinear_grid_point {d : Nat} (a : Arr Rat) (rinv : Mat d Rat) (t c o : Vec d Rat) (s : Vec d Int)
    (hs : ∀ i, pullback rinv t c o i = ((s i : Int) : Rat)) :
    rigidLinear a rinv t c o = a.getI (List.ofFn s) 0 := by
  rw [rigidLinear_eq_pullback, show pullback rinv t c o = fun i => ((s i : Int) : Rat) from funext hs,
    show List.ofFn (fun i => ((s i : Int) : Rat)) = (List.ofFn s).map (fun (z : Int) => (z : Rat)) by
      rw [List.map_ofFn]; rfl]
  exact linInterp_grid_point a _

/-- **the grid theorems are the special case**: whenever the exact grid model `gridTransform` (the object of
`grid_perm`, `grid_perm_onto`, `grid_never_interpolates`, `identity_id`, `int_translation_shift`) returns a value for
output voxel `o` — integer matrix and translation, geometric centre `(n − 1)/2` — the order-1 model returns the same -/
theorem rigidLinear_on_grid {d : Nat} (a : Arr Rat) (n : Fin d → Nat) (hshape : a.shape = List.ofFn n)
    (rinv : Mat d Int) (t o : Vec d Int) (v : Rat)
    (h : gridTransform n rinv t (fnOfArr a) o = some v) :
    rigidLinear a (fun i j => ((rinv i j : Int) : Rat)) (fun i => ((t i : Int) : Rat))
      (fun i => ((n i : Rat) - 1) / 2) (fun i => ((o i : Int) : Rat)) = v := by
  rcases even_or_odd (pull2 n rinv t o) with ⟨src, hs⟩ | hodd
  · rw [gridTransform, hs, resample_double] at h
    rw [rigidLinear_grid_point a _ _ _ _ src (fun i => mul_left_cancel₀ (two_ne_zero (α := Rat)) (by
      rw [← pull2_eq_twice_pullback, hs, Int.cast_mul, Int.cast_ofNat])), ← Option.some.inj h]
    split
    · rfl
    · rename_i hb
      exact getI_of_not_inBox a _ (by rw [hshape, inBoxL_ofFn]; exact hb)
  · rw [gridTransform, resample_of_odd n _ hodd] at h
    cases h

/-- a **pure translation** does not depend on the centre (geometric or centre of mass): `out[o] = lin-interp(a, o − t)` -/
theorem rigidLinear_translation {d : Nat} (a : Arr Rat) (t c o : Vec d Rat) :
    rigidLinear a (ident d) t c o = linInterp a (List.ofFn (fun i => o i - t i)) := by
  rw [rigidLinear_eq_pullback]
  congr 2
  funext i
  simp only [pullback, matVec_ident]; ring

theorem rigidLinearArr_translation_eq {d : Nat} (a : Arr Rat) (t c : Vec d Rat) :
    rigidLinearArr a (ident d) t c =
      Arr.ofFn a.shape (fun idx => linInterp a (List.ofFn (fun i => vecOfList d (ratIdx idx) i - t i))) :=
  congrArg (Arr.ofFn a.shape) (funext fun _ => rigidLinear_translation a t c _)

/-- **(c) integer translation with the identity is the exact zero-filled shift** `out[o] = a[o − t]`, for every centre
— the order-1 counterpart of `int_translation_shift` -/
theorem rigidLinear_int_translation {d : Nat} (a : Arr Rat) (t o : Vec d Int) (c : Vec d Rat) :
    rigidLinear a (ident d) (fun i => ((t i : Int) : Rat)) c (fun i => ((o i : Int) : Rat)) =
      a.getI (List.ofFn (fun i => o i - t i)) 0 := by
  apply rigidLinear_grid_point
  intro i
  simp only [pullback, matVec_ident]; push_cast; ring

/-- corollary: **at order 1 every grid rotation is the exact permutation of voxels** (`grid_perm` transferred): for a
signed permutation matrix and a shape it leaves invariant, each voxel `x` has its image `y = R(x − c) + c` inside the
array and the order-1 output there is exactly `a[x]` -/
theorem rigidLinear_grid_perm {d : Nat} (a : Arr Rat) (n : Fin d → Nat) (hshape : a.shape = List.ofFn n)
    (R rinv : Mat d Int) (q : Fin d → Fin d) (s : Fin d → Int) (hR : IsSignedPerm R q s) (hn : ∀ i, n (q i) = n i)
    (hinv : matMul rinv R = ident d) (x : Vec d Int) (hx : inBox n x = true) :
    ∃ y : Vec d Int, inBox n y = true ∧ (∀ i, push2 n R (fun _ => 0) x i = 2 * y i) ∧
      rigidLinear a (fun i j => ((rinv i j : Int) : Rat)) (fun _ => 0) (fun i => ((n i : Rat) - 1) / 2)
        (fun i => ((y i : Int) : Rat)) = a.getI (List.ofFn x) 0 := by
  obtain ⟨y, hy1, hy2, hy3⟩ := grid_perm n R rinv q s hR hn hinv (fnOfArr a) x hx
  refine ⟨y, hy1, hy2, ?_⟩
  have := rigidLinear_on_grid a n hshape rinv (fun _ => 0) y _ hy3
  simpa [fnOfArr] using this

/-- corollary: **the identity leaves the array unchanged at order 1**, for every centre -/
theorem rigidLinear_identity {d : Nat} (a : Arr Rat) (o : Vec d Int) (c : Vec d Rat) :
    rigidLinear a (ident d) (fun _ => 0) c (fun i => ((o i : Int) : Rat)) = a.getI (List.ofFn o) 0 := by
  have := rigidLinear_int_translation a (fun _ => 0) o c
  simpa using this

/-- the output array holds the per-voxel transform: every theorem about `rigidLinear` is a theorem about the voxels of
`rigidLinearArr` (the array the driver returns and the harness compares with `rigid_transform(order=1)`) -/
theorem rigidLinearArr_getD {d : Nat} (a : Arr Rat) (rinv : Mat d Rat) (t c : Vec d Rat) (idx : List Nat)
    (h : inShape a.shape idx = true) :
    (rigidLinearArr a rinv t c).shape = a.shape ∧
    (rigidLinearArr a rinv t c).getD idx 0 = rigidLinear a rinv t c (vecOfList d (ratIdx idx)) :=
  ⟨rfl, by rw [rigidLinearArr, Arr.getD_ofFn _ _ _ _ h]⟩

/-- the support condition of the next theorems on one axis, spelled out: the two grid neighbours `x + ⌊t⌋`, `x + ⌈t⌉`
of the shifted voxel are voxels of the output, and their sources lie inside `[0, n − 1]` (beyond the last sample
`mode="constant"` returns `cval`, it does not interpolate towards the edge) -/
theorem suppOK_iff (n : Nat) (t : Rat) (x : Int) :
    SuppOK n t x ↔ (0 ≤ x + ⌊t⌋ ∧ x + ⌈t⌉ ≤ (n : Int) - 1 ∧
      (0 : Rat) ≤ (x : Rat) + (⌊t⌋ : Rat) - t ∧ (x : Rat) + (⌈t⌉ : Rat) - t ≤ (((n : Int) - 1 : Int) : Rat)) := Iff.rfl

/-- voxel `idx` of the output array of a pure translation is the model at `idx − t` -/
theorem rigidLinearArr_translation {d : Nat} (a : Arr Rat) (t c : Vec d Rat) (hd : a.shape.length = d)
    (idx : List Nat) (h : inShape a.shape idx = true) :
    (rigidLinearArr a (ident d) t c).shape = a.shape ∧
    (rigidLinearArr a (ident d) t c).getD idx 0 =
      linInterp a (subL (idx.map (fun (z : Nat) => (z : Int))) (List.ofFn t)) := by
  refine ⟨rfl, ?_⟩
  rw [rigidLinearArr, Arr.getD_ofFn _ _ _ _ h, rigidLinear_translation,
    ofFn_sub_eq_subL d t idx ((inShape_length h).trans hd)]

/-- **(d') a sub-voxel translation moves every affine functional exactly.**  Pure translation by any rational `t`, any
centre, any dimension; if every voxel of the support, shifted by `t`, stays inside (`SuppOK` on every axis), then for
every affine weight `φ(o) = α + β·o`:  `Σ_o φ(o)·out[o] = Σ_x φ(x + t)·a[x]`. -/
theorem translation_affine_functional {d : Nat} (a : Arr Rat) (t c : Vec d Rat) (hd : a.shape.length = d)
    (hsupp : ∀ idx, inShape a.shape idx = true → a.getD idx 0 ≠ 0 →
      ∀ i : Fin d, SuppOK (a.shape.getD i.val 0) (t i) ((idx.getD i.val 0 : Nat) : Int))
    (α : Rat) (β : List Rat) :
    boxSum a.shape (fun o => (α + dotL β (o.map (fun (z : Int) => (z : Rat)))) * (rigidLinearArr a (ident d) t c).getI o 0) =
      boxSum a.shape (fun x => (α + dotL β (addL x (List.ofFn t))) * a.getI x 0) :=
  shift_functional_arr a (rigidLinearArr a (ident d) t c) (List.ofFn t) (List.length_ofFn.trans hd.symm) rfl
    (fun idx h => (rigidLinearArr_translation a t c hd idx h).2)
    (fun idx h hne => suppL_of_axes a t hd idx h (hsupp idx h hne)) α β

/-- **(d') mass is conserved and the first moment moves by exactly `t`·mass** under a pure translation whose shifted
support stays inside: `Σ out = Σ a` and `Σ_o o_k·out[o] = Σ_x x_k·a[x] + t_k·Σ_x a[x]` on every axis `k` -/
theorem translation_mass_and_first_moment {d : Nat} (a : Arr Rat) (t c : Vec d Rat) (hd : a.shape.length = d)
    (hsupp : ∀ idx, inShape a.shape idx = true → a.getD idx 0 ≠ 0 →
      ∀ i : Fin d, SuppOK (a.shape.getD i.val 0) (t i) ((idx.getD i.val 0 : Nat) : Int))
    (k : Fin d) :
    mass (rigidLinearArr a (ident d) t c) = mass a ∧
    moment (rigidLinearArr a (ident d) t c) k.val = moment a k.val + t k * mass a := by
  have hs := fun idx h hne => suppL_of_axes a t hd idx h (hsupp idx h hne)
  have hout := fun idx h => (rigidLinearArr_translation a t c hd idx h).2
  have hlen : (List.ofFn t).length = a.shape.length := List.length_ofFn.trans hd.symm
  refine ⟨shift_mass a (rigidLinearArr a (ident d) t c) (List.ofFn t) hlen rfl hout hs, ?_⟩
  rw [shift_moment a (rigidLinearArr a (ident d) t c) (List.ofFn t) hlen rfl hout hs k.val (hd ▸ k.isLt),
    List.getD_eq_getElem?_getD, List.getElem?_ofFn, dif_pos k.isLt]
  rfl

/-- **the centre of mass moves by exactly `t`** (pure translation, shifted support inside, non-zero mass) -/
theorem translation_centre_of_mass {d : Nat} (a : Arr Rat) (t c : Vec d Rat) (hd : a.shape.length = d)
    (hsupp : ∀ idx, inShape a.shape idx = true → a.getD idx 0 ≠ 0 →
      ∀ i : Fin d, SuppOK (a.shape.getD i.val 0) (t i) ((idx.getD i.val 0 : Nat) : Int))
    (hm : mass a ≠ 0) (k : Fin d) :
    moment (rigidLinearArr a (ident d) t c) k.val / mass (rigidLinearArr a (ident d) t c) =
      moment a k.val / mass a + t k := by
  obtain ⟨h1, h2⟩ := translation_mass_and_first_moment a t c hd hsupp k
  rw [h1, h2, add_div, mul_div_assoc, div_self hm, mul_one]

/-- … stated for the model of the backend's own `center_of_mass(arr, cutoff=0)` (the centre `rigid_transform` uses by
default): on non-negative data with non-zero mass, `centerOfMass(out) = centerOfMass(a) + t` on every axis -/
theorem translation_centerOfMass {d : Nat} (a : Arr Rat) (t c : Vec d Rat) (hd : a.shape.length = d)
    (hsupp : ∀ idx, inShape a.shape idx = true → a.getD idx 0 ≠ 0 →
      ∀ i : Fin d, SuppOK (a.shape.getD i.val 0) (t i) ((idx.getD i.val 0 : Nat) : Int))
    (hpos : ∀ idx, inShape a.shape idx = true → 0 ≤ a.getD idx 0) (hm : mass a ≠ 0) (k : Fin d) :
    (centerOfMass (rigidLinearArr a (ident d) t c) 0).getD k.val 0 = (centerOfMass a 0).getD k.val 0 + t k := by
  have hpos' : ∀ idx, inShape (rigidLinearArr a (ident d) t c).shape idx = true →
      0 ≤ (rigidLinearArr a (ident d) t c).getD idx 0 := by
    intro idx h
    rw [(rigidLinearArr_translation a t c hd idx h).2]
    exact linInterp_nonneg a _ hpos
  rw [centerOfMass_eq a hpos, centerOfMass_eq _ hpos']
  have hsh : (rigidLinearArr a (ident d) t c).shape.length = a.shape.length := rfl
  have hk : k.val < a.shape.length := by rw [hd]; exact k.isLt
  rw [hsh, getD_map_range _ 0 _ _ hk, getD_map_range _ 0 _ _ hk]
  exact translation_centre_of_mass a t c hd hsupp hm k

/-! ## non-vacuity of the order-1 theorems (instances in `Proofs/C06Examples.lean`) -/

example := linInterp_guard exA2 [1/2, 9/4]
example : linInterp exA2 [-1/2, 1] = 0 ∧ linInterp exA2 [1/2, 17/4] = 0 ∧ linInterp exA2 [1/2, 9/4] = 15/8 := by decide +kernel
example := linear_weights_partition_of_unity [1/2, 9/4, -7/3]
example : linCorners [1/2, 9/4] = [([0, 2], 3/8), ([0, 3], 1/8), ([1, 2], 3/8), ([1, 3], 1/8)] := by decide +kernel
example := linInterp_closed_forms exRamp [1/2, 9/4] exInside
example : (0 : Rat) ≤ linInterp exA2 [3/2, 7/4] ∧ linInterp exA2 [3/2, 7/4] ≤ 7 :=
  linInterp_range exA2 [3/2, 7/4] 0 7 ((insideL_iff _ _).2 ⟨rfl, by decide +kernel⟩) exA2_range
example : linInterp exConst [1/2, 9/4] = 5 := linInterp_constant exConst _ 5 exInside exConst_const
example : linInterp exA2 ([2, 2].map (fun (z : Int) => (z : Rat))) = exA2.getI [2, 2] 0 := linInterp_grid_point exA2 [2, 2]
example : exA2.getI [2, 2] 0 = 7 ∧ exA2.getI [2, 5] 0 = 0 ∧ exA2.getI [-1, 2] 0 = 0 := by decide +kernel
example : linInterp exRamp [1/2, 9/4] = 2 + dotL [3, -1/2] [1/2, 9/4] :=
  linInterp_affine_exact exRamp _ 2 [3, -1/2] exInside exRamp_affine
example : linInterp exRamp [1/2, 9/4] = 19/8 := by decide +kernel
-- outside the array nothing of this holds (zero fill): the hypothesis `InsideL` matters
example : linInterp exConst [1/2, 7/2] = 0 := by decide +kernel
-- the 3-4-5 rotation about (5/2, 3) with a translation: output voxel (1, 2) is read at (4/5, 13/5), inside the ramp
example := rigidLinear_eq_pullback exRamp exRqinv (vecOfList 2 [0, 1]) exC (vecOfList 2 [1, 2])
example := rigidLinear_interior exRamp exRqinv (vecOfList 2 [0, 1]) exC (vecOfList 2 [1, 2])
  ((insideL_iff _ _).2 ⟨rfl, by decide +kernel⟩)
example : List.ofFn (pullback exRqinv (vecOfList 2 [0, 1]) exC (vecOfList 2 [1, 2])) = [4/5, 13/5] ∧
    rigidLinear exRamp exRqinv (vecOfList 2 [0, 1]) exC (vecOfList 2 [1, 2]) = 2 + 3 * (4/5) - (13/5) / 2 := by decide +kernel
-- the mirror of axis 0 with an integer translation on the 4 × 5 array: grid model and order-1 model agree
example : gridTransform (fun i : Fin 2 => if i.val = 0 then 4 else 5) (matOfRows 2 [[-1, 0], [0, 1]]) (vecOfList 2 [1, 0])
    (fnOfArr exA2) (vecOfList 2 [0, 2]) = some 7 := by decide +kernel
example := rigidLinear_on_grid exA2 (fun i : Fin 2 => if i.val = 0 then 4 else 5) (by decide +kernel) (matOfRows 2 [[-1, 0], [0, 1]])
  (vecOfList 2 [1, 0]) (vecOfList 2 [0, 2]) 7 (by decide +kernel)
example := rigidLinear_grid_point exA2 (ident 2) (vecOfList 2 [1/2, -3/4]) exC2 (vecOfList 2 [3/2, 5/4]) (vecOfList 2 [1, 2])
  (by decide +kernel)
example := rigidLinear_grid_perm (Arr.ofFn [5, 6, 5] (fun idx => ((idx.getD 0 0 + 10 * idx.getD 1 0 + 100 * idx.getD 2 0 : Nat) : Rat)))
  exN3 (by decide +kernel) exR3 exR3inv exQ3 exS3 exR3_signed exN3_inv exR3_inv exX3 (by decide +kernel)
example : rigidLinear exA2 (ident 2) (fun _ => 0) exC2 (fun i => (((vecOfList 2 [2, 2] : Vec 2 Int) i : Int) : Rat)) =
    exA2.getI (List.ofFn (vecOfList 2 [2, 2] : Vec 2 Int)) 0 := rigidLinear_identity exA2 _ exC2
example := rigidLinearArr_getD exA2 exRqinv exT exC [1, 2] rfl
example := rigidLinear_translation exA2 exT2 exC2 (vecOfList 2 [2, 1])
example : rigidLinear exA2 (ident 2) (fun i => ((vecOfList 2 [1, -1] i : Int) : Rat)) exC2 (fun i => ((vecOfList 2 [2, 1] i : Int) : Rat)) =
    exA2.getI (List.ofFn (fun i => vecOfList 2 [2, 1] i - vecOfList 2 [1, -1] i)) 0 :=
  rigidLinear_int_translation exA2 (vecOfList 2 [1, -1]) (vecOfList 2 [2, 1]) exC2
example : exA2.getI (List.ofFn (fun i => (vecOfList 2 [2, 1] : Vec 2 Int) i - (vecOfList 2 [1, -1] : Vec 2 Int) i)) 0 = 5 := by decide +kernel
example : SuppOK 5 (-3/4 : Rat) 1 ∧ ¬ SuppOK 5 (-3/4 : Rat) 0 ∧ ¬ SuppOK 4 (1/2 : Rat) 0 := by decide +kernel
example := (suppOK_iff 5 (-3/4) 1).1 (by decide +kernel)
example := rigidLinearArr_translation exA2 exT2 exC2 rfl [1, 2] rfl
example : (rigidLinearArr exA2 (ident 2) exT2 exC2).toList =
    [0, 0, 0, 0, 0, 9/8, 9/4, 5/8, 0, 0, 15/8, 41/8, 3/2, 0, 0, 3/4, 23/8, 7/8, 0, 0] := by
  rw [rigidLinearArr_translation_eq]; decide +kernel
example := translation_affine_functional exA2 exT2 exC2 rfl exA2_supp 1 [2, -1]
example : mass (rigidLinearArr exA2 (ident 2) exT2 exC2) = mass exA2 ∧
    moment (rigidLinearArr exA2 (ident 2) exT2 exC2) 1 = moment exA2 1 + exT2 1 * mass exA2 :=
  translation_mass_and_first_moment exA2 exT2 exC2 rfl exA2_supp 1
example : mass exA2 = 17 ∧ moment exA2 0 = 26 ∧ moment exA2 1 = 29 ∧
    moment (rigidLinearArr exA2 (ident 2) exT2 exC2) 0 = 26 + 17 / 2 ∧
    moment (rigidLinearArr exA2 (ident 2) exT2 exC2) 1 = 29 - 3 * 17 / 4 := by
  -- the input is evaluated; the moments of the output are the shifted ones by the theorem
  have h (k : Fin 2) := (translation_mass_and_first_moment exA2 exT2 exC2 rfl exA2_supp k).2
  have hm : mass exA2 = 17 ∧ moment exA2 0 = 26 ∧ moment exA2 1 = 29 := by decide +kernel
  exact ⟨hm.1, hm.2.1, hm.2.2,
    (h 0).trans (show moment exA2 0 + exT2 0 * mass exA2 = _ by rw [hm.1, hm.2.1]; decide +kernel),
    (h 1).trans (show moment exA2 1 + exT2 1 * mass exA2 = _ by rw [hm.1, hm.2.2]; decide +kernel)⟩
example := translation_centre_of_mass exA2 exT2 exC2 rfl exA2_supp (by decide +kernel) 0
example := (linInterp_global_bounds exA2 [3/2, 7/4]).1 (fun idx h => (exA2_range idx h).1)
example : |linInterp exA2 [3/2, 17/4]| ≤ 7 := (linInterp_global_bounds exA2 [3/2, 17/4]).2 7 (by norm_num)
  (fun idx h => abs_le.2 ⟨by have := (exA2_range idx h).1; linarith, (exA2_range idx h).2⟩)
example := linear_interpolation_any_field (K := Rat) [1/2, 9/4] (fun is => exRamp.getI is 0)
example : Relevant [(1/2 : Rat), 2] [1, 2] ∧ ¬ Relevant [(1/2 : Rat), 2] [1, 3] := by
  constructor
  · exact List.Forall₂.cons (Or.inr ⟨by decide +kernel, by decide +kernel⟩) (List.Forall₂.cons (Or.inl (by decide +kernel)) List.Forall₂.nil)
  · intro h
    rcases (List.forall₂_cons.1 (List.forall₂_cons.1 h).2).1 with h1 | ⟨_, h2⟩
    · revert h1; decide +kernel
    · revert h2; decide +kernel
example : (centerOfMass (rigidLinearArr exA2 (ident 2) exT2 exC2) 0).getD 1 0 = (centerOfMass exA2 0).getD 1 0 + exT2 1 :=
  translation_centerOfMass exA2 exT2 exC2 rfl exA2_supp (fun idx h => (exA2_range idx h).1) (by decide +kernel) 1
example : centerOfMass exA2 0 = [26/17, 29/17] ∧
    centerOfMass (rigidLinearArr exA2 (ident 2) exT2 exC2) 0 = [26/17 + 1/2, 29/17 - 3/4] := by
  rw [rigidLinearArr_translation_eq]; decide +kernel
-- a voxel on the border loses mass under a half-voxel shift (its lower neighbour is read at −1/2, outside): the
-- support hypothesis matters
example : mass (rigidLinearArr (⟨[3], #[4, 0, 0]⟩ : Arr Rat) (ident 1) (fun _ => 1/2) (fun _ => 1)) = 2 := by decide +kernel

/-! ## `Density.rigid_transform`: the clean-up of interpolation noise does not depend on the absolute intensity

The property is scale-free (the transform is linear: identity, grid permutation, shift and centre-of-mass rule hold for
`s·f` iff they hold for `f`).  `cleanNoise` is the wrapper's clean-up step: threshold `eps · max|out|`.  With a threshold
*in absolute terms*, `|v| < eps` (`cleanNoiseAbs`), maps of small absolute intensity are emptied (`cleanNoiseAbs_old_defect`). -/
section cleanNoise
variable {K : Type} [Field K] [LinearOrder K] [IsStrictOrderedRing K]

/-- the clean-up commutes with every positive rescaling of the map, for every threshold factor -/
theorem cleanNoise_scale (eps s : K) (hs : 0 < s) (l : List K) :
    cleanNoise eps (l.map (s * ·)) = (cleanNoise eps l).map (s * ·) := by
  simp only [cleanNoise, absMax_scale s hs.le, List.map_map]
  apply List.map_congr_left
  intro v _
  have h : absV (s * v) < eps * (s * absMax l) ↔ absV v < eps * absMax l := by
    rw [absV_scale hs.le, mul_left_comm]
    exact mul_lt_mul_iff_right₀ hs
  simp only [Function.comp, h, mul_ite, mul_zero]

/-- no voxel changes by more than `eps · max|out|` (float resolution of the largest value) -/
theorem cleanNoise_error (eps : K) (h0 : 0 ≤ eps) (l : List K) (i : Nat) (h : i < l.length) :
    |(cleanNoise eps l)[i]'(by simpa [cleanNoise] using h) - l[i]| ≤ eps * absMax l := by
  simp only [cleanNoise, List.getElem_map]
  by_cases hv : absV l[i] < eps * absMax l
  · rw [if_pos hv, zero_sub, abs_neg, ← absV_eq_abs]; exact hv.le
  · rw [if_neg hv, sub_self, abs_zero]; exact mul_nonneg h0 (absMax_nonneg l)

omit [IsStrictOrderedRing K] in
/-- values that are `0` or at least `eps · max|out|` in magnitude are kept: on data whose dynamic range is below
`1/eps` the wrapper returns exactly what the backend wrote (so `grid_perm`, `identity_id`, `int_translation_shift`
transfer to `Density.rigid_transform` unchanged) -/
theorem cleanNoise_id (eps : K) (l : List K) (h : ∀ v ∈ l, v = 0 ∨ eps * absMax l ≤ absV v) : cleanNoise eps l = l := by
  simp only [cleanNoise]
  conv_rhs => rw [← List.map_id l]
  apply List.map_congr_left
  intro v hv
  rcases h v hv with rfl | h'
  · simp
  · rw [if_neg (not_lt.mpr h')]; rfl

end cleanNoise

/-- before the repair: a float32 map (`eps = 2⁻²³`) with values `1·2⁻³⁰ … 9·2⁻³⁰` came back empty from the identity
transform, although the backend had written it unchanged; the repaired step keeps it -/
theorem cleanNoiseAbs_old_defect :
    cleanNoiseAbs (1 / 8388608 : Rat) [1 / 1073741824, 9 / 1073741824] = [0, 0] ∧
    cleanNoise (1 / 8388608 : Rat) [1 / 1073741824, 9 / 1073741824] = [1 / 1073741824, 9 / 1073741824] := by
  constructor <;> decide +kernel

example : cleanNoise (1 / 8 : Rat) ([1, 9, -2].map ((3 : Rat) * ·)) = (cleanNoise (1 / 8 : Rat) [1, 9, -2]).map ((3 : Rat) * ·) :=
  cleanNoise_scale _ _ (by norm_num) _
example : cleanNoise (1 / 8 : Rat) [1, 9, -2] = [0, 9, -2] := by decide +kernel
example := cleanNoise_error (1 / 8 : Rat) (by norm_num) [1, 9, -2] 0 (by decide)
example : cleanNoise (1 / 8388608 : Rat) [0, 3, -5, 9] = [0, 3, -5, 9] :=
  cleanNoise_id _ _ (by decide +kernel)

/-! ## composition, round trip and injectivity of the transforms; data and mask read from one source -/

/-- composition of the forward maps of two rotations about the same centre is the forward map of the product `R₂·R₁` -/
theorem forward_comp {α : Type} [CommRing α] {d : Nat} (R1 R2 : Mat d α) (c x : Vec d α) :
    forward R2 (fun _ => 0) c (forward R1 (fun _ => 0) c x) = forward (matMul R2 R1) (fun _ => 0) c x := by
  funext i
  simp only [forward, add_zero, add_sub_cancel_right, matVec_matVec]

/-- two pure translations compose additively, whatever the centre: shift `a` then shift `b` is shift `a + b` -/
theorem forward_translation_comp {α : Type} [CommRing α] {d : Nat} (a b c x : Vec d α) :
    forward (ident d) b c (forward (ident d) a c x) = forward (ident d) (fun i => a i + b i) c x := by
  funext i
  simp only [forward_translation_only]
  ring

/-- the pull-backs (what the resampler evaluates) compose contravariantly: reading through `B` and then through `A` about
the same centre is reading through `A·B`, the inverse of the product rotation -/
theorem pullback_comp {α : Type} [CommRing α] {d : Nat} (A B : Mat d α) (c o : Vec d α) :
    pullback A (fun _ => 0) c (pullback B (fun _ => 0) c o) = pullback (matMul A B) (fun _ => 0) c o := by
  funext i
  simp only [pullback, sub_zero, add_sub_cancel_right, matVec_matVec]

/-- **composition of two grid transforms is the transform of the product**: `g` is the output of the first transform
(inverse matrix `A`), the second (inverse matrix `B`) reads voxel `o` at the voxel `m` of the array; then transforming `g`
gives at `o` exactly what the single transform with inverse matrix `A·B` gives on the original data -/
theorem grid_compose {α : Type} [Zero α] {d : Nat} (n : Fin d → Nat) (A B : Mat d Int) (f g : Vec d Int → α)
    (o m : Vec d Int) (hm : ∀ i, pull2 n B (fun _ => 0) o i = 2 * m i) (hmb : inBox n m = true)
    (hg : ∀ y, inBox n y = true → gridTransform n A (fun _ => 0) f y = some (g y)) :
    gridTransform n B (fun _ => 0) g o = gridTransform n (matMul A B) (fun _ => 0) f o := by
  have h1 : pull2 n B (fun _ => 0) o = fun i => 2 * m i := funext hm
  have h2 := hg m hmb
  have h3 : gridTransform n B (fun _ => 0) g o = some (g m) := by
    simp only [gridTransform, h1, resample_double, hmb]
    rfl
  rw [h3, ← h2]
  simp only [gridTransform, pull2_comp n A B o m hm]

/-- **composition of two grid rotations, whole array**: when the second inverse matrix is a signed permutation leaving the
shape invariant, transforming the output `g` of the first transform equals, at every voxel, the single transform of the
original data with the product matrix (no interpolation at either step) -/
theorem grid_compose_signedPerm {α : Type} [Zero α] {d : Nat} (n : Fin d → Nat) (A B : Mat d Int)
    (q : Fin d → Fin d) (s : Fin d → Int) (hB : IsSignedPerm B q s) (hn : ∀ i, n (q i) = n i)
    (f g : Vec d Int → α) (hg : ∀ y, inBox n y = true → gridTransform n A (fun _ => 0) f y = some (g y))
    (o : Vec d Int) (ho : inBox n o = true) :
    gridTransform n B (fun _ => 0) g o = gridTransform n (matMul A B) (fun _ => 0) f o := by
  obtain ⟨m, hmb, hm⟩ := push2_signedPerm_box hB n hn o ho
  exact grid_compose n A B f g o m (fun i => by rw [pull2_eq_push2]; exact hm i) hmb hg

/-- **round trip**: transforming with a grid rotation and then with its inverse (signed permutation leaving the shape
invariant, e.g. any axis-aligned rotation of a cubic grid) returns the original array exactly, voxel by voxel -/
theorem grid_round_trip {α : Type} [Zero α] {d : Nat} (n : Fin d → Nat) (A B : Mat d Int)
    (q : Fin d → Fin d) (s : Fin d → Int) (hB : IsSignedPerm B q s) (hn : ∀ i, n (q i) = n i)
    (hAB : matMul A B = ident d) (f g : Vec d Int → α)
    (hg : ∀ y, inBox n y = true → gridTransform n A (fun _ => 0) f y = some (g y))
    (o : Vec d Int) (ho : inBox n o = true) :
    gridTransform n B (fun _ => 0) g o = some (f o) := by
  rw [grid_compose_signedPerm n A B q s hB hn f g hg o ho, hAB]
  exact identity_id n f o ho

/-- **no value is duplicated**: for an invertible integer matrix (any integer translation) two different output voxels are
never read from the same source position; with `grid_perm` / `grid_perm_onto` the values of a grid rotation are a
rearrangement of the input values, so their total (mass) is unchanged -/
theorem pull2_injective {d : Nat} (n : Fin d → Nat) (R rinv : Mat d Int) (t o o' : Vec d Int)
    (hinv : matMul R rinv = ident d) (h : pull2 n rinv t o = pull2 n rinv t o') : o = o' := by
  have h1 : matVec rinv (fun j => 2 * o j - ((n j : Int) - 1)) = matVec rinv (fun j => 2 * o' j - ((n j : Int) - 1)) :=
    funext fun i => add_right_cancel (sub_left_inj.1 (congrFun h i))
  have h3 := congrArg (matVec R) h1
  rw [matVec_cancel hinv, matVec_cancel hinv] at h3
  exact funext fun i => Int.eq_of_mul_eq_mul_left (by decide) (sub_left_inj.1 (congrFun h3 i))

/-- **translation composition with zero fill**: shifting by `a` and then by `b` (`g` = output of the first shift) gives
`f[o − b − a]` when both the intermediate position `o − b` and the source `o − b − a` are voxels of the array, else `0`:
data that left the grid at the intermediate step does not come back -/
theorem int_translation_compose {α : Type} [Zero α] {d : Nat} (n : Fin d → Nat) (a b : Vec d Int)
    (f g : Vec d Int → α) (hg : ∀ y, inBox n y = true → gridTransform n (ident d) a f y = some (g y)) (o : Vec d Int) :
    gridTransform n (ident d) b g o =
      some (if inBox n (fun i => o i - b i) then
        (if inBox n (fun i => o i - b i - a i) then f (fun i => o i - b i - a i) else 0) else 0) := by
  rw [int_translation_shift]
  split
  · rename_i hb
    have h2 := hg _ hb
    rw [int_translation_shift] at h2
    simp only [Option.some.injEq] at h2
    rw [← h2]
  · rfl

/-- … so wherever the intermediate position is inside the array the two shifts are the single shift by `a + b` -/
theorem int_translation_compose_add {α : Type} [Zero α] {d : Nat} (n : Fin d → Nat) (a b : Vec d Int)
    (f g : Vec d Int → α) (hg : ∀ y, inBox n y = true → gridTransform n (ident d) a f y = some (g y)) (o : Vec d Int)
    (hb : inBox n (fun i => o i - b i) = true) :
    gridTransform n (ident d) b g o = gridTransform n (ident d) (fun i => a i + b i) f o := by
  rw [int_translation_compose n a b f g hg o, if_pos hb, int_translation_shift]
  have : (fun i => o i - (a i + b i)) = fun i => o i - b i - a i := by funext i; omega
  rw [this]

/-- **shift there and back**: shifting by `t` and then by `−t` returns `f[o]` at every voxel whose intermediate position
`o + t` stayed on the grid, and `0` (zero fill, data lost) at the others -/
theorem int_translation_round_trip {α : Type} [Zero α] {d : Nat} (n : Fin d → Nat) (t : Vec d Int)
    (f g : Vec d Int → α) (hg : ∀ y, inBox n y = true → gridTransform n (ident d) t f y = some (g y)) (o : Vec d Int)
    (ho : inBox n o = true) :
    gridTransform n (ident d) (fun i => - t i) g o = some (if inBox n (fun i => o i + t i) then f o else 0) := by
  rw [int_translation_compose n t (fun i => - t i) f g hg o]
  have h1 : (fun i => o i - -t i) = fun i => o i + t i := by funext i; omega
  have h2 : (fun i => o i - -t i - t i) = o := by funext i; omega
  rw [h1, h2, ho]
  rfl

/-- **the mask is moved by exactly the same index map, pointwise**: for every output voxel either both data and mask are
interpolated, or there is one source voxel `src` that both are read from (both zero-filled when `src` is outside) -/
theorem mask_pointwise_same_source {α : Type} [Zero α] {d : Nat} (n : Fin d → Nat) (rinv : Mat d Int) (t : Vec d Int)
    (f g : Vec d Int → α) (o : Vec d Int) :
    (gridTransform n rinv t f o = none ∧ gridTransform n rinv t g o = none) ∨
    ∃ src : Vec d Int, (∀ i, pull2 n rinv t o i = 2 * src i) ∧
      gridTransform n rinv t f o = some (if inBox n src then f src else 0) ∧
      gridTransform n rinv t g o = some (if inBox n src then g src else 0) := by
  rcases even_or_odd (pull2 n rinv t o) with ⟨src, hs⟩ | hodd
  · exact Or.inr ⟨src, congrFun hs, by rw [gridTransform, hs, resample_double],
      by rw [gridTransform, hs, resample_double]⟩
  · exact Or.inl ⟨resample_of_odd n f hodd, resample_of_odd n g hodd⟩

/-- **data and mask values land on the same voxel**: whenever the image of voxel `x` is the grid point `y`, the data
output at `y` is the data at `x` and the mask output at `y` is the mask at `x` (`rigid_transform` with `arr_mask`) -/
theorem mask_value_lands {α : Type} [Zero α] {d : Nat} (n : Fin d → Nat) (R rinv : Mat d Int) (t x y : Vec d Int)
    (f g : Vec d Int → α) (hinv : matMul rinv R = ident d) (hy : ∀ i, push2 n R t x i = 2 * y i) :
    (rigidGrid n rinv t f (some g)).1 y = some (if inBox n x then f x else 0) ∧
    (rigidGrid n rinv t f (some g)).2.map (fun G => G y) = some (some (if inBox n x then g x else 0)) := by
  refine ⟨grid_value_lands n R rinv t x y f hinv hy, ?_⟩
  simp only [rigidGrid, Option.map_some]
  rw [grid_value_lands n R rinv t x y g hinv hy]

/-! ## coordinate version: translation and centre enter additively, the mask moves with the set, bounding box -/

/-- coordinate version, default branch: the translation enters additively for data and mask — transforming with `t` is
transforming with `0` and adding `t` to every point (any matrix, any centre) -/
theorem coords_translation_additive {K : Type} [Field K] {N M d : Nat} (x : Fin N → Vec d K)
    (R : Mat d K) (t : Vec d K) (center : Option (Vec d K)) (mask : Fin M → Vec d K) (i : Fin d) :
    (∀ k, (coordsTransform x R t center mask).1 k i = (coordsTransform x R (fun _ => 0) center mask).1 k i + t i) ∧
    (∀ k, (coordsTransform x R t center mask).2 k i = (coordsTransform x R (fun _ => 0) center mask).2 k i + t i) := by
  constructor <;> intro k <;> simp only [coordsTransform, coordsCore] <;> ring

/-- coordinate version, default branch: a mask point keeps its position relative to every coordinate point up to the
rotation, `mask'ₖ − x'ₗ = R(maskₖ − xₗ)` (the mask is moved by the same rigid map) -/
theorem coords_mask_relative {K : Type} [Field K] {N M d : Nat} (x : Fin N → Vec d K)
    (R : Mat d K) (t : Vec d K) (center : Option (Vec d K)) (mask : Fin M → Vec d K) (k : Fin M) (l : Fin N) (i : Fin d) :
    (coordsTransform x R t center mask).2 k i - (coordsTransform x R t center mask).1 l i =
      matVec R (fun j => mask k j - x l j) i :=
  moved_sub_moved R (mask k) (x l) _ _ i

/-- … hence squared distances between mask points and coordinate points are preserved when `RᵀR = 1` -/
theorem coords_mask_dist_preserved {K : Type} [Field K] {N M d : Nat} (x : Fin N → Vec d K)
    (R : Mat d K) (hR : matMul (transpose R) R = ident d) (t : Vec d K) (center : Option (Vec d K))
    (mask : Fin M → Vec d K) (k : Fin M) (l : Fin N) :
    ∑ i, ((coordsTransform x R t center mask).2 k i - (coordsTransform x R t center mask).1 l i) *
         ((coordsTransform x R t center mask).2 k i - (coordsTransform x R t center mask).1 l i)
      = ∑ i, (mask k i - x l i) * (mask k i - x l i) :=
  dist_sq_of_diff R hR (coords_mask_relative x R t center mask k l)

/-- `use_geometric_center=True` branch: the mask is moved by the same map as the coordinates, `mask'ₖ − x'ₗ = R(maskₖ − xₗ)` -/
theorem coords_geo_mask_relative {K : Type} [Field K] [Max K] [Min K] {N M d : Nat} (hf : K → K)
    (x : Fin (N+1) → Vec d K) (R : Mat d K) (t : Vec d K) (center : Option (Vec d K)) (mask : Fin M → Vec d K)
    (k : Fin M) (l : Fin (N+1)) (i : Fin d) :
    (coordsTransformGeo hf x R t center mask).2 k i - (coordsTransformGeo hf x R t center mask).1 l i =
      matVec R (fun j => mask k j - x l j) i :=
  (add_sub_add_right_eq_sub _ _ _).trans (matVec_sub R (mask k) (x l) i).symm

/-- … and mask-to-coordinate squared distances are preserved by the `use_geometric_center=True` branch when `RᵀR = 1` -/
theorem coords_geo_mask_dist_preserved {K : Type} [Field K] [Max K] [Min K] {N M d : Nat} (hf : K → K)
    (x : Fin (N+1) → Vec d K) (R : Mat d K) (hR : matMul (transpose R) R = ident d) (t : Vec d K)
    (center : Option (Vec d K)) (mask : Fin M → Vec d K) (k : Fin M) (l : Fin (N+1)) :
    ∑ i, ((coordsTransformGeo hf x R t center mask).2 k i - (coordsTransformGeo hf x R t center mask).1 l i) *
         ((coordsTransformGeo hf x R t center mask).2 k i - (coordsTransformGeo hf x R t center mask).1 l i)
      = ∑ i, (mask k i - x l i) * (mask k i - x l i) :=
  dist_sq_of_diff R hR (coords_geo_mask_relative hf x R t center mask k l)

/-- `use_geometric_center=True` branch: centre and translation enter additively — the output is the output for centre `0`
and translation `0`, moved by `centre + t` (data and mask alike) -/
theorem coords_geo_centre_translation_additive {K : Type} [Field K] [Max K] [Min K] {N M d : Nat} (hf : K → K)
    (x : Fin (N+1) → Vec d K) (R : Mat d K) (t c : Vec d K) (mask : Fin M → Vec d K) (i : Fin d) :
    (∀ k, (coordsTransformGeo hf x R t (some c) mask).1 k i =
      (coordsTransformGeo hf x R (fun _ => 0) (some (fun _ => 0)) mask).1 k i + c i + t i) ∧
    (∀ k, (coordsTransformGeo hf x R t (some c) mask).2 k i =
      (coordsTransformGeo hf x R (fun _ => 0) (some (fun _ => 0)) mask).2 k i + c i + t i) := by
  constructor <;> intro k <;> simp only [coordsTransformGeo, coordsGeoCore, Option.getD_some] <;> ring

/-- coordinate version with the identity matrix: a pure translation of every point and every mask point by `t`
(in particular the identity transform leaves coordinates and mask unchanged) -/
theorem coords_pure_translation {K : Type} [Field K] {N M d : Nat} (hN : (N : K) ≠ 0) (x : Fin N → Vec d K)
    (t : Vec d K) (mask : Fin M → Vec d K) (i : Fin d) :
    (∀ k, (coordsTransform x (ident d) t none mask).1 k i = x k i + t i) ∧
    (∀ k, (coordsTransform x (ident d) t none mask).2 k i = mask k i + t i) := by
  constructor <;> intro k
  · simp only [coords_formula_default hN, matVec_ident]; ring
  · simp only [coords_mask_same_map hN, matVec_ident, Option.getD_none]; ring

/-- **`use_geometric_center=True` places the bounding box**: with `ext` the extent of the rotated set along axis `i`, the
transformed set has its maximum at `centre + t + ext // 2` and its minimum at `centre + t + ext // 2 − ext`, i.e. the
box is centred on `centre + t` up to the floor division of the code -/
theorem coords_geo_bounding_box {K : Type} [Field K] [LinearOrder K] [IsStrictOrderedRing K] {N M d : Nat} (hf : K → K)
    (x : Fin (N+1) → Vec d K) (R : Mat d K) (t : Vec d K) (center : Option (Vec d K)) (mask : Fin M → Vec d K)
    (i : Fin d) :
    maxFin N (fun k => (coordsTransformGeo hf x R t center mask).1 k i) =
      (center.getD (mean x)) i + t i +
        hf (maxFin N (fun k => matVec R (x k) i) - minFin N (fun k => matVec R (x k) i)) ∧
    minFin N (fun k => (coordsTransformGeo hf x R t center mask).1 k i) =
      (center.getD (mean x)) i + t i +
        hf (maxFin N (fun k => matVec R (x k) i) - minFin N (fun k => matVec R (x k) i)) -
        (maxFin N (fun k => matVec R (x k) i) - minFin N (fun k => matVec R (x k) i)) := by
  -- every point of the output is `R x_k` plus one common vector
  refine ⟨(maxFin_add_const N (fun k => matVec R (x k) i) _).trans ?_,
    (minFin_add_const N (fun k => matVec R (x k) i) _).trans ?_⟩ <;> ring

/-! ## total mass on the grid (`S` is the index box as a finite set) -/

/-- the total of an integer shift is the total of the input over the set `T` of voxels that stay on the grid (each output
voxel with a source inside the box reads a different input voxel) -/
theorem shift_sum {K : Type} [Field K] {d : Nat} (n : Fin d → Nat)
    (S : Finset (Vec d Int)) (hS : ∀ x, x ∈ S ↔ inBox n x = true) (f : Vec d Int → K) (t : Vec d Int) :
    ∃ T : Finset (Vec d Int), T ⊆ S ∧ (∀ x ∈ S, inBox n (fun i => x i + t i) = true → x ∈ T) ∧
      ∑ o ∈ S, (gridTransform n (ident d) t f o).getD 0 = ∑ x ∈ T, f x := by
  refine ⟨(S.filter (fun o => inBox n (fun i => o i - t i) = true)).image (fun o i => o i - t i), ?_, ?_, ?_⟩
  · intro x hx
    obtain ⟨o, ho, rfl⟩ := Finset.mem_image.mp hx
    exact (hS _).mpr (Finset.mem_filter.mp ho).2
  · intro x hx hb
    have hx' : (fun i => (fun i => x i + t i) i - t i) = x := funext fun i => Int.add_sub_cancel (x i) (t i)
    exact Finset.mem_image.mpr ⟨fun i => x i + t i,
      Finset.mem_filter.mpr ⟨(hS _).mpr hb, by rw [hx']; exact (hS x).mp hx⟩, hx'⟩
  · simp only [int_translation_shift, Option.getD_some]
    rw [← Finset.sum_filter, Finset.sum_image]
    intro a _ b _ h
    exact funext fun i => sub_left_inj.1 (congrFun h i)

/-- **mass is never increased by an integer shift of non-negative data** (zero fill only removes what leaves the grid) -/
theorem shift_mass_le {K : Type} [Field K] [LinearOrder K] [IsStrictOrderedRing K] {d : Nat} (n : Fin d → Nat)
    (S : Finset (Vec d Int)) (hS : ∀ x, x ∈ S ↔ inBox n x = true) (f : Vec d Int → K) (hf : ∀ x, 0 ≤ f x)
    (t : Vec d Int) :
    ∑ o ∈ S, (gridTransform n (ident d) t f o).getD 0 ≤ ∑ x ∈ S, f x := by
  obtain ⟨T, hT, _, h⟩ := shift_sum n S hS f t
  rw [h]
  exact Finset.sum_le_sum_of_subset_of_nonneg hT (fun x _ _ => hf x)

/-- **total mass is preserved by every grid rotation** (signed permutation leaving the shape invariant, e.g. any
axis-aligned rotation of a cubic grid): the output values are a rearrangement of the input values -/
theorem grid_mass_preserved {K : Type} [Field K] {d : Nat} (n : Fin d → Nat) (R rinv : Mat d Int)
    (q : Fin d → Fin d) (s : Fin d → Int) (hRi : IsSignedPerm rinv q s) (hn : ∀ i, n (q i) = n i)
    (hinv : matMul R rinv = ident d) (S : Finset (Vec d Int)) (hS : ∀ x, x ∈ S ↔ inBox n x = true)
    (f : Vec d Int → K) :
    ∑ o ∈ S, (gridTransform n rinv (fun _ => 0) f o).getD 0 = ∑ x ∈ S, f x := by
  -- `σ o` is the voxel that output voxel `o` is read from: `σ` maps the box into itself injectively, hence onto
  have key : ∀ o ∈ S, ∃ x, x ∈ S ∧ (∀ i, push2 n R (fun _ => 0) x i = 2 * o i) ∧
      gridTransform n rinv (fun _ => 0) f o = some (f x) := fun o ho => by
    obtain ⟨x, h1, h2, h3⟩ := grid_perm_onto n R rinv q s hRi hn hinv f o ((hS o).mp ho)
    exact ⟨x, (hS x).mpr h1, h2, h3⟩
  choose! σ hσ using key
  have h1 : ∑ o ∈ S, (gridTransform n rinv (fun _ => 0) f o).getD 0 = ∑ o ∈ S, f (σ o) :=
    Finset.sum_congr rfl (fun o ho => by rw [(hσ o ho).2.2]; rfl)
  have hinj : Set.InjOn σ ↑S := by
    intro a ha b hb hab
    funext i
    have e1 := (hσ a (Finset.mem_coe.mp ha)).2.1 i
    have e2 := (hσ b (Finset.mem_coe.mp hb)).2.1 i
    rw [hab] at e1
    omega
  have himg : S.image σ = S :=
    Finset.eq_of_subset_of_card_le
      (by intro x hx; obtain ⟨o, ho, rfl⟩ := Finset.mem_image.mp hx; exact (hσ o ho).1)
      (by rw [Finset.card_image_of_injOn hinj])
  rw [h1, ← Finset.sum_image (f := f) hinj, himg]

/-- … and **exactly preserved** by an integer shift when no non-zero voxel leaves the grid (any sign of the data) -/
theorem shift_mass_eq {K : Type} [Field K] {d : Nat} (n : Fin d → Nat)
    (S : Finset (Vec d Int)) (hS : ∀ x, x ∈ S ↔ inBox n x = true) (f : Vec d Int → K) (t : Vec d Int)
    (hsupp : ∀ x, inBox n x = true → f x ≠ 0 → inBox n (fun i => x i + t i) = true) :
    ∑ o ∈ S, (gridTransform n (ident d) t f o).getD 0 = ∑ x ∈ S, f x := by
  obtain ⟨T, hT, hT', h⟩ := shift_sum n S hS f t
  rw [h]
  exact Finset.sum_subset hT (fun x hx hnot => by_contra fun hne => hnot (hT' x hx (hsupp x ((hS x).mp hx) hne)))

/-! ## non-vacuity of the hypotheses of the last three sections -/

-- such an `S` exists for every shape
example {d : Nat} (n : Fin d → Nat) : ∃ S : Finset (Vec d Int), ∀ x, x ∈ S ↔ inBox n x = true :=
  ⟨Fintype.piFinset (fun i => Finset.Ico (0 : Int) (n i)), fun x => by
    rw [inBox_iff, Fintype.mem_piFinset]; simp only [Finset.mem_Ico]⟩

-- the quarter-turn instance; `g` = output of the first transform
example : ∃ g : Vec 3 Int → Int, ∀ y, inBox exN3 y = true → gridTransform exN3 exR3 (fun _ => 0) exF3 y = some (g y) :=
  ⟨fun y => (gridTransform exN3 exR3 (fun _ => 0) exF3 y).getD 0, fun y _ => by
    obtain ⟨src, h⟩ := grid_never_interpolates exN3 exR3 exQ3 exS3 exR3_signed exN3_inv (fun _ => 0) exF3 y
    simp only [h, Option.getD_some]⟩
example : gridTransform exN3 exR3inv (fun _ => 0) (fun y => (gridTransform exN3 exR3 (fun _ => 0) exF3 y).getD 0) exX3 =
    some (exF3 exX3) :=
  grid_round_trip exN3 exR3 exR3inv exQ3 exS3inv exR3inv_signed exN3_inv exR3_inv' exF3 _ (fun y _ => by
    obtain ⟨src, h⟩ := grid_never_interpolates exN3 exR3 exQ3 exS3 exR3_signed exN3_inv (fun _ => 0) exF3 y
    simp only [h, Option.getD_some]) exX3 (by decide +kernel)
example : pull2 exN3 exR3inv (vecOfList 3 [1, 0, 2]) exX3 ≠ pull2 exN3 exR3inv (vecOfList 3 [1, 0, 2]) (vecOfList 3 [4, 5, 3]) :=
  fun h => absurd (congrFun (pull2_injective exN3 exR3 exR3inv _ _ _ exR3_inv' h) 0) (by decide +kernel)
example : gridTransform exN3 (ident 3) (vecOfList 3 [0, 1, 0])
      (fun y => (gridTransform exN3 (ident 3) (vecOfList 3 [1, 2, 1]) exF3 y).getD 0) exX3 =
    gridTransform exN3 (ident 3) (fun i => vecOfList 3 [1, 2, 1] i + vecOfList 3 [0, 1, 0] i) exF3 exX3 :=
  int_translation_compose_add exN3 _ _ exF3 _ (fun y _ => by rw [int_translation_shift]; rfl) exX3 (by decide +kernel)
example := coords_mask_dist_preserved exPts exRq exRq_orth exT none (fun _ : Fin 1 => exC) 0 2
example : ∀ x, inBox exN3 x = true → exF3 x ≠ 0 → inBox exN3 (fun i => x i + (fun _ => (0 : Int)) i) = true :=
  fun x h _ => by simpa using h
example := mask_value_lands exN3 exR3 exR3inv (fun _ => 0) exX3 (vecOfList 3 [4, 5, 3]) exF3 (fun _ => (1 : Int)) exR3_inv
  (by decide +kernel)
example := coords_pure_translation (K := Rat) (N := 3) (by norm_num) exPts exT (fun _ : Fin 1 => exC) 0
example := coords_geo_bounding_box halfFloorRat exPts exRq exT none (fun _ : Fin 1 => exC) 0
example := coords_geo_mask_dist_preserved halfFloorRat exPts exRq exRq_orth exT none (fun _ : Fin 1 => exC) 0 2

end Pm.C06
