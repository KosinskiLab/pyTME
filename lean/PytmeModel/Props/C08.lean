import PytmeModel.Model.C08
import PytmeModel.Proofs.C08
import Mathlib.Tactic.Ring
import Mathlib.Tactic.Linarith
import Mathlib.Data.Rat.Floor

/-! # C08 — density files round-trip and subset reads equal slicing the full volume

Voxels are bit patterns (`Nat < 256^b`), files are byte lists; see `Model/C08.lean`. -/
namespace Pm.C08

/-! ## `_save_em` / `_load_em`: the EM byte layout and its round trip -/

/-- **decode ∘ encode = id** for EM files: the type code, the shape *in the same axis order*,
the sampling word and every voxel (bit pattern) come back, for every 3-D shape. -/
theorem decode_encode_em (code b nz ny nx : Nat) (rate : Int) (data : List Nat)
    (hb : emItemsize code = some b)
    (hz : nz < 2147483648) (hy : ny < 2147483648) (hx : nx < 2147483648)
    (hr1 : -2147483648 ≤ rate) (hr2 : rate < 2147483648)
    (hlen : data.length = nz * ny * nx) (hv : ∀ v ∈ data, v < 256 ^ b) :
    emDecode (emEncode code b [nz, ny, nx] rate data) = some (⟨code, [nz, ny, nx], rate, 512⟩, data) := by
  rw [emDecode_emEncode code b b nz ny nx rate data hb hz hy hx hr1 hr2, ← hlen, if_neg (Nat.lt_irrefl _),
    readRow_emEncode code b nz ny nx rate data hv]

/-- the memory-mapped EM read returns the same header fields and voxels as the in-memory read -/
theorem decode_encode_em_memmap (code b nz ny nx : Nat) (rate : Int) (data : List Nat)
    (hb : emItemsize code = some b) (hb0 : 0 < b)
    (hz : nz < 2147483648) (hy : ny < 2147483648) (hx : nx < 2147483648)
    (hr1 : -2147483648 ≤ rate) (hr2 : rate < 2147483648)
    (hlen : data.length = nz * ny * nx) (hv : ∀ v ∈ data, v < 256 ^ b) :
    emDecodeMemmap (emEncode code b [nz, ny, nx] rate data) = emDecode (emEncode code b [nz, ny, nx] rate data) := by
  rw [decode_encode_em code b nz ny nx rate data hb hz hy hx hr1 hr2 hlen hv]
  unfold emDecodeMemmap
  rw [emParse_emEncode code b nz ny nx rate data hz hy hx hr1 hr2]
  simp only [hb, length_emEncode, prodL_three, ← hlen]
  rw [if_neg (by omega), Nat.add_sub_cancel_left, Nat.mul_div_cancel _ hb0, if_neg (fun h => h rfl),
    readRow_emEncode code b nz ny nx rate data hv]

/-- the type-code tables of writer and reader are inverse to each other, and every code the
writer can emit (incl. the default 5) has an item size -/
theorem em_tables_inverse :
    (∀ p ∈ emSaveTable, emDtypeOf p.2 = some p.1) ∧ (∀ p ∈ emLoadTable, emCodeOf p.2 = p.1) ∧
    emDtypeOf (emCodeOf "anything else") = some "float32" ∧
    (∀ p ∈ emSaveTable, emItemsize p.2 = dtypeSize p.1 ∧ (dtypeSize p.1).isSome) := by
  decide +kernel

/-- what the tree did before `fix: write EM header dimensions fastest axis first`: a (2,3,4)
volume parsed back as (4,3,2) (cubic test volumes hide it) -/
theorem em_shape_order_current_defect :
    (emParse (emEncodeOld 5 4 [2, 3, 4] 1000 (List.replicate 24 0))).map (·.shape) = some [4, 3, 2] ∧
    (emParse (emEncode 5 4 [2, 3, 4] 1000 (List.replicate 24 0))).map (·.shape) = some [2, 3, 4] := by
  constructor
  · show (emParse (emEncode 5 4 [4, 3, 2] 1000 _)).map _ = _
    rw [emParse_emEncode 5 4 4 3 2 1000 _ (by decide) (by decide) (by decide) (by decide) (by decide)]
    rfl
  · rw [emParse_emEncode 5 4 2 3 4 1000 _ (by decide) (by decide) (by decide) (by decide) (by decide)]
    rfl

/-- the sampling word: 0 means "missing" and is read as 1 Å; everything else is returned as is -/
theorem emRateOut_id (r : Int) (h : r ≠ 0) : emRateOut r = r := by
  simp [emRateOut, h]

/-! ## `_read_binary_subset`: byte offsets, `_validate_slices`, the row loop returns the slice -/

/-- **offset of element `idx` = header + itemsize · ravel(idx)**, for a C-ordered payload of any rank, item size,
header and trailing bytes: the token at that offset is the element -/
theorem element_offset_any_rank (pre post : Bytes) (b : Nat) (shape idx : List Nat) (data : List Nat)
    (hlen : data.length = prodL shape) (hv : ∀ v ∈ data, v < 256 ^ b) (hin : inShape shape idx = true) :
    rdTok (pre ++ payload b data ++ post) (pre.length + flatIdx shape idx * b) b
      = (⟨shape, data.toArray⟩ : Arr Nat).getD idx 0 := by
  have hlt : flatIdx shape idx < data.length := by rw [hlen]; exact flatIdx_lt hin
  rw [rdTok_file pre post b data _ hlt (hv _ (List.getElem_mem hlt)), getD_toArray _ _ _ hin,
    List.getD_eq_getElem _ _ hlt]

/-- the row offsets `_read_binary_subset` seeks to are that formula for rank 3 -/
theorem rowOffset_eq_ravel (header nz ny nx b z y x0 : Nat) :
    rowOffset header ny nx b z y x0 = header + flatIdx [nz, ny, nx] [z, y, x0] * b := by
  rw [flatIdx_three]
  unfold rowOffset
  ring

/-- row-major offsets: the next row starts one row (`nx` items) further -/
theorem rowOffset_succ_row (header ny nx b z y x0 : Nat) :
    rowOffset header ny nx b z (y + 1) x0 = rowOffset header ny nx b z y x0 + nx * b := by
  simp only [rowOffset]; ring

/-- row-major offsets: the next plane starts one plane (`ny·nx` items) further -/
theorem rowOffset_succ_plane (header ny nx b z y x0 : Nat) :
    rowOffset header ny nx b (z + 1) y x0 = rowOffset header ny nx b z y x0 + ny * (nx * b) := by
  simp only [rowOffset]; ring

/-- row-major offsets: moving the start column by `k` moves the offset by `k` items; never before the header -/
theorem rowOffset_add_col (header ny nx b z y x0 k : Nat) :
    rowOffset header ny nx b z y (x0 + k) = rowOffset header ny nx b z y x0 + k * b ∧
    header ≤ rowOffset header ny nx b z y x0 := by
  refine ⟨by simp only [rowOffset]; ring, by simp only [rowOffset]; omega⟩

/-- row-major offsets within a row are injective in the column for a positive item size -/
theorem rowOffset_col_injective (header ny nx b z y x0 x0' : Nat) (hb : 0 < b)
    (h : rowOffset header ny nx b z y x0 = rowOffset header ny nx b z y x0') : x0 = x0' := by
  simp only [rowOffset] at h
  exact Nat.eq_of_mul_eq_mul_right hb (by omega)

/-- **`_validate_slices` for any rank, exactly**: a box is accepted iff it has one entry per axis and every bound lies
in `[0, n]` (`start ≤ stop` is *not* asked for; the binary reader refuses that later, numpy returns an empty axis);
`validate_sound` is the 3-D corollary -/
theorem validateSlices_none_iff (box : Box) (shape : List Nat) :
    validateSlices box shape = none ↔
      box.length = shape.length ∧ ∀ p ∈ List.zip box shape, (0 ≤ p.1.1 ∧ p.1.1 ≤ (p.2 : Int)) ∧ (0 ≤ p.1.2 ∧ p.1.2 ≤ (p.2 : Int)) := by
  unfold validateSlices
  constructor
  · intro h
    split at h
    · simp at h
    · rename_i hl
      split at h
      · simp at h
      · rename_i hex
        split at h
        · simp at h
        · rename_i hneg
          refine ⟨by simpa using hl, ?_⟩
          intro p hp
          have h1 : ¬ (decide (p.1.2 > (p.2 : Int)) || decide (p.1.1 > (p.2 : Int))) = true := by
            intro hc
            exact hex (List.any_eq_true.mpr ⟨p, hp, by simpa using hc⟩)
          have h2 : ¬ (decide (p.1.2 < 0) || decide (p.1.1 < 0)) = true := by
            intro hc
            exact hneg (List.any_eq_true.mpr ⟨p.1, (List.of_mem_zip hp).1, hc⟩)
          simp only [Bool.or_eq_true, decide_eq_true_eq] at h1 h2
          omega
  · rintro ⟨hl, hall⟩
    rw [if_neg (by simpa using hl)]
    rw [if_neg]
    · rw [if_neg]
      intro hc
      obtain ⟨s, hs, hc⟩ := List.any_eq_true.mp hc
      obtain ⟨i, hi, rfl⟩ := List.getElem_of_mem hs
      have hi' : i < shape.length := by omega
      have hp : (box[i], shape[i]) ∈ List.zip box shape := by
        rw [List.mem_iff_getElem]
        exact ⟨i, by simp [List.length_zip]; omega, by simp⟩
      have := hall _ hp
      simp only at this
      simp only [Bool.or_eq_true, decide_eq_true_eq] at hc
      omega
    · intro hc
      obtain ⟨p, hp, hc⟩ := List.any_eq_true.mp hc
      have := hall p hp
      simp only [Bool.or_eq_true, decide_eq_true_eq] at hc
      omega

example : validateSlices [(0, 2), (3, 1)] [2, 3] = none ∧ validateSlices [(0, 5)] [5] = none ∧
    validateSlices [(0, 1), (0, 1), (0, 1), (0, 2)] [1, 1, 1, 1] = some "Exceeds" ∧ validateSlices [] [] = none := by decide +kernel

/-- the guard of the sub-box reader is sound: whatever it accepts lies inside the volume with
non-negative bounds, so the reader never returns data for an out-of-range box (no silent wrap) -/
theorem validate_sound (z0 z1 y0 y1 x0 x1 : Int) (nz ny nx : Nat) :
    validateSlices [(z0, z1), (y0, y1), (x0, x1)] [nz, ny, nx] = none ↔
    (0 ≤ z0 ∧ z0 ≤ nz ∧ 0 ≤ z1 ∧ z1 ≤ nz) ∧ (0 ≤ y0 ∧ y0 ≤ ny ∧ 0 ≤ y1 ∧ y1 ≤ ny) ∧
    (0 ≤ x0 ∧ x0 ≤ nx ∧ 0 ≤ x1 ∧ x1 ≤ nx) := by
  rw [validateSlices_none_iff]
  simp only [List.length_cons, List.length_nil, List.zip_cons_cons, List.zip_nil_right, List.forall_mem_cons,
    List.not_mem_nil, false_imp_iff, implies_true, and_true, true_and]
  omega

theorem readSubset_of_valid (f : Bytes) (header b nz ny nx : Nat) (z0 z1 y0 y1 x0 x1 : Int)
    (hv : validateSlices [(z0, z1), (y0, y1), (x0, x1)] [nz, ny, nx] = none)
    (hz : z0 ≤ z1) (hy : y0 ≤ y1) (hx : x0 ≤ x1) (hf : header + nz * ny * nx * b ≤ f.length) :
    readSubset f header [nz, ny, nx] b [(z0, z1), (y0, y1), (x0, x1)] =
      .ok ⟨[z1.toNat - z0.toNat, y1.toNat - y0.toNat, x1.toNat - x0.toNat],
        (readRows f header ny nx b z0.toNat z1.toNat y0.toNat y1.toNat x0.toNat x1.toNat).toArray⟩ := by
  have hlast : ∀ {a c : Int} {n : Nat}, a.toNat < c.toNat → c ≤ n → c.toNat - 1 < n := by omega
  unfold readSubset
  simp only [hv]
  rw [if_neg (by omega), if_neg]
  rintro ⟨h1, h2, _, h4⟩
  obtain ⟨⟨_, _, _, hz1⟩, ⟨_, _, _, hy1⟩, ⟨_, _, _, hx1⟩⟩ := (validate_sound z0 z1 y0 y1 x0 x1 nz ny nx).mp hv
  exact absurd ((rowOffset_row_le header nz ny nx b _ _ _ _ (hlast h1 hz1) (hlast h2 hy1)
    ⟨Int.toNat_le_toNat hx, Int.toNat_le.mpr hx1⟩).trans hf) (Nat.not_le.mpr h4)

/-- **Reading a sub-box returns exactly the corresponding slice** (`_read_binary_subset`):
for every header size, 3-D shape, item size, payload, trailing bytes and every in-bounds box
(incl. empty, single-voxel and full), the reader succeeds, the result has the box's extents and
element `(i, j, k)` is element `(z0+i, y0+j, x0+k)` of the row-major volume. -/
theorem readSubset_eq_slice (pre post : Bytes) (b nz ny nx : Nat) (data : List Nat)
    (z0 z1 y0 y1 x0 x1 : Nat)
    (hlen : data.length = nz * ny * nx) (hv : ∀ v ∈ data, v < 256 ^ b)
    (hz : z0 ≤ z1 ∧ z1 ≤ nz) (hy : y0 ≤ y1 ∧ y1 ≤ ny) (hx : x0 ≤ x1 ∧ x1 ≤ nx) :
    ∃ r, readSubset (pre ++ payload b data ++ post) pre.length [nz, ny, nx] b
          [((z0 : Int), (z1 : Int)), ((y0 : Int), (y1 : Int)), ((x0 : Int), (x1 : Int))] = .ok r ∧
      r.shape = [z1 - z0, y1 - y0, x1 - x0] ∧
      ∀ i j k, i < z1 - z0 → j < y1 - y0 → k < x1 - x0 →
        r.getD [i, j, k] 0 = (⟨[nz, ny, nx], data.toArray⟩ : Arr Nat).getD [z0 + i, y0 + j, x0 + k] 0 := by
  have hval := (validate_sound (z0 : Int) z1 y0 y1 x0 x1 nz ny nx).mpr (by omega)
  have hflen : pre.length + nz * ny * nx * b ≤ (pre ++ payload b data ++ post).length := by
    rw [List.length_append, List.length_append, length_payload, hlen]; omega
  have h := readSubset_of_valid _ pre.length b nz ny nx _ _ _ _ _ _ hval (Int.ofNat_le.mpr hz.1) (Int.ofNat_le.mpr hy.1)
    (Int.ofNat_le.mpr hx.1) hflen
  simp only [Int.toNat_natCast] at h
  refine ⟨_, h, rfl, ?_⟩
  intro i j k hi hj hk
  -- element (i, j, k) sits in row (z0+i, y0+j) at column x0+k; its offset is the ravelled index of the volume
  rw [getD_toArray _ _ _ (inShape_three.mpr ⟨hi, hj, hk⟩), flatIdx_three,
    readRows_getD _ _ _ _ _ _ _ _ _ _ _ i j k hi hj hk, ← (rowOffset_add_col _ _ _ _ _ _ _ _).1, rowOffset_eq_ravel _ nz,
    element_offset_any_rank pre post b _ _ data (by rw [hlen, prodL_three]) hv
      (inShape_three.mpr ⟨add_lt_of_lt_sub hi hz.2, add_lt_of_lt_sub hj hy.2, add_lt_of_lt_sub hk hx.2⟩)]

/-! ## `_load_mrc` / `_load_em` with `subset`: full-volume shortcut or row loop -/

/-- `_load_mrc` / `_load_em` with `subset`: whichever branch is taken (full-volume shortcut or
row reader), an in-bounds box yields the slice. -/
theorem loadSubset_eq_slice (pre post : Bytes) (b nz ny nx : Nat) (data : List Nat)
    (z0 z1 y0 y1 x0 x1 : Nat)
    (hlen : data.length = nz * ny * nx) (hv : ∀ v ∈ data, v < 256 ^ b)
    (hz : z0 ≤ z1 ∧ z1 ≤ nz) (hy : y0 ≤ y1 ∧ y1 ≤ ny) (hx : x0 ≤ x1 ∧ x1 ≤ nx) :
    ∃ r, loadSubset (pre ++ payload b data ++ post) pre.length [nz, ny, nx] b
          [((z0 : Int), (z1 : Int)), ((y0 : Int), (y1 : Int)), ((x0 : Int), (x1 : Int))] = .ok r ∧
      r.shape = [z1 - z0, y1 - y0, x1 - x0] ∧
      ∀ i j k, i < z1 - z0 → j < y1 - y0 → k < x1 - x0 →
        r.getD [i, j, k] 0 = (⟨[nz, ny, nx], data.toArray⟩ : Arr Nat).getD [z0 + i, y0 + j, x0 + k] 0 := by
  unfold loadSubset
  split
  · rename_i hfull
    have hb := (isFullBox_three _ _ _ _ _ _ _ _ _).mp hfull
    obtain ⟨rfl, rfl, rfl, rfl, rfl, rfl⟩ : z0 = 0 ∧ y0 = 0 ∧ x0 = 0 ∧ z1 = nz ∧ y1 = ny ∧ x1 = nx := by omega
    rw [prodL_three, ← hlen, readRow_all pre post b data hv, if_neg (by
      rw [List.length_append, List.length_append, length_payload]; omega)]
    refine ⟨_, rfl, rfl, ?_⟩
    intro i j k _ _ _
    rw [Nat.zero_add, Nat.zero_add, Nat.zero_add]
  · exact readSubset_eq_slice pre post b nz ny nx data z0 z1 y0 y1 x0 x1 hlen hv hz hy hx

/-- before `fix: take the full-volume shortcut only when … exactly` the shortcut compared
shapes with `np.allclose`: a (1,1,100001) volume asked for its first 100000 voxels took the
shortcut and came back whole -/
theorem allclose_shortcut_current_defect :
    allcloseShape (boxShape [(0, 1), (0, 1), (0, 100000)]) [1, 1, 100001] = true ∧
    isFullBox [(0, 1), (0, 1), (0, 100000)] [1, 1, 100001] = false := by
  decide

/-- below 100000 voxels per axis the old and the new shortcut coincide -/
theorem allclose_eq_exact_small (a : Int) (n : Nat) (hn : n < 100000) :
    decide (100000 * (a - (n : Int)).natAbs ≤ n) = decide (a = (n : Int)) := by
  by_cases h : a = (n : Int)
  · subst h; simp
  · have : 1 ≤ (a - (n : Int)).natAbs := by omega
    simp only [h, decide_false, decide_eq_false_iff_not]
    omega


/-- EM: a sub-box read of a file written by `_save_em` is the slice (header = 512 bytes) -/
theorem em_subset_eq_slice (code b nz ny nx : Nat) (rate : Int) (data : List Nat)
    (z0 z1 y0 y1 x0 x1 : Nat)
    (hlen : data.length = nz * ny * nx) (hv : ∀ v ∈ data, v < 256 ^ b)
    (hz : z0 ≤ z1 ∧ z1 ≤ nz) (hy : y0 ≤ y1 ∧ y1 ≤ ny) (hx : x0 ≤ x1 ∧ x1 ≤ nx) :
    ∃ r, loadSubset (emEncode code b [nz, ny, nx] rate data) 512 [nz, ny, nx] b
          [((z0 : Int), (z1 : Int)), ((y0 : Int), (y1 : Int)), ((x0 : Int), (x1 : Int))] = .ok r ∧
      r.shape = [z1 - z0, y1 - y0, x1 - x0] ∧
      ∀ i j k, i < z1 - z0 → j < y1 - y0 → k < x1 - x0 →
        r.getD [i, j, k] 0 = (⟨[nz, ny, nx], data.toArray⟩ : Arr Nat).getD [z0 + i, y0 + j, x0 + k] 0 := by
  have h := loadSubset_eq_slice (emHeader code [nz, ny, nx] rate) [] b nz ny nx data z0 z1 y0 y1 x0 x1 hlen hv hz hy hx
  rw [emHeader_length, List.append_nil] at h
  exact h

/-- the MRC sub-box read is the slice for every item size (modes int8 / int16 / uint16 / float16 / float32 …) -/
theorem mrc_mode_subset_eq_slice (hdr ext : Bytes) (hh : hdr.length = 1024) (b nz ny nx : Nat) (data : List Nat)
    (z0 z1 y0 y1 x0 x1 : Nat)
    (hlen : data.length = nz * ny * nx) (hv : ∀ v ∈ data, v < 256 ^ b)
    (hz : z0 ≤ z1 ∧ z1 ≤ nz) (hy : y0 ≤ y1 ∧ y1 ≤ ny) (hx : x0 ≤ x1 ∧ x1 ≤ nx) :
    ∃ r, loadSubset (hdr ++ ext ++ payload b data) (1024 + ext.length) [nz, ny, nx] b
          [((z0 : Int), (z1 : Int)), ((y0 : Int), (y1 : Int)), ((x0 : Int), (x1 : Int))] = .ok r ∧
      r.shape = [z1 - z0, y1 - y0, x1 - x0] ∧
      ∀ i j k, i < z1 - z0 → j < y1 - y0 → k < x1 - x0 →
        r.getD [i, j, k] 0 = (⟨[nz, ny, nx], data.toArray⟩ : Arr Nat).getD [z0 + i, y0 + j, x0 + k] 0 := by
  have h := loadSubset_eq_slice (hdr ++ ext) [] b nz ny nx data z0 z1 y0 y1 x0 x1 hlen hv hz hy hx
  rw [List.append_nil, List.length_append, hh] at h
  exact h

/-- MRC: 1024 header bytes, `nsymbt` bytes of extended header, float32 payload — a sub-box
read is the slice whatever the header bytes and the extended header contain -/
theorem mrc_subset_eq_slice (hdr ext : Bytes) (hh : hdr.length = 1024) (nz ny nx : Nat) (data : List Nat)
    (z0 z1 y0 y1 x0 x1 : Nat)
    (hlen : data.length = nz * ny * nx) (hv : ∀ v ∈ data, v < 256 ^ 4)
    (hz : z0 ≤ z1 ∧ z1 ≤ nz) (hy : y0 ≤ y1 ∧ y1 ≤ ny) (hx : x0 ≤ x1 ∧ x1 ≤ nx) :
    ∃ r, loadSubset (hdr ++ ext ++ payload 4 data) (1024 + ext.length) [nz, ny, nx] 4
          [((z0 : Int), (z1 : Int)), ((y0 : Int), (y1 : Int)), ((x0 : Int), (x1 : Int))] = .ok r ∧
      r.shape = [z1 - z0, y1 - y0, x1 - x0] ∧
      ∀ i j k, i < z1 - z0 → j < y1 - y0 → k < x1 - x0 →
        r.getD [i, j, k] 0 = (⟨[nz, ny, nx], data.toArray⟩ : Arr Nat).getD [z0 + i, y0 + j, x0 + k] 0 := by
  exact mrc_mode_subset_eq_slice hdr ext hh 4 nz ny nx data z0 z1 y0 y1 x0 x1 hlen hv hz hy hx

/-- `_load_mrc` leaves a complete 3-slice subset untouched (it only completes short ones) -/
theorem mrcPadBox_id (a b c : Int × Int) (nz ny nx : Nat) : mrcPadBox [a, b, c] [nz, ny, nx] = [a, b, c] :=
  rfl

/-- the reference every sub-box read is compared with: numpy basic slicing -/
theorem sliceArr_getD (a : Arr Nat) (z0 z1 y0 y1 x0 x1 i j k : Nat)
    (hi : i < z1 - z0) (hj : j < y1 - y0) (hk : k < x1 - x0) :
    (sliceArr a [((z0 : Int), (z1 : Int)), ((y0 : Int), (y1 : Int)), ((x0 : Int), (x1 : Int))]).getD [i, j, k] 0
      = a.getD [z0 + i, y0 + j, x0 + k] 0 := by
  unfold sliceArr
  simp only [boxShape, List.map_cons, List.map_nil]
  rw [Arr.getD_ofFn _ _ _ _ (inShape_three.mpr ⟨by omega, by omega, by omega⟩)]
  simp

/-! ## `_save_mrc` / `_load_mrc`: the header fields -/

/-- **MRC round trip of the header fields for every origin** (no side condition): shape, sampling rate, payload offset
and axis order always come back; the origin comes back unless it is within 1e-8 of zero while some start index
`rint(origin / rate)` is non-zero, in which case `start × rate` is reported (the known finding, stated exactly);
`mrc_roundtrip_fields` is the corollary for the other case -/
theorem mrc_roundtrip_fields_exact (nz ny nx : Nat) (oz oy ox sz sy sx : Rat)
    (hz : 0 < nz) (hy : 0 < ny) (hx : 0 < nx) :
    mrcRead (mrcFields [nz, ny, nx] [oz, oy, ox] [sz, sy, sx])
      = .ok ⟨[nz, ny, nx],
          (if allTiny [oz, oy, ox] && !([rint (oz / sz), rint (oy / sy), rint (ox / sx)].all (· == 0))
            then [(rint (oz / sz) : Rat) * sz, (rint (oy / sy) : Rat) * sy, (rint (ox / sx) : Rat) * sx] else [oz, oy, ox]),
          [sz, sy, sx], 1024, [0, 1, 2]⟩ := by
  have hz' : (nz : Rat) ≠ 0 := by exact_mod_cast hz.ne'
  have hy' : (ny : Rat) ≠ 0 := by exact_mod_cast hy.ne'
  have hx' : (nx : Rat) ≠ 0 := by exact_mod_cast hx.ne'
  rw [mrcRead_ok _ [0, 1, 2] rfl rfl]
  simp only [mrcFields, zipMul, zipDiv, List.reverse_cons, List.reverse_nil, List.nil_append,
    List.cons_append, List.zipWith_cons_cons, List.zipWith_nil_right, mul_div_cancel_right₀ _ hz',
    mul_div_cancel_right₀ _ hy', mul_div_cancel_right₀ _ hx']

/-- **MRC round trip of shape, axis order, origin and sampling rate** in exact arithmetic:
for every non-empty shape, every origin and every non-degenerate use of the start indices the
reader returns shape, origin and rate in the same (z, y, x) order, the payload offset 1024 and
the standard axis permutation.  The hypothesis is exactly the reader's special case: an origin
within 1e-8 of zero *with* a non-zero start index is replaced by start × rate (known finding,
`mrc_origin_tiny_current_defect`). -/
theorem mrc_roundtrip_fields (nz ny nx : Nat) (oz oy ox sz sy sx : Rat)
    (hz : 0 < nz) (hy : 0 < ny) (hx : 0 < nx)
    (ho : allTiny [oz, oy, ox] = false ∨ (rint (oz / sz) = 0 ∧ rint (oy / sy) = 0 ∧ rint (ox / sx) = 0)) :
    mrcRead (mrcFields [nz, ny, nx] [oz, oy, ox] [sz, sy, sx])
      = .ok ⟨[nz, ny, nx], [oz, oy, ox], [sz, sy, sx], 1024, [0, 1, 2]⟩ := by
  rw [mrc_roundtrip_fields_exact nz ny nx oz oy ox sz sy sx hz hy hx, if_neg]
  rcases ho with h | ⟨h1, h2, h3⟩
  · simp [h]
  · simp [h1, h2, h3]

/-- the header words themselves: dimensions and cell in x, y, z order, start = rint(origin/rate) -/
theorem mrcFields_words (nz ny nx : Nat) (oz oy ox sz sy sx : Rat) :
    let h := mrcFields [nz, ny, nx] [oz, oy, ox] [sz, sy, sx]
    h.nxyz = [nx, ny, nz] ∧ h.mxyz = [nx, ny, nz] ∧ h.mode = 2 ∧ h.mapcrs = [1, 2, 3] ∧
    h.origin = [ox, oy, oz] ∧ h.cella = [sx * nx, sy * ny, sz * nz] ∧
    h.nstart = [rint (ox / sx), rint (oy / sy), rint (oz / sz)] :=
  ⟨rfl, rfl, rfl, rfl, rfl, rfl, rfl⟩

/-- today's reader on an origin of 5.04e-9 with a sampling rate of 1e-10 (SI units): the
origin comes back as 5.0e-9 -/
theorem mrc_origin_tiny_current_defect :
    (match mrcRead (mrcFields [2, 3, 4] [63 / 12500000000, 0, 0] [1 / 10000000000, 1 / 10000000000, 1 / 10000000000]) with
      | .ok p => p.origin | .err _ => []) = [1 / 200000000, 0, 0] := by
  decide +kernel

/-- a malformed axis permutation is refused -/
theorem mrcRead_malformed_crs (h : MrcFields) (hc : h.mapcrs = [1, 1, 3]) : mrcRead h = .err "MalformedCRS" := by
  simp [mrcRead, hc]

/-! ## `is_gzipped`, `to_file` / `from_file`: gzip sniffing and dispatch by file name -/

/-- an EM file is never taken for a gzip file: it starts with a 0 byte -/
theorem em_not_gz (code b : Nat) (shape : List Nat) (rate : Int) (data : List Nat) :
    isGz (emEncode code b shape rate data) = false :=
  rfl

/-- an HDF5 file starts with `\x89HDF`: never taken for gzip -/
theorem h5_not_gz (rest : Bytes) : isGz ([137, 72, 68, 70] ++ rest) = false :=
  rfl

/-- an MRC file starts with `nx` as a little-endian int32; it carries the gzip magic number
**iff** `nx ≡ 35615 (mod 65536)` — the exact exception (known finding) -/
theorem mrc_gz_iff (nx : Nat) (rest : Bytes) :
    isGz (leBytes 4 nx ++ rest) = true ↔ nx % 65536 = 35615 := by
  simp only [isGz, leBytes, List.cons_append, List.take_succ_cons, List.take_zero, beq_iff_eq,
    List.cons.injEq, and_true]
  omega

/-- writing (optionally through gzip) and opening by magic number returns the bytes written,
for *every* compressor that satisfies the gzip contract, provided the plain content does not
itself start with the magic number -/
theorem open_write_maybe_gz (gz gunz : Bytes → Bytes) (hc : GzipContract gz gunz) (gzip : Bool)
    (content : Bytes) (hplain : isGz content = false) :
    openMaybeGz gunz (writeMaybeGz gz gzip content) = content := by
  cases gzip with
  | false => simp [openMaybeGz, writeMaybeGz, hplain]
  | true => simp [openMaybeGz, writeMaybeGz, hc.magic, hc.inv]

/-- EM round trip through the file system layer, compressed or not -/
theorem em_file_roundtrip (gz gunz : Bytes → Bytes) (hc : GzipContract gz gunz) (gzip : Bool)
    (code b nz ny nx : Nat) (rate : Int) (data : List Nat)
    (hb : emItemsize code = some b)
    (hz : nz < 2147483648) (hy : ny < 2147483648) (hx : nx < 2147483648)
    (hr1 : -2147483648 ≤ rate) (hr2 : rate < 2147483648)
    (hlen : data.length = nz * ny * nx) (hv : ∀ v ∈ data, v < 256 ^ b) :
    emDecode (openMaybeGz gunz (writeMaybeGz gz gzip (emEncode code b [nz, ny, nx] rate data)))
      = some (⟨code, [nz, ny, nx], rate, 512⟩, data) := by
  rw [open_write_maybe_gz gz gunz hc gzip _ (em_not_gz _ _ _ _ _)]
  exact decode_encode_em code b nz ny nx rate data hb hz hy hx hr1 hr2 hlen hv

/-- reader and writer pick the same format for every file name -/
theorem load_fmt_eq_save_fmt (name : List Char) : loadFmt name = saveFmt name := rfl

theorem finalName_spec (name : List Char) :
    finalName name false = name ∧ endsWith (finalName name true) ".gz".toList = true := by
  constructor
  · simp [finalName]
  · unfold finalName
    cases h : endsWith name ".gz".toList
    · simp [endsWith]
    · simpa using h

/-- compressing does not change the format the file name selects -/
theorem fmt_stable_under_gz (name : List Char) (gzip : Bool) : saveFmt (finalName name gzip) = saveFmt name := by
  cases gzip with
  | false => simp [finalName]
  | true =>
    unfold finalName
    cases h : endsWith name ".gz".toList
    · have e1 := endsWith_append_gz name ['e', 'm']
      have e2 := endsWith_append_gz name ['h', '5']
      have e3 := gz_not_em (name ++ ['.', 'g', 'z']) (List.isSuffixOf_iff_suffix.mpr (List.suffix_append _ _))
      have h' : endsWith name ['.', 'g', 'z'] = false := h
      simp only [List.cons_append, List.nil_append] at e1 e2
      -- with ".gz" appended, "em" / "h5" no longer end the name and "em.gz" / "h5.gz" end it iff "em" / "h5" ended
      -- `name`; `name` itself ends in neither "em.gz" nor "h5.gz": the four suffix tests of `saveFmt` agree
      simp [saveFmt, e1, e2, e3.1, e3.2, endsWith_xy_gz_false name _ _ h']
    · simp

/-- an MRC file written (compressed or not) is opened as the bytes written — unless its first
dimension carries the magic number -/
theorem mrc_open_write (gz gunz : Bytes → Bytes) (hc : GzipContract gz gunz) (gzip : Bool) (nx : Nat) (rest : Bytes)
    (h : nx % 65536 ≠ 35615) :
    openMaybeGz gunz (writeMaybeGz gz gzip (leBytes 4 nx ++ rest)) = leBytes 4 nx ++ rest := by
  apply open_write_maybe_gz gz gunz hc
  cases hg : isGz (leBytes 4 nx ++ rest)
  · rfl
  · exact absurd ((mrc_gz_iff nx rest).mp hg) h

/-- today's reader hands a *plain* MRC file with `nx = 35615` to gunzip (known finding) -/
theorem mrc_magic_current_defect (gunz : Bytes → Bytes) (rest : Bytes) :
    openMaybeGz gunz (leBytes 4 35615 ++ rest) = gunz (leBytes 4 35615 ++ rest) := by
  have : isGz (leBytes 4 35615 ++ rest) = true := (mrc_gz_iff 35615 rest).mpr (by decide)
  simp [openMaybeGz, this]

/-- an HDF5 file is always opened as written (its compression is internal to the file) -/
theorem h5_open (gunz : Bytes → Bytes) (rest : Bytes) :
    openMaybeGz gunz ([137, 72, 68, 70] ++ rest) = [137, 72, 68, 70] ++ rest := by
  unfold openMaybeGz
  rw [h5_not_gz]
  simp

/-! ## `_save_em`: dtypes and EM type codes -/

/-- **whatever dtype the density is held in, the EM type code written describes the payload**: the reader
decodes the code to exactly the dtype the writer put on disk, so item size and interpretation agree
(with `decode_encode_em`: the voxels come back).  `dtype` ranges over all names, listed or not
(unsigned, half precision, 64-bit integers, bool, non-native byte order …). -/
theorem em_write_code_describes_payload (dtype : String) :
    emDtypeOf (emWriteCode dtype) = some (emWriteDtype dtype) ∧
    emItemsize (emWriteCode dtype) = dtypeSize (emWriteDtype dtype) ∧ (dtypeSize (emWriteDtype dtype)).isSome := by
  -- what goes to disk is one of the seven listed dtypes, and for those the tables can be checked
  have key : ∀ p ∈ emSaveTable, emDtypeOf (emCodeOf p.1) = some p.1 ∧
      emItemsize (emCodeOf p.1) = dtypeSize p.1 ∧ (dtypeSize p.1).isSome := by decide +kernel
  unfold emWriteCode emWriteDtype
  split
  · rename_i h
    obtain ⟨p, hp, he⟩ := List.any_eq_true.mp h
    rw [← eq_of_beq he]
    exact key p hp
  · exact key ("float32", 5) (by decide)

/-- a dtype with a type code is written as it is; every other one as float32 -/
theorem emWriteDtype_spec (dtype : String) :
    (dtype ∈ emSaveTable.map (·.1) → emWriteDtype dtype = dtype) ∧
    (dtype ∉ emSaveTable.map (·.1) → emWriteDtype dtype = "float32") := by
  unfold emWriteDtype
  constructor
  · intro h
    rw [if_pos]
    simp only [List.mem_map] at h
    obtain ⟨p, hp, rfl⟩ := h
    exact List.any_eq_true.mpr ⟨p, hp, by simp⟩
  · intro h
    rw [if_neg]
    intro hc
    obtain ⟨p, hp, he⟩ := List.any_eq_true.mp hc
    exact h (List.mem_map.mpr ⟨p, hp, by simpa using he⟩)

/-- before `fix: store dtypes without an EM type code as float32`: a uint16 volume went to disk as
2-byte items under type code 5 (float32), which the reader cannot even decode -/
theorem em_unlisted_dtype_current_defect :
    emCodeOf (emWriteDtypeOld "uint16") = 5 ∧
    emDecode (emEncode (emCodeOf (emWriteDtypeOld "uint16")) 2 [1, 1, 2] 1000 [7, 9]) = none ∧
    emDecode (emEncode (emWriteCode "uint16") 4 [1, 1, 2] 1000 [7, 9]) = some (⟨5, [1, 1, 2], 1000, 512⟩, [7, 9]) := by
  have h5 : emCodeOf (emWriteDtypeOld "uint16") = 5 := by decide
  have h5' : emWriteCode "uint16" = 5 := by decide
  have h4 : emItemsize 5 = some 4 := by decide
  rw [h5, h5']
  refine ⟨rfl, ?_, decode_encode_em 5 4 1 1 2 1000 _ h4 (by decide) (by decide) (by decide) (by decide) (by decide)
    (by decide) (by decide)⟩
  -- two 2-byte items are too short a payload for two float32 items
  rw [emDecode_emEncode 5 2 4 1 1 2 1000 _ h4 (by decide) (by decide) (by decide) (by decide) (by decide)]
  rfl

/-! ## `_load_mrc` with `subset` under a non-standard `mapc/mapr/maps` -/

/-- with the standard axis order the file-order box is the completed request -/
theorem mrcCrsBox_standard (box : Box) (nz ny nx : Nat) :
    mrcCrsBox [0, 1, 2] box [nz, ny, nx] = mrcPadBox box [nz, ny, nx] := by
  rw [mrcCrsBox_three, invPerm_axisOrders.1]
  rfl

/-- **a sub-box of an MRC file with any `mapc/mapr/maps` is the corresponding slice of the volume the
full read returns** (`np.transpose(data, crs)`): for each of the six axis orders, every header size, item
size, payload and every in-bounds box.  The box is written as `permute crs fb` for a file-order box `fb`
— as `fb` ranges over the in-bounds boxes of the file this is every in-bounds box of the returned
volume — and `permute crs [i, j, k]` is every index of the result. -/
theorem mrc_crs_subset_eq_slice (pre post : Bytes) (b n0 n1 n2 : Nat) (data : List Nat) (crs : List Nat)
    (hcrs : crs ∈ [[0, 1, 2], [0, 2, 1], [1, 0, 2], [1, 2, 0], [2, 0, 1], [2, 1, 0]])
    (z0 z1 y0 y1 x0 x1 : Nat)
    (hlen : data.length = n0 * n1 * n2) (hv : ∀ v ∈ data, v < 256 ^ b)
    (hz : z0 ≤ z1 ∧ z1 ≤ n0) (hy : y0 ≤ y1 ∧ y1 ≤ n1) (hx : x0 ≤ x1 ∧ x1 ≤ n2) :
    ∃ r, mrcLoadSubsetCrs (pre ++ payload b data ++ post) pre.length [n0, n1, n2] b crs
          (permute crs [((z0 : Int), (z1 : Int)), ((y0 : Int), (y1 : Int)), ((x0 : Int), (x1 : Int))] (0, 0)) = .ok r ∧
      r.shape = permute crs [z1 - z0, y1 - y0, x1 - x0] 0 ∧
      ∀ i j k, i < z1 - z0 → j < y1 - y0 → k < x1 - x0 →
        r.getD (permute crs [i, j, k] 0) 0
          = (transposeArr ⟨[n0, n1, n2], data.toArray⟩ crs).getD (permute crs [z0 + i, y0 + j, x0 + k] 0) 0 := by
  obtain ⟨r0, hr0, hs0, hg0⟩ := loadSubset_eq_slice pre post b n0 n1 n2 data z0 z1 y0 y1 x0 x1 hlen hv hz hy hx
  refine ⟨transposeArr r0 crs, ?_, ?_, ?_⟩
  · unfold mrcLoadSubsetCrs
    rw [mrcCrsBox_permute hcrs, hr0]
  · show permute crs r0.shape 0 = _
    rw [hs0]
  · intro i j k hi hj hk
    rw [transposeArr_getD_permute hcrs r0 _ _ _ i j k hs0 hi hj hk,
      transposeArr_getD_permute hcrs _ n0 n1 n2 _ _ _ rfl (add_lt_of_lt_sub hi hz.2) (add_lt_of_lt_sub hj hy.2)
        (add_lt_of_lt_sub hk hx.2)]
    exact hg0 i j k hi hj hk

/-- before `fix: sub-box of an MRC file with permuted MAPC/MAPR/MAPS …` file axis `j` was given the
caller's entry `crs[j]` instead of `argsort(crs)[j]`: for the cyclic order (1, 2, 0) a request of extents
(1, 1, 2) on a (3, 4, 2)-shaped volume came back with extents (2, 1, 1); for the orders that are their own
inverse both coincide -/
theorem crs_cyclic_current_defect :
    (boxShape (mrcCrsBoxOld [1, 2, 0] [(0, 1), (1, 2), (0, 2)] [2, 3, 4])) = [1, 2, 1] ∧
    (boxShape (mrcCrsBox [1, 2, 0] [(0, 1), (1, 2), (0, 2)] [2, 3, 4])) = [2, 1, 1] ∧
    permute [1, 2, 0] [2, 1, 1] 0 = [1, 1, 2] ∧ permute [1, 2, 0] [1, 2, 1] 0 = [2, 1, 1] ∧
    (∀ box : Box, ∀ crs ∈ [[0, 1, 2], [0, 2, 1], [1, 0, 2], [2, 1, 0]], box.length = 3 →
      mrcCrsBoxOld crs box [2, 3, 4] = mrcCrsBox crs box [2, 3, 4]) := by
  refine ⟨by decide, by decide, by decide, by decide, ?_⟩
  intro box crs hcrs hl
  match box, hl with
  | [a, b, c], _ =>
    simp only [List.mem_cons, List.not_mem_nil, or_false] at hcrs
    rcases hcrs with rfl | rfl | rfl | rfl <;> rfl

/-! ## the model on small inputs: `_validate_slices`, EM and MRC round trips, dispatch, axis orders -/

example : validateSlices [(0, 2), (1, 3), (1, 4)] [2, 3, 4] = none ∧
    validateSlices [(0, 3), (1, 3), (1, 4)] [2, 3, 4] = some "Exceeds" ∧
    validateSlices [(-1, 2), (1, 3), (1, 4)] [2, 3, 4] = some "Negative" := by decide +kernel

example : emDecode (emEncode 5 4 [1, 2, 2] 1500 [1, 2, 3, 4000000000])
    = some (⟨5, [1, 2, 2], 1500, 512⟩, [1, 2, 3, 4000000000]) :=
  decode_encode_em 5 4 1 2 2 1500 _ (by decide) (by decide) (by decide) (by decide) (by decide) (by decide) (by decide)
    (by decide)
example : emItemsize 5 = some 4 ∧ emItemsize 6 = some 8 ∧ emItemsize 4 = none := by decide +kernel
example : (match readSubset ([9, 9] ++ payload 2 [10, 11, 12, 13, 14, 15, 16, 17, 18, 19, 20, 21] ++ [7]) 2 [2, 2, 3] 2
    [(1, 2), (0, 2), (1, 3)] with | .ok r => (r.shape, r.toList) | .err _ => ([], [])) = ([1, 2, 2], [17, 18, 20, 21]) := by decide +kernel
example : isGz (leBytes 4 35615 ++ [0]) = true ∧ isGz (leBytes 4 101151) = true ∧ isGz (leBytes 4 64) = false := by decide
example : mrcRead (mrcFields [2, 3, 4] [3 / 2, -9 / 4, 3] [3 / 2, 2, 1 / 2])
    = .ok ⟨[2, 3, 4], [3 / 2, -9 / 4, 3], [3 / 2, 2, 1 / 2], 1024, [0, 1, 2]⟩ :=
  mrc_roundtrip_fields 2 3 4 _ _ _ _ _ _ (by decide) (by decide) (by decide) (Or.inl (by decide +kernel))
example : saveFmt "a.em.gz".toList = .em ∧ saveFmt "a.h5".toList = .h5 ∧ saveFmt "a.map".toList = .mrc ∧
    finalName "a.mrc".toList true = "a.mrc.gz".toList ∧ saveFmt (finalName "stem".toList true) = .em := by decide +kernel

example : emWriteDtype "int16" = "int16" ∧ emWriteCode "int16" = 2 ∧ emWriteDtype "uint16" = "float32" ∧
    emWriteCode "float32-be" = 5 ∧ emWriteCode "float64" = 6 := by decide +kernel
example : invPerm [1, 2, 0] = [2, 0, 1] ∧ permute [1, 2, 0] [10, 20, 30] 0 = [20, 30, 10] ∧
    mrcCrsBox [1, 2, 0] [(0, 1), (1, 2), (0, 2)] [2, 3, 4] = [(0, 2), (0, 1), (1, 2)] ∧
    mrcCrsBox [1, 2, 0] [(1, 2)] [2, 3, 4] = [(0, 2), (1, 2), (0, 4)] := by decide
example : (transposeArr ⟨[1, 2, 3], #[0, 1, 2, 3, 4, 5]⟩ [1, 2, 0]).shape = [2, 3, 1] ∧
    (transposeArr ⟨[1, 2, 3], #[0, 1, 2, 3, 4, 5]⟩ [2, 0, 1]).toList = [0, 3, 1, 4, 2, 5] := by decide +kernel
example : (match mrcLoadSubsetCrs ([9, 9] ++ payload 1 [0, 1, 2, 3, 4, 5]) 2 [1, 2, 3] 1 [2, 0, 1] [(1, 3), (0, 1), (1, 2)] with
    | .ok r => (r.shape, r.toList) | .err _ => ([], [])) = ([2, 1, 1], [4, 5]) := by decide +kernel

/-! ## `subset` as python slices: `_load_em` and `_load_mrc` against numpy slicing (what `_load_hdf5` does) -/

/-- the binary readers take start and stop and never look at the step -/
theorem sliceBounds_some (a b : Int) (st : Option Int) : sliceBounds ⟨some a, some b, st⟩ = some (a, b) := rfl

/-- a `None` bound is the only way a slice is refused at this stage (`TypeError`) -/
theorem sliceBounds_none_iff (s : PySlice) : sliceBounds s = none ↔ s.start = none ∨ s.stop = none := by
  rcases s with ⟨_ | a, _ | b, st⟩ <;> simp [sliceBounds]

/-- whatever the slice (None, negative, beyond the end, any positive step), python selects indices inside the axis -/
theorem pyIndices_inside (n : Nat) (s : PySlice) (t : Nat × Nat × Nat) (h : pyIndices n s = some t) :
    1 ≤ t.2.2 ∧ t.1 ≤ n ∧ t.2.1 ≤ n ∧ ∀ i ∈ pyRange t, i < n := by
  unfold pyIndices at h
  simp only at h
  split at h
  · simp at h
  · rename_i hst
    injection h with h
    subst h
    have hnorm : ∀ (o : Option Int) (d : Nat), d ≤ n →
        (Option.map (fun v : Int => if v < 0 then (v + n).toNat else min v.toNat n) o).getD d ≤ n := by
      intro o d hd
      cases o
      · exact hd
      · simp only [Option.map_some, Option.getD_some]
        split <;> omega
    have ha := hnorm s.start 0 (Nat.zero_le n)
    have hb := hnorm s.stop n (Nat.le_refl n)
    have hS : 1 ≤ (s.step.getD 1).toNat := by omega
    refine ⟨hS, ha, hb, ?_⟩
    intro i hi
    simp only [pyRange, List.mem_map, List.mem_range] at hi
    obtain ⟨k, hk, rfl⟩ := hi
    exact Nat.lt_of_lt_of_le (pyRange_lt _ _ _ k hS hk) hb

/-- **the numpy-semantics model for every request** (None, negative, clipped, any positive step): extents
`ceil((stop - start) / step)` of the normalised slices, element `(i, j, k)` is element
`(start₀ + i·step₀, start₁ + j·step₁, start₂ + k·step₂)` of the volume — which lies inside it (`pyIndices_inside`) -/
theorem pySliceArr_general (data : Array Nat) (nz ny nx : Nat) (s0 s1 s2 : PySlice) (t0 t1 t2 : Nat × Nat × Nat)
    (h0 : pyIndices nz s0 = some t0) (h1 : pyIndices ny s1 = some t1) (h2 : pyIndices nx s2 = some t2) :
    ∃ r, pySliceArr ⟨[nz, ny, nx], data⟩ [s0, s1, s2] = .ok r ∧
      r.shape = [(pyRange t0).length, (pyRange t1).length, (pyRange t2).length] ∧
      ∀ i j k, i < (pyRange t0).length → j < (pyRange t1).length → k < (pyRange t2).length →
        r.getD [i, j, k] 0 = (⟨[nz, ny, nx], data⟩ : Arr Nat).getD [t0.1 + i * t0.2.2, t1.1 + j * t1.2.2, t2.1 + k * t2.2.2] 0 := by
  unfold pySliceArr
  simp only [List.length_cons, List.length_nil, Nat.lt_irrefl, if_false, List.range_succ, List.range_zero,
    List.nil_append, List.cons_append, List.map_cons, List.map_nil, List.getD_cons_zero, List.getD_cons_succ,
    Nat.reduceAdd, Nat.zero_add, h0, h1, h2]
  simp only [List.mapM_cons, List.mapM_nil, id, Option.pure_def, Option.bind_eq_bind, Option.bind_some]
  refine ⟨_, rfl, rfl, ?_⟩
  intro i j k hi hj hk
  have e : ∀ (t : Nat × Nat × Nat) (i : Nat), i < (pyRange t).length → (pyRange t).getD i 0 = t.1 + i * t.2.2 := by
    intro t i hi
    unfold pyRange at hi ⊢
    rw [List.getD_eq_getElem _ _ hi, List.getElem_map, List.getElem_range]
  simp only [List.map_cons, List.map_nil]
  rw [Arr.getD_ofFn _ _ _ _ (inShape_three.mpr ⟨hi, hj, hk⟩)]
  simp only [List.zipWith_cons_cons, List.zipWith_nil_right, e _ _ hi, e _ _ hj, e _ _ hk]

example : ∃ r, pySliceArr ⟨[2, 3, 4], (List.range 24).toArray⟩ [⟨some (-1), none, none⟩, ⟨none, some (-2), none⟩, ⟨some 1, some 9, some 2⟩] = .ok r ∧
    r.shape = [1, 1, 2] := by
  obtain ⟨r, hr, hs, _⟩ := pySliceArr_general (List.range 24).toArray 2 3 4 ⟨some (-1), none, none⟩ ⟨none, some (-2), none⟩ ⟨some 1, some 9, some 2⟩
    (3 - 2, 2, 1) (0, 1, 1) (1, 4, 2) (by decide) (by decide) (by decide)
  exact ⟨r, hr, by rw [hs]; decide⟩

/-- numpy slicing with three in-range unit-step slices: extents `stop - start`, element `(i, j, k)` is element
`(z0+i, y0+j, x0+k)` -/
theorem pySliceArr_canonical (data : Array Nat) (nz ny nx z0 z1 y0 y1 x0 x1 : Nat) (s0 s1 s2 : Option Int)
    (h0 : s0 = none ∨ s0 = some 1) (h1 : s1 = none ∨ s1 = some 1) (h2 : s2 = none ∨ s2 = some 1)
    (hz : z0 ≤ z1 ∧ z1 ≤ nz) (hy : y0 ≤ y1 ∧ y1 ≤ ny) (hx : x0 ≤ x1 ∧ x1 ≤ nx) :
    ∃ r, pySliceArr ⟨[nz, ny, nx], data⟩
        [⟨some (z0 : Int), some (z1 : Int), s0⟩, ⟨some (y0 : Int), some (y1 : Int), s1⟩, ⟨some (x0 : Int), some (x1 : Int), s2⟩] = .ok r ∧
      r.shape = [z1 - z0, y1 - y0, x1 - x0] ∧
      ∀ i j k, i < z1 - z0 → j < y1 - y0 → k < x1 - x0 →
        r.getD [i, j, k] 0 = (⟨[nz, ny, nx], data⟩ : Arr Nat).getD [z0 + i, y0 + j, x0 + k] 0 := by
  obtain ⟨r, hr, hs, hg⟩ := pySliceArr_general data nz ny nx _ _ _ _ _ _ (pyIndices_canonical nz z0 z1 s0 h0 hz.1 hz.2)
    (pyIndices_canonical ny y0 y1 s1 h1 hy.1 hy.2) (pyIndices_canonical nx x0 x1 s2 h2 hx.1 hx.2)
  simp only [pyRange_unit, List.length_map, List.length_range, Nat.mul_one] at hs hg
  exact ⟨r, hr, hs, hg⟩

/-- **on every request the binary readers accept in the property's range, they agree with python slicing**: an EM
sub-box given as three slices with in-range `start ≤ stop` and step `None` or 1 is read successfully and equals
`volume[slices]` as numpy / h5py compute it (`pySliceArr`, the semantics `_load_hdf5` delegates to) -/
theorem em_slices_eq_python_slicing (pre post : Bytes) (b nz ny nx : Nat) (data : List Nat)
    (z0 z1 y0 y1 x0 x1 : Nat) (s0 s1 s2 : Option Int)
    (h0 : s0 = none ∨ s0 = some 1) (h1 : s1 = none ∨ s1 = some 1) (h2 : s2 = none ∨ s2 = some 1)
    (hlen : data.length = nz * ny * nx) (hv : ∀ v ∈ data, v < 256 ^ b)
    (hz : z0 ≤ z1 ∧ z1 ≤ nz) (hy : y0 ≤ y1 ∧ y1 ≤ ny) (hx : x0 ≤ x1 ∧ x1 ≤ nx) :
    ∃ r r', emLoadSlices (pre ++ payload b data ++ post) pre.length [nz, ny, nx] b
        [⟨some (z0 : Int), some (z1 : Int), s0⟩, ⟨some (y0 : Int), some (y1 : Int), s1⟩, ⟨some (x0 : Int), some (x1 : Int), s2⟩] = .ok r ∧
      pySliceArr ⟨[nz, ny, nx], data.toArray⟩
        [⟨some (z0 : Int), some (z1 : Int), s0⟩, ⟨some (y0 : Int), some (y1 : Int), s1⟩, ⟨some (x0 : Int), some (x1 : Int), s2⟩] = .ok r' ∧
      r.shape = r'.shape ∧
      ∀ i j k, i < z1 - z0 → j < y1 - y0 → k < x1 - x0 → r.getD [i, j, k] 0 = r'.getD [i, j, k] 0 := by
  obtain ⟨r, hr, hrs, hrg⟩ := loadSubset_eq_slice pre post b nz ny nx data z0 z1 y0 y1 x0 x1 hlen hv hz hy hx
  obtain ⟨r', hr', hrs', hrg'⟩ := pySliceArr_canonical data.toArray nz ny nx z0 z1 y0 y1 x0 x1 s0 s1 s2 h0 h1 h2 hz hy hx
  exact ⟨r, r', hr, hr', hrs.trans hrs'.symm, fun i j k hi hj hk => (hrg i j k hi hj hk).trans (hrg' i j k hi hj hk).symm⟩

/-- the same for MRC files (any item size, any extended header), also when the caller passes only the leading
one or two slices: `_load_mrc` completes them with full axes, as python slicing does -/
theorem mrc_slices_eq_python_slicing (pre post : Bytes) (b nz ny nx : Nat) (data : List Nat)
    (z0 z1 y0 y1 x0 x1 : Nat) (s0 s1 s2 : Option Int)
    (h0 : s0 = none ∨ s0 = some 1) (h1 : s1 = none ∨ s1 = some 1) (h2 : s2 = none ∨ s2 = some 1)
    (hlen : data.length = nz * ny * nx) (hv : ∀ v ∈ data, v < 256 ^ b)
    (hz : z0 ≤ z1 ∧ z1 ≤ nz) (hy : y0 ≤ y1 ∧ y1 ≤ ny) (hx : x0 ≤ x1 ∧ x1 ≤ nx) :
    ∃ r r', mrcLoadSlices (pre ++ payload b data ++ post) pre.length [nz, ny, nx] b
        [⟨some (z0 : Int), some (z1 : Int), s0⟩, ⟨some (y0 : Int), some (y1 : Int), s1⟩, ⟨some (x0 : Int), some (x1 : Int), s2⟩] = .ok r ∧
      pySliceArr ⟨[nz, ny, nx], data.toArray⟩
        [⟨some (z0 : Int), some (z1 : Int), s0⟩, ⟨some (y0 : Int), some (y1 : Int), s1⟩, ⟨some (x0 : Int), some (x1 : Int), s2⟩] = .ok r' ∧
      r.shape = r'.shape ∧
      ∀ i j k, i < z1 - z0 → j < y1 - y0 → k < x1 - x0 → r.getD [i, j, k] 0 = r'.getD [i, j, k] 0 := by
  -- on three slices `_load_mrc` has nothing to complete: it hands `_load_em`'s box to the same reader
  exact em_slices_eq_python_slicing pre post b nz ny nx data z0 z1 y0 y1 x0 x1 s0 s1 s2 h0 h1 h2 hlen hv hz hy hx

/-- a short MRC request is the request completed with `slice(0, n)`; entries beyond the third are never looked at
(not even a `None` in them) -/
theorem mrcSliceBox_short (s0 s1 s2 extra : PySlice) (nz ny nx : Nat) :
    mrcSliceBox [s0] [nz, ny, nx] = mrcSliceBox [s0, ⟨some 0, some (ny : Int), none⟩, ⟨some 0, some (nx : Int), none⟩] [nz, ny, nx] ∧
    mrcSliceBox [s0, s1] [nz, ny, nx] = mrcSliceBox [s0, s1, ⟨some 0, some (nx : Int), none⟩] [nz, ny, nx] ∧
    mrcSliceBox [s0, s1, s2, extra] [nz, ny, nx] = mrcSliceBox [s0, s1, s2] [nz, ny, nx] :=
  ⟨rfl, rfl, rfl⟩

/-- the EM reader does not complete: any other number of slices than three is refused -/
theorem em_slices_wrong_length (f : Bytes) (header b nz ny nx : Nat) (sl : List PySlice) (hl : sl.length ≠ 3) :
    ∃ e, emLoadSlices f header [nz, ny, nx] b sl = .err e := by
  unfold emLoadSlices
  cases hb : emSliceBox sl with
  | none => exact ⟨_, rfl⟩
  | some box =>
    have hlen : box.length ≠ 3 := by
      rw [length_mapM sliceBounds sl box hb]; exact hl
    have hfull : isFullBox box [nz, ny, nx] = false :=
      Bool.eq_false_iff.mpr fun hf => hlen (by simpa [boxShape] using congrArg List.length (eq_of_beq hf))
    simp only [loadSubset, hfull, Bool.false_eq_true, if_false, readSubset]
    have hv : validateSlices box [nz, ny, nx] = some "Length" := by
      unfold validateSlices
      rw [if_pos (by simpa using hlen)]
    rw [hv]
    exact ⟨_, rfl⟩

/-- **what is accepted**: a 3-slice request on which the binary readers return data lies inside the volume with
`0 ≤ start ≤ stop ≤ n` on every axis — *or* its extents equal the volume's (`stop - start = n` on every axis), in
which case the full-volume shortcut answers before any bound is looked at -/
theorem loadSubset_ok_box (f : Bytes) (header b : Nat) (z0 z1 y0 y1 x0 x1 : Int) (nz ny nx : Nat) (r : Arr Nat)
    (h : loadSubset f header [nz, ny, nx] b [(z0, z1), (y0, y1), (x0, x1)] = .ok r) :
    ((0 ≤ z0 ∧ z0 ≤ z1 ∧ z1 ≤ nz) ∧ (0 ≤ y0 ∧ y0 ≤ y1 ∧ y1 ≤ ny) ∧ (0 ≤ x0 ∧ x0 ≤ x1 ∧ x1 ≤ nx)) ∨
    (z1 - z0 = nz ∧ y1 - y0 = ny ∧ x1 - x0 = nx ∧ r.shape = [nz, ny, nx]) := by
  unfold loadSubset at h
  split at h
  · rename_i hfull
    right
    rw [isFullBox_three] at hfull
    split at h
    · simp at h
    · injection h with h
      subst h
      exact ⟨hfull.1, hfull.2.1, hfull.2.2, rfl⟩
  · left
    unfold readSubset at h
    cases hv : validateSlices [(z0, z1), (y0, y1), (x0, x1)] [nz, ny, nx] with
    | some e => simp [hv] at h
    | none =>
      have hs := (validate_sound z0 z1 y0 y1 x0 x1 nz ny nx).mp hv
      simp only [hv] at h
      split at h
      · simp at h
      · omega

/-- today's readers on a full-sized box that is *shifted* out of the volume (`1:3, 1:4, 1:5` of a (2, 3, 4)
volume): the shortcut returns the whole volume, where python slicing clips to extents (1, 2, 3) and
`_validate_slices` would have refused; a step is ignored where python slicing honours it -/
theorem shifted_full_box_and_step_witness :
    (match loadSubset (payload 1 (List.range 24)) 0 [2, 3, 4] 1 [(1, 3), (1, 4), (1, 5)] with
      | .ok r => (r.shape, r.toList) | .err _ => ([], [])) = ([2, 3, 4], List.range 24) ∧
    validateSlices [(1, 3), (1, 4), (1, 5)] [2, 3, 4] = some "Exceeds" ∧
    (match pySliceArr ⟨[2, 3, 4], (List.range 24).toArray⟩ [⟨some 1, some 3, none⟩, ⟨some 1, some 4, none⟩, ⟨some 1, some 5, none⟩] with
      | .ok r => r.shape | .err _ => []) = [1, 2, 3] ∧
    (match emLoadSlices (payload 1 (List.range 24)) 0 [2, 3, 4] 1 [⟨some 0, some 1, none⟩, ⟨some 0, some 1, none⟩, ⟨some 0, some 4, some 2⟩] with
      | .ok r => (r.shape, r.toList) | .err _ => ([], [])) = ([1, 1, 4], [0, 1, 2, 3]) ∧
    (match pySliceArr ⟨[2, 3, 4], (List.range 24).toArray⟩ [⟨some 0, some 1, none⟩, ⟨some 0, some 1, none⟩, ⟨some 0, some 4, some 2⟩] with
      | .ok r => (r.shape, r.toList) | .err _ => ([], [])) = ([1, 1, 2], [0, 2]) ∧
    (match pySliceArr ⟨[2, 3, 4], (List.range 24).toArray⟩ [⟨some (-1), none, none⟩, ⟨none, some (-2), none⟩, ⟨some 1, some 9, some 2⟩] with
      | .ok r => (r.shape, r.toList) | .err _ => ([], [])) = ([1, 1, 2], [13, 15]) ∧
    (match emLoadSlices (payload 1 (List.range 24)) 0 [2, 3, 4] 1 [⟨some (-1), some 2, none⟩, ⟨some 0, some 3, none⟩, ⟨some 0, some 4, none⟩] with
      | .ok _ => "ok" | .err e => e) = "Negative" ∧
    (match emLoadSlices (payload 1 (List.range 24)) 0 [2, 3, 4] 1 [⟨none, some 2, none⟩, ⟨some 0, some 3, none⟩, ⟨some 0, some 3, none⟩] with
      | .ok _ => "ok" | .err e => e) = "TypeError" := by
  decide +kernel

/-! ## MRC data modes (`mrcfile.utils.dtype_from_mode` / `mode_from_dtype`) -/

/-- reader's and writer's mode tables are inverse to each other on the six supported modes; `uint8` has no mode of
its own and is widened to mode 6 (uint16) -/
theorem mrc_modes_inverse :
    (∀ p ∈ mrcModeTable, mrcModeOfDtype p.2.1 = some p.1 ∧ mrcModeDtype p.1 = some p.2.1 ∧ mrcModeSize p.1 = some p.2.2 ∧
      (dtypeSize p.2.1 = none ∨ dtypeSize p.2.1 = some p.2.2)) ∧
    mrcModeOfDtype "uint8" = some 6 ∧ mrcModeDtype 6 = some "uint16" ∧
    mrcModeOfDtype "float64" = none ∧ mrcModeOfDtype "int32" = none := by
  decide +kernel

/-- exactly the modes 0, 1, 2, 4, 6, 12 have a dtype; their item sizes are 1, 2, 4, 8, 2, 2 -/
theorem mrcModeSize_iff (mode b : Nat) :
    mrcModeSize mode = some b ↔
      (mode = 0 ∧ b = 1) ∨ (mode = 1 ∧ b = 2) ∨ (mode = 2 ∧ b = 4) ∨ (mode = 4 ∧ b = 8) ∨ (mode = 6 ∧ b = 2) ∨ (mode = 12 ∧ b = 2) := by
  constructor
  · intro h
    -- the entry found carries `mode` as its key and lies in the table
    obtain ⟨p, hp, hb⟩ := Option.map_eq_some_iff.mp h
    have hk : p.1 = mode := eq_of_beq (List.find?_some (p := fun x : Nat × String × Nat => x.1 == mode) hp)
    have hm := List.mem_of_find?_eq_some hp
    simp only [mrcModeTable, List.mem_cons, List.not_mem_nil, or_false] at hm
    rcases hm with rfl | rfl | rfl | rfl | rfl | rfl <;> (subst hk hb; decide)
  · rintro (⟨rfl, rfl⟩ | ⟨rfl, rfl⟩ | ⟨rfl, rfl⟩ | ⟨rfl, rfl⟩ | ⟨rfl, rfl⟩ | ⟨rfl, rfl⟩) <;> rfl

/-- **for every data mode `mrcfile` knows, with the item size of that mode**: the MRC sub-box read is the slice
(any extended header); supersedes `mrc_subset_eq_slice` (mode 2) and instantiates `mrc_mode_subset_eq_slice` -/
theorem mrc_every_mode_subset_eq_slice (mode b : Nat) (hm : mrcModeSize mode = some b)
    (hdr ext : Bytes) (hh : hdr.length = 1024) (nz ny nx : Nat) (data : List Nat)
    (z0 z1 y0 y1 x0 x1 : Nat)
    (hlen : data.length = nz * ny * nx) (hv : ∀ v ∈ data, v < 256 ^ b)
    (hz : z0 ≤ z1 ∧ z1 ≤ nz) (hy : y0 ≤ y1 ∧ y1 ≤ ny) (hx : x0 ≤ x1 ∧ x1 ≤ nx) :
    0 < b ∧ ∃ r, loadSubset (hdr ++ ext ++ payload b data) (1024 + ext.length) [nz, ny, nx] b
          [((z0 : Int), (z1 : Int)), ((y0 : Int), (y1 : Int)), ((x0 : Int), (x1 : Int))] = .ok r ∧
      r.shape = [z1 - z0, y1 - y0, x1 - x0] ∧
      ∀ i j k, i < z1 - z0 → j < y1 - y0 → k < x1 - x0 →
        r.getD [i, j, k] 0 = (⟨[nz, ny, nx], data.toArray⟩ : Arr Nat).getD [z0 + i, y0 + j, x0 + k] 0 := by
  refine ⟨?_, mrc_mode_subset_eq_slice hdr ext hh b nz ny nx data z0 z1 y0 y1 x0 x1 hlen hv hz hy hx⟩
  have := (mrcModeSize_iff mode b).mp hm
  omega

/-! ## `_load_mrc`: the header under a permuted `mapc/mapr/maps` -/

/-- with the standard order the general header read is `mrcRead` -/
theorem mrcReadCrs_standard (h : MrcFields) (hc : h.mapcrs = [1, 2, 3]) : mrcReadCrs h = mrcRead h := by
  unfold mrcReadCrs
  cases hr : mrcRead h with
  | err e => rfl
  | ok p =>
    have : p.crs = [0, 1, 2] := by
      unfold mrcRead at hr
      simp only [hc] at hr
      split at hr
      · simp at hr
      · injection hr with hr; subst hr; rfl
    simp [this]

/-- round trip of shape, origin, sampling rate through the general header read (corollary of `mrc_roundtrip_fields`) -/
theorem mrcReadCrs_roundtrip (nz ny nx : Nat) (oz oy ox sz sy sx : Rat)
    (hz : 0 < nz) (hy : 0 < ny) (hx : 0 < nx)
    (ho : allTiny [oz, oy, ox] = false ∨ (rint (oz / sz) = 0 ∧ rint (oy / sy) = 0 ∧ rint (ox / sx) = 0)) :
    mrcReadCrs (mrcFields [nz, ny, nx] [oz, oy, ox] [sz, sy, sx])
      = .ok ⟨[nz, ny, nx], [oz, oy, ox], [sz, sy, sx], 1024, [0, 1, 2]⟩ := by
  rw [mrcReadCrs_standard _ rfl]
  exact mrc_roundtrip_fields nz ny nx oz oy ox sz sy sx hz hy hx ho

/-- **header read for each of the six axis orders**: shape and origin are reported through the same permutation as
the voxel data (`transposeArr … crs`), the payload starts after `1024 + nsymbt` bytes; the sampling rate is reported
in file order (not permuted — see `mrc_crs_rate_unpermuted_witness`).  Origin not within 1e-8 of zero (else the
start-index rule of `mrcRead` applies). -/
theorem mrcReadCrs_permuted (crs : List Nat)
    (hcrs : crs ∈ [[0, 1, 2], [0, 2, 1], [1, 0, 2], [1, 2, 0], [2, 0, 1], [2, 1, 0]])
    (nz ny nx mz my mx mode nsymbt : Nat) (st : List Int) (cx cy cz ox oy oz : Rat)
    (ho : allTiny [oz, oy, ox] = false) (data : Array Nat) :
    mrcReadCrs ⟨[nx, ny, nz], mode, st, [mx, my, mz], [cx, cy, cz], crs.map (· + 1), [ox, oy, oz], nsymbt⟩
      = .ok ⟨(transposeArr ⟨[nz, ny, nx], data⟩ crs).shape, permute crs [oz, oy, ox] 0,
             [cz / mz, cy / my, cx / mx], 1024 + nsymbt, crs⟩ := by
  exact mrcReadCrs_fields hcrs nz ny nx mz my mx mode nsymbt st cx cy cz ox oy oz (by rw [ho]; rfl) rfl

/-- today's reader on a (2, 3, 4)-voxel file with voxel sizes (z, y, x) = (3, 2, 1) Å and `mapc/mapr/maps = 2, 1, 3`:
the volume comes back with extents (3, 2, 4) and the origin permuted alike, the sampling rate stays (3, 2, 1) -/
theorem mrc_crs_rate_unpermuted_witness :
    (match mrcReadCrs ⟨[4, 3, 2], 2, [0, 0, 0], [4, 3, 2], [4, 6, 6], [2, 1, 3], [10, 20, 30], 0⟩ with
      | .ok p => (p.shape, p.origin, p.rate) | .err _ => ([], [], [])) = ([3, 2, 4], [20, 30, 10], [3, 2, 1]) := by
  decide +kernel

/-! ## `_load_em` on unknown type codes; `_save_em` on densities that are not 3-D -/

/-- the item size `_load_em` reads with is the table's for a listed code and 8 (float64) for every other one; for
whatever dtype a density is held in, it is the item size of what `_save_em` put on disk -/
theorem emReadItemsize_spec (code : Nat) :
    (∀ b, emItemsize code = some b → emReadItemsize code = b) ∧ (emItemsize code = none → emReadItemsize code = 8) ∧
    (∀ dtype : String, some (emReadItemsize (emWriteCode dtype)) = dtypeSize (emWriteDtype dtype)) := by
  refine ⟨fun b h => by simp [emReadItemsize, h], fun h => by simp [emReadItemsize, h], fun dtype => ?_⟩
  obtain ⟨_, h2, h3⟩ := em_write_code_describes_payload dtype
  cases hs : dtypeSize (emWriteDtype dtype) with
  | none => simp [hs] at h3
  | some b => simp [emReadItemsize, h2, hs]

/-- **a sub-box of an EM file is the slice whatever type code the header carries** — listed or not, the reader
takes the dimensions from the header and reads items of `emReadItemsize code` bytes (8 for an unknown code) -/
theorem em_subset_any_code_eq_slice (code nz ny nx : Nat) (rate : Int) (data : List Nat)
    (z0 z1 y0 y1 x0 x1 : Nat)
    (hdz : nz < 2147483648) (hdy : ny < 2147483648) (hdx : nx < 2147483648)
    (hr1 : -2147483648 ≤ rate) (hr2 : rate < 2147483648)
    (hlen : data.length = nz * ny * nx) (hv : ∀ v ∈ data, v < 256 ^ emReadItemsize code)
    (hz : z0 ≤ z1 ∧ z1 ≤ nz) (hy : y0 ≤ y1 ∧ y1 ≤ ny) (hx : x0 ≤ x1 ∧ x1 ≤ nx) :
    ∃ r, emLoadSubsetAny (emEncode code (emReadItemsize code) [nz, ny, nx] rate data)
          [((z0 : Int), (z1 : Int)), ((y0 : Int), (y1 : Int)), ((x0 : Int), (x1 : Int))] = .ok r ∧
      r.shape = [z1 - z0, y1 - y0, x1 - x0] ∧
      ∀ i j k, i < z1 - z0 → j < y1 - y0 → k < x1 - x0 →
        r.getD [i, j, k] 0 = (⟨[nz, ny, nx], data.toArray⟩ : Arr Nat).getD [z0 + i, y0 + j, x0 + k] 0 := by
  unfold emLoadSubsetAny
  rw [emParse_emEncode code _ nz ny nx rate data hdz hdy hdx hr1 hr2]
  exact em_subset_eq_slice code (emReadItemsize code) nz ny nx rate data z0 z1 y0 y1 x0 x1 hlen hv hz hy hx

/-- `_save_em` writes one dimension word per axis of the density: the header has `500 + 4·rank` bytes for a volume
of any rank, the 512 bytes `_load_em` skips exactly for rank 3 -/
theorem emHeader_length_rank (code : Nat) (shape : List Nat) (rate : Int) :
    (emHeader code shape rate).length = emHeaderLen shape.length ∧ (emHeaderLen shape.length = 512 ↔ shape.length = 3) := by
  constructor
  · unfold emHeader emUserParams emHeaderLen
    simp only [List.length_append, length_payload, length_spaces, List.length_map, List.length_range, List.length_cons,
      List.length_nil]
    rw [length_flatMap_const shape.reverse (leBytes 4) 4 (fun v _ => length_leBytes 4 v), List.length_reverse]
    omega
  · unfold emHeaderLen; omega

/-- today's writer on a 2-D density (2, 3): the header is 508 bytes, so the reader takes the first four padding
blanks for the slowest dimension (0x20202020 = 538976288) and starts the payload 4 bytes late — `to_file` does not
refuse a non-3-D density for the EM format -/
theorem em_rank2_witness :
    (emHeader 5 [2, 3] 1000).length = 508 ∧
    (emParse (emEncode 5 4 [2, 3] 1000 [1, 2, 3, 4, 5, 6])).map (·.shape) = some [538976288, 2, 3] := by
  refine ⟨by rw [(emHeader_length_rank 5 [2, 3] 1000).1]; rfl, by decide +kernel⟩

/-! ## `to_file`: which names select which writer -/

/-- which names select which format, exactly -/
theorem saveFmt_iff (name : List Char) :
    (saveFmt name = .em ↔ (endsWith name "em".toList = true ∨ endsWith name "em.gz".toList = true)) ∧
    (saveFmt name = .h5 ↔ (¬ (endsWith name "em".toList = true ∨ endsWith name "em.gz".toList = true) ∧
      (endsWith name "h5".toList = true ∨ endsWith name "h5.gz".toList = true))) := by
  unfold saveFmt
  generalize endsWith name "em".toList = a
  generalize endsWith name "em.gz".toList = b
  generalize endsWith name "h5".toList = c
  generalize endsWith name "h5.gz".toList = d
  revert a b c d
  decide

/-- `to_file(name, gzip)` applied to its own final name changes nothing (".gz" is appended at most once) -/
theorem finalName_idem (name : List Char) (gzip : Bool) : finalName (finalName name gzip) gzip = finalName name gzip := by
  cases gzip with
  | false => simp [finalName]
  | true =>
    have h := (finalName_spec name).2
    show (if (true && !(endsWith (finalName name true) ".gz".toList)) = true then _ else _) = _
    rw [h]
    rfl

/-- the dispatch is by suffix, not by extension, and case-sensitive: no dot is needed ("stem" is an EM file), upper-case
extensions fall through to MRC, an upper-case ".GZ" gets a second ".gz" -/
theorem dispatch_suffix_witness :
    saveFmt "stem".toList = .em ∧ saveFmt "oh5".toList = .h5 ∧ saveFmt "a.EM".toList = .mrc ∧ saveFmt "a.H5".toList = .mrc ∧
    saveFmt "a.em.GZ".toList = .mrc ∧ finalName "a.mrc.GZ".toList true = "a.mrc.GZ.gz".toList ∧
    saveFmt "a.em.bak".toList = .mrc ∧ saveFmt "a.em.gz.gz".toList = .mrc ∧ saveFmt "a.hdf5".toList = .mrc ∧
    loadFmt "theorem.h5".toList = .h5 ∧ loadFmt "xh5.em.gz".toList = .em := by
  decide +kernel

/-! ## the model on small inputs: modes, item sizes, slices, sub-boxes, headers -/

example : mrcModeSize 12 = some 2 ∧ mrcModeSize 4 = some 8 ∧ mrcModeSize 3 = none ∧ mrcModeSize 101 = none := by decide
example : emReadItemsize 5 = 4 ∧ emReadItemsize 7 = 8 ∧ emReadItemsize 200 = 8 := by decide +kernel
example : emHeaderLen 3 = 512 ∧ emHeaderLen 2 = 508 ∧ emHeaderLen 4 = 516 := by decide
example : allTiny [30, 20, 10] = false := by decide +kernel
example : pyIndices 4 ⟨some (-1), none, none⟩ = some (3, 4, 1) ∧ pyIndices 4 ⟨some 1, some 9, some 2⟩ = some (1, 4, 2) ∧
    pyRange (1, 4, 2) = [1, 3] ∧ pyIndices 4 ⟨none, none, some 0⟩ = none ∧ pyIndices 4 ⟨some (-9), some (-1), none⟩ = some (0, 3, 1) := by decide
example : mrcSliceBox [⟨some 1, some 2, some 5⟩] [2, 3, 4] = some [(1, 2), (0, 3), (0, 4)] ∧
    mrcSliceBox [⟨none, some 2, none⟩] [2, 3, 4] = none ∧ emSliceBox [⟨some 1, some 2, none⟩] = some [(1, 2)] := by decide
example : (match emLoadSubsetAny (emEncode 7 8 [1, 1, 2] 1000 [4607182418800017408, 4611686018427387904]) [(0, 1), (0, 1), (1, 2)] with
    | .ok r => (r.shape, r.toList) | .err _ => ([], [])) = ([1, 1, 1], [4611686018427387904]) := by
  decide +kernel

example : ∃ r r', emLoadSlices ([9, 9] ++ payload 2 (List.range 12) ++ [7]) 2 [2, 2, 3] 2
      [⟨some 1, some 2, none⟩, ⟨some 0, some 2, some 1⟩, ⟨some 1, some 3, none⟩] = .ok r ∧
    pySliceArr ⟨[2, 2, 3], (List.range 12).toArray⟩ [⟨some 1, some 2, none⟩, ⟨some 0, some 2, some 1⟩, ⟨some 1, some 3, none⟩] = .ok r' ∧
    r.shape = r'.shape ∧ ∀ i j k, i < 2 - 1 → j < 2 - 0 → k < 3 - 1 → r.getD [i, j, k] 0 = r'.getD [i, j, k] 0 :=
  em_slices_eq_python_slicing [9, 9] [7] 2 2 2 3 (List.range 12) 1 2 0 2 1 3 none (some 1) none (Or.inl rfl) (Or.inr rfl) (Or.inl rfl)
    (by decide) (by decide) (by decide) (by decide) (by decide)
example := mrc_slices_eq_python_slicing (List.replicate 1028 0) [] 1 2 2 3 (List.range 12) 0 1 1 2 0 3 (some 1) none none
    (Or.inr rfl) (Or.inl rfl) (Or.inl rfl) (by decide) (by decide) (by decide) (by decide) (by decide)
example : ∃ e, emLoadSlices [] 512 [2, 3, 4] 4 [⟨some 0, some 1, none⟩] = .err e :=
  em_slices_wrong_length [] 512 4 2 3 4 _ (by decide)
example := mrc_every_mode_subset_eq_slice 12 2 (by decide) (List.replicate 1024 0) [1, 2, 3, 4] List.length_replicate 2 2 3 (List.range 12)
    1 2 0 2 1 3 (by decide) (by decide) (by decide) (by decide) (by decide)
example := mrcReadCrs_permuted [1, 2, 0] (by decide) 2 3 4 2 3 4 12 80 [0, 0, 0] 4 6 6 10 20 30 (by decide +kernel) #[]
example := em_subset_any_code_eq_slice 7 1 2 2 1500 [1, 2, 3, 18446744073709551615] 0 1 1 2 0 2 (by decide) (by decide) (by decide)
    (by decide) (by decide) (by decide) (by decide) (by decide) (by decide) (by decide)
example : loadSubset (payload 1 (List.range 24)) 0 [2, 3, 4] 1 [(0, 1), (1, 3), (2, 4)] = .ok ⟨[1, 2, 2], #[6, 7, 10, 11]⟩ ∧
    pyRange (2, 4, 1) = [2, 3] := by
  constructor
  · rfl
  · decide
example : mrcReadCrs (mrcFields [2, 3, 4] [3 / 2, -9 / 4, 3] [3 / 2, 2, 1 / 2])
    = .ok ⟨[2, 3, 4], [3 / 2, -9 / 4, 3], [3 / 2, 2, 1 / 2], 1024, [0, 1, 2]⟩ :=
  mrcReadCrs_roundtrip 2 3 4 _ _ _ _ _ _ (by decide) (by decide) (by decide) (Or.inl (by decide +kernel))
example : finalName (finalName "a.em".toList true) true = "a.em.gz".toList := by decide +kernel

example : rdTok ([9, 9] ++ payload 2 (List.range 24) ++ [1]) (2 + flatIdx [2, 3, 4] [1, 2, 3] * 2) 2 = 23 := by decide +kernel
example : rowOffset 1024 3 4 2 1 2 3 = 1024 + 23 * 2 := by decide
example : (allTiny [63 / 12500000000, 0, 0] && !([rint ((63 / 12500000000 : Rat) / (1 / 10000000000)), rint ((0 : Rat) / (1 / 10000000000)),
    rint ((0 : Rat) / (1 / 10000000000))].all (· == 0))) = true ∧ allTiny [3 / 2, 0, 0] = false := by decide +kernel


/-! ## `_read_binary_subset` on truncated files: short reads as coded -/

/-- what a row read can return: the row, or — when exactly one item is left in the file — that item repeated -/
theorem readRowExact_outcomes (f : Bytes) (off k b : Nat) (r : List Nat) (h : readRowExact f off k b = some r) :
    r.length = k ∧ (r = readRow f off k b ∨ r = List.replicate k (rdTok f off b)) := by
  unfold readRowExact at h
  simp only at h
  split at h
  · simp at h
  · split at h
    · injection h with h; subst h; exact ⟨length_readRow _ _ _ _, Or.inl rfl⟩
    · split at h
      · injection h with h; subst h; exact ⟨by simp, Or.inr rfl⟩
      · simp at h

/-- on a file that holds the whole payload every row of every in-range box is read whole -/
theorem readRowsExact_complete (f : Bytes) (header nz ny nx b z0 z1 y0 y1 x0 x1 : Nat) (hb : 0 < b)
    (hf : header + nz * ny * nx * b ≤ f.length) (hz : z1 ≤ nz) (hy : y1 ≤ ny) (hx : x0 ≤ x1 ∧ x1 ≤ nx) :
    readRowsExact f header ny nx b z0 z1 y0 y1 x0 x1 = some (readRows f header ny nx b z0 z1 y0 y1 x0 x1) := by
  unfold readRowsExact readRows
  refine optFlat_map_of_some _ _ _ fun i hi => optFlat_map_of_some _ _ _ fun j hj => ?_
  rw [List.mem_range] at hi hj
  exact readRowExact_complete _ _ _ _ hb
    ((rowOffset_row_le header nz ny nx b (z0 + i) (y0 + j) x0 x1 (by omega) (by omega) hx).trans hf)

/-- **the item-by-item reader is the row reader of the theorems above on every file that holds the whole payload**,
for every box (accepted or refused): short reads only matter for truncated files -/
theorem readSubsetExact_eq_readSubset (f : Bytes) (header b nz ny nx : Nat) (box : Box) (hb : 0 < b)
    (hf : header + nz * ny * nx * b ≤ f.length) :
    readSubsetExact f header [nz, ny, nx] b box = readSubset f header [nz, ny, nx] b box := by
  cases hv : validateSlices box [nz, ny, nx] with
  | some e => unfold readSubsetExact readSubset; rw [hv]
  | none =>
    have hl : box.length = 3 := ((validateSlices_none_iff _ _).mp hv).1
    match box, hl, hv with
    | [(z0, z1), (y0, y1), (x0, x1)], _, hv =>
      obtain ⟨⟨_, _, _, hz1⟩, ⟨_, _, _, hy1⟩, ⟨_, _, _, hx1⟩⟩ := (validate_sound z0 z1 y0 y1 x0 x1 nz ny nx).mp hv
      by_cases hneg : z1 < z0 ∨ y1 < y0 ∨ x1 < x0
      · unfold readSubsetExact readSubset
        simp only [hv, if_pos hneg]
      · obtain ⟨hz, hyx⟩ := not_or.mp hneg
        obtain ⟨hy, hx⟩ := not_or.mp hyx
        rw [readSubset_of_valid f header b nz ny nx z0 z1 y0 y1 x0 x1 hv (Int.not_lt.mp hz) (Int.not_lt.mp hy)
          (Int.not_lt.mp hx) hf]
        unfold readSubsetExact
        simp only [hv, if_neg hneg, readRowsExact_complete f header nz ny nx b z0.toNat z1.toNat y0.toNat y1.toNat
          x0.toNat x1.toNat hb hf (Int.toNat_le.mpr hz1) (Int.toNat_le.mpr hy1)
          ⟨Int.toNat_le_toNat (Int.not_lt.mp hx), Int.toNat_le.mpr hx1⟩]

theorem loadSubsetExact_eq_loadSubset (f : Bytes) (header b nz ny nx : Nat) (box : Box) (hb : 0 < b)
    (hf : header + nz * ny * nx * b ≤ f.length) :
    loadSubsetExact f header [nz, ny, nx] b box = loadSubset f header [nz, ny, nx] b box := by
  unfold loadSubsetExact loadSubset
  rw [readSubsetExact_eq_readSubset f header b nz ny nx box hb hf]

/-- **sub-box = slice for the reader exactly as coded** (corollary of `loadSubset_eq_slice`) -/
theorem loadSubsetExact_eq_slice (pre post : Bytes) (b nz ny nx : Nat) (data : List Nat) (hb : 0 < b)
    (z0 z1 y0 y1 x0 x1 : Nat)
    (hlen : data.length = nz * ny * nx) (hv : ∀ v ∈ data, v < 256 ^ b)
    (hz : z0 ≤ z1 ∧ z1 ≤ nz) (hy : y0 ≤ y1 ∧ y1 ≤ ny) (hx : x0 ≤ x1 ∧ x1 ≤ nx) :
    ∃ r, loadSubsetExact (pre ++ payload b data ++ post) pre.length [nz, ny, nx] b
          [((z0 : Int), (z1 : Int)), ((y0 : Int), (y1 : Int)), ((x0 : Int), (x1 : Int))] = .ok r ∧
      r.shape = [z1 - z0, y1 - y0, x1 - x0] ∧
      ∀ i j k, i < z1 - z0 → j < y1 - y0 → k < x1 - x0 →
        r.getD [i, j, k] 0 = (⟨[nz, ny, nx], data.toArray⟩ : Arr Nat).getD [z0 + i, y0 + j, x0 + k] 0 := by
  rw [loadSubsetExact_eq_loadSubset _ _ _ _ _ _ _ hb (by simp [length_payload, hlen])]
  exact loadSubset_eq_slice pre post b nz ny nx data z0 z1 y0 y1 x0 x1 hlen hv hz hy hx

/-- today's reader on a (2, 3, 4) volume whose file lost its last voxel: the row `[1, 2, 2:4]` holds 23, 24; one item
is left in the file, numpy broadcasts it, and the caller gets 23, 23 without an error; with two voxels lost the
same request is refused.  (Outside the property: `to_file` never writes a truncated file.) -/
theorem truncated_row_broadcast_witness :
    (match loadSubsetExact (payload 1 (List.range 23)) 0 [2, 3, 4] 1 [(1, 2), (2, 3), (2, 4)] with
      | .ok r => (r.shape, r.toList) | .err _ => ([], [])) = ([1, 1, 2], [22, 22]) ∧
    (match loadSubsetExact (payload 1 (List.range 24)) 0 [2, 3, 4] 1 [(1, 2), (2, 3), (2, 4)] with
      | .ok r => (r.shape, r.toList) | .err _ => ([], [])) = ([1, 1, 2], [22, 23]) ∧
    (match loadSubsetExact (payload 1 (List.range 22)) 0 [2, 3, 4] 1 [(1, 2), (2, 3), (2, 4)] with
      | .ok _ => "ok" | .err e => e) = "ShortRead" ∧
    (match loadSubset (payload 1 (List.range 23)) 0 [2, 3, 4] 1 [(1, 2), (2, 3), (2, 4)] with
      | .ok _ => "ok" | .err e => e) = "ShortRead" := by
  decide +kernel

example : readRowExact (payload 2 [1, 2, 3]) 2 2 2 = some [2, 3] ∧ readRowExact (payload 2 [1, 2, 3]) 4 2 2 = some [3, 3] ∧
    readRowExact (payload 2 [1, 2, 3] ++ [0]) 4 2 2 = none ∧ readRowExact (payload 2 [1, 2, 3]) 6 2 2 = none ∧
    readRowExact (payload 2 [1, 2, 3]) 6 0 2 = some [] := by decide
example := readSubsetExact_eq_readSubset ([9, 9] ++ payload 2 (List.range 24) ++ [1]) 2 2 2 3 4 [(1, 2), (0, 2), (1, 9)] (by decide) (by decide)
example := loadSubsetExact_eq_slice [9, 9] [1] 2 2 3 4 (List.range 24) (by decide) 1 2 0 2 1 3 (by decide) (by decide) (by decide) (by decide) (by decide)


/-! ## `_save_em` / `_load_em`: the sampling-rate word -/

/-- **EM sampling rate to the precision of the format**: a rate of at least 0.001 Å is stored as a whole number of
1/1000 Å (truncated) and read back at most 0.001 Å too small, never too large -/
theorem em_rate_roundtrip_precision (q : Rat) (h : 1 / 1000 ≤ q) :
    emRateRead (emRateMilliOf q) ≤ q ∧ q - emRateRead (emRateMilliOf q) < 1 / 1000 ∧
    emRateRead (emRateMilliOf q) = (emRateOut (emRateMilliOf q) : Rat) / 1000 := by
  have hq : 0 ≤ q := by linarith
  have hm : emRateMilliOf q = (q * 1000).floor := if_pos hq
  have h1 : (1 : Int) ≤ (q * 1000).floor := Rat.le_floor_iff.mpr (by push_cast; linarith)
  have hne : (q * 1000).floor ≠ 0 := by omega
  have hle : (((q * 1000).floor : Int) : Rat) ≤ q * 1000 := Rat.floor_le _
  have hlt := Rat.lt_floor_add_one (q * 1000)
  push_cast at hlt
  rw [hm]
  simp only [emRateRead, emRateOut, hne, if_false]
  refine ⟨by linarith, by linarith, trivial⟩

/-- a whole number of 1/1000 Å (any sign, any size) is stored and read back exactly — unless it is 0 -/
theorem em_rate_roundtrip_exact (m : Int) (hm : m ≠ 0) : emRateRead (emRateMilliOf ((m : Rat) / 1000)) = (m : Rat) / 1000 := by
  have e : ((m : Rat) / 1000) * 1000 = (m : Rat) := by ring
  have e2 : (-((m : Rat) / 1000)) * 1000 = ((-m : Int) : Rat) := by push_cast; ring
  unfold emRateMilliOf
  split
  · rw [e, Rat.floor_intCast]; simp [emRateRead, hm]
  · rw [e2, Rat.floor_intCast]; simp [emRateRead, hm]

/-- today's format on rates below 0.001 Å (and on 0): the word is 0, which the reader takes for "missing" and
reports as 1 Å; 1.2345 Å comes back as 1.234 Å; −2.5 Å as −2.5 Å (truncation is toward zero) -/
theorem em_rate_small_witness :
    emRateRead (emRateMilliOf (1 / 2000)) = 1 ∧ emRateRead (emRateMilliOf 0) = 1 ∧
    emRateRead (emRateMilliOf (2469 / 2000)) = 617 / 500 ∧ emRateRead (emRateMilliOf (-5 / 2)) = -5 / 2 ∧
    emRateMilliOf (-12345 / 10000) = -1234 := by
  decide +kernel

example : (1 : Rat) / 1000 ≤ 2469 / 2000 ∧ emRateMilliOf (2469 / 2000) = 1234 := by decide +kernel


/-! ## short `subset` tuples in `_load_mrc`; which requests `_load_em` answers -/

/-- python slicing completes a short tuple with full axes, exactly like `_load_mrc` (`mrcSliceBox_short`) -/
theorem pySliceArr_short (data : Array Nat) (nz ny nx : Nat) (s0 s1 : PySlice) :
    pySliceArr ⟨[nz, ny, nx], data⟩ [s0]
      = pySliceArr ⟨[nz, ny, nx], data⟩ [s0, ⟨some 0, some (ny : Int), none⟩, ⟨some 0, some (nx : Int), none⟩] ∧
    pySliceArr ⟨[nz, ny, nx], data⟩ [s0, s1]
      = pySliceArr ⟨[nz, ny, nx], data⟩ [s0, s1, ⟨some 0, some (nx : Int), none⟩] :=
  ⟨(pySliceArr_snoc_full _ [s0] (Nat.le_of_ble_eq_true rfl)).trans
      (pySliceArr_snoc_full _ [s0, _] (Nat.le_of_ble_eq_true rfl)),
    pySliceArr_snoc_full _ [s0, s1] (Nat.le_of_ble_eq_true rfl)⟩

/-- **an MRC request of one leading slice** (what tiling along the slowest axis asks for) is read like python slices it -/
theorem mrc_one_slice_eq_python_slicing (pre post : Bytes) (b nz ny nx : Nat) (data : List Nat)
    (z0 z1 : Nat) (s0 : Option Int) (h0 : s0 = none ∨ s0 = some 1)
    (hlen : data.length = nz * ny * nx) (hv : ∀ v ∈ data, v < 256 ^ b) (hz : z0 ≤ z1 ∧ z1 ≤ nz) :
    ∃ r r', mrcLoadSlices (pre ++ payload b data ++ post) pre.length [nz, ny, nx] b [⟨some (z0 : Int), some (z1 : Int), s0⟩] = .ok r ∧
      pySliceArr ⟨[nz, ny, nx], data.toArray⟩ [⟨some (z0 : Int), some (z1 : Int), s0⟩] = .ok r' ∧
      r.shape = r'.shape ∧ r.shape = [z1 - z0, ny, nx] ∧
      ∀ i j k, i < z1 - z0 → j < ny → k < nx → r.getD [i, j, k] 0 = r'.getD [i, j, k] 0 := by
  obtain ⟨r, r', hr, hr', hs, hg⟩ := mrc_slices_eq_python_slicing pre post b nz ny nx data z0 z1 0 ny 0 nx s0 none none h0
    (Or.inl rfl) (Or.inl rfl) hlen hv hz ⟨Nat.zero_le _, Nat.le_refl _⟩ ⟨Nat.zero_le _, Nat.le_refl _⟩
  obtain ⟨_, hr'', hs'', _⟩ := pySliceArr_canonical data.toArray nz ny nx z0 z1 0 ny 0 nx s0 none none h0
    (Or.inl rfl) (Or.inl rfl) hz ⟨Nat.zero_le _, Nat.le_refl _⟩ ⟨Nat.zero_le _, Nat.le_refl _⟩
  cases hr'.symm.trans hr''
  refine ⟨r, r', ?_, ?_, hs, hs.trans hs'', hg⟩
  · unfold mrcLoadSlices
    rw [(mrcSliceBox_short _ ⟨none, none, none⟩ ⟨none, none, none⟩ ⟨none, none, none⟩ nz ny nx).1]
    exact hr
  · rw [(pySliceArr_short data.toArray nz ny nx _ ⟨none, none, none⟩).1]
    exact hr'

/-- **what an accepted EM request looks like**: if `_load_em` returns data for three slices, all six bounds were given
and either lie inside the volume (`0 ≤ start ≤ stop ≤ n`) or have the volume's extents (the shortcut) -/
theorem em_slices_ok_box (f : Bytes) (header b nz ny nx : Nat) (s0 s1 s2 : PySlice) (r : Arr Nat)
    (h : emLoadSlices f header [nz, ny, nx] b [s0, s1, s2] = .ok r) :
    ∃ z0 z1 y0 y1 x0 x1 : Int,
      (s0.start = some z0 ∧ s0.stop = some z1 ∧ s1.start = some y0 ∧ s1.stop = some y1 ∧ s2.start = some x0 ∧ s2.stop = some x1) ∧
      (((0 ≤ z0 ∧ z0 ≤ z1 ∧ z1 ≤ nz) ∧ (0 ≤ y0 ∧ y0 ≤ y1 ∧ y1 ≤ ny) ∧ (0 ≤ x0 ∧ x0 ≤ x1 ∧ x1 ≤ nx)) ∨
       (z1 - z0 = nz ∧ y1 - y0 = ny ∧ x1 - x0 = nx ∧ r.shape = [nz, ny, nx])) := by
  unfold emLoadSlices at h
  cases hb : emSliceBox [s0, s1, s2] with
  | none => rw [hb] at h; cases h
  | some box =>
    rw [hb] at h
    obtain ⟨⟨z0, z1⟩, _, h0, hb1, rfl⟩ := mapM_cons_eq_some hb
    obtain ⟨⟨y0, y1⟩, _, h1, hb2, rfl⟩ := mapM_cons_eq_some hb1
    obtain ⟨⟨x0, x1⟩, _, h2, hb3, rfl⟩ := mapM_cons_eq_some hb2
    cases hb3
    have ⟨a0, a1⟩ := sliceBounds_eq_some h0
    have ⟨b0, b1⟩ := sliceBounds_eq_some h1
    have ⟨c0, c1⟩ := sliceBounds_eq_some h2
    exact ⟨z0, z1, y0, y1, x0, x1, ⟨a0, a1, b0, b1, c0, c1⟩, loadSubset_ok_box f header b z0 z1 y0 y1 x0 x1 nz ny nx r h⟩

example := mrc_one_slice_eq_python_slicing (List.replicate 1024 0) [] 2 2 3 4 (List.range 24) 1 2 none (Or.inl rfl)
    (by decide) (by decide) (by decide)
example : mrcLoadSlices (payload 1 (List.range 24)) 0 [2, 3, 4] 1 [⟨some 1, some 2, none⟩]
    = .ok ⟨[1, 3, 4], #[12, 13, 14, 15, 16, 17, 18, 19, 20, 21, 22, 23]⟩ := rfl
example : emLoadSlices (payload 1 (List.range 24)) 0 [2, 3, 4] 1 [⟨some 1, some 2, none⟩, ⟨some 0, some 1, some 7⟩, ⟨some 2, some 4, none⟩]
    = .ok ⟨[1, 1, 2], #[14, 15]⟩ := rfl

/-! ## `_load_mrc`: the permuted header for every origin -/

/-- the same for every origin: when the origin words are within 1e-8 of zero and a start index is not zero, the
origin reported is `start × rate`, taken through the permutation as well -/
theorem mrcReadCrs_permuted_exact (crs : List Nat)
    (hcrs : crs ∈ [[0, 1, 2], [0, 2, 1], [1, 0, 2], [1, 2, 0], [2, 0, 1], [2, 1, 0]])
    (nz ny nx mz my mx mode nsymbt : Nat) (ax ay az : Int) (cx cy cz ox oy oz : Rat) :
    mrcReadCrs ⟨[nx, ny, nz], mode, [ax, ay, az], [mx, my, mz], [cx, cy, cz], crs.map (· + 1), [ox, oy, oz], nsymbt⟩
      = .ok ⟨permute crs [nz, ny, nx] 0,
             permute crs (if allTiny [oz, oy, ox] && !([az, ay, ax].all (· == 0))
               then [(az : Rat) * (cz / mz), (ay : Rat) * (cy / my), (ax : Rat) * (cx / mx)] else [oz, oy, ox]) 0,
             [cz / mz, cy / my, cx / mx], 1024 + nsymbt, crs⟩ := by
  exact mrcReadCrs_fields hcrs nz ny nx mz my mx mode nsymbt [ax, ay, az] cx cy cz ox oy oz rfl (by split <;> rfl)

example : (match mrcReadCrs ⟨[4, 3, 2], 2, [1, 2, 3], [4, 3, 2], [4, 6, 6], [3, 1, 2], [0, 0, 0], 0⟩ with
      | .ok p => (p.shape, p.origin, p.rate) | .err _ => ([], [], [])) = ([4, 2, 3], [1, 9, 4], [3, 2, 1]) := by
  decide +kernel

/-! ## `use_memmap` and sub-boxes on gzip-compressed input -/

/-- a memory-mapped read is granted exactly for files without the gzip magic number: always for a plain EM file,
never for anything written through gzip, and for a plain MRC file unless `nx ≡ 35615 (mod 65536)` (the known finding) -/
theorem effMemmap_spec (gz gunz : Bytes → Bytes) (hc : GzipContract gz gunz) (code b : Nat) (shape : List Nat) (rate : Int)
    (data : List Nat) (content : Bytes) (nx : Nat) (rest : Bytes) :
    effMemmap (emEncode code b shape rate data) true = true ∧
    effMemmap (writeMaybeGz gz true content) true = false ∧
    (effMemmap (leBytes 4 nx ++ rest) true = true ↔ nx % 65536 ≠ 35615) ∧
    (∀ f, effMemmap f false = false) := by
  refine ⟨by simp [effMemmap, em_not_gz], by simp [effMemmap, writeMaybeGz, hc.magic], ?_, fun f => by simp [effMemmap]⟩
  rw [Ne, ← mrc_gz_iff nx rest]
  simp [effMemmap]

example : effMemmap (leBytes 4 64 ++ [0]) true = true ∧ effMemmap (leBytes 4 35615 ++ [0]) true = false ∧
    effMemmap [31, 139, 8] true = false := by decide


/-- **a sub-box of an EM file written through `to_file(…, gzip)` — compressed or not — is the slice**, for every
compressor meeting the gzip contract: the reader sniffs the magic number, gunzips into memory and runs the same
row loop on the bytes written -/
theorem em_gz_subset_eq_slice (gz gunz : Bytes → Bytes) (hc : GzipContract gz gunz) (gzip : Bool)
    (code b nz ny nx : Nat) (rate : Int) (data : List Nat) (hb : 0 < b)
    (z0 z1 y0 y1 x0 x1 : Nat)
    (hlen : data.length = nz * ny * nx) (hv : ∀ v ∈ data, v < 256 ^ b)
    (hz : z0 ≤ z1 ∧ z1 ≤ nz) (hy : y0 ≤ y1 ∧ y1 ≤ ny) (hx : x0 ≤ x1 ∧ x1 ≤ nx) :
    ∃ r, loadSubsetExact (openMaybeGz gunz (writeMaybeGz gz gzip (emEncode code b [nz, ny, nx] rate data))) 512 [nz, ny, nx] b
          [((z0 : Int), (z1 : Int)), ((y0 : Int), (y1 : Int)), ((x0 : Int), (x1 : Int))] = .ok r ∧
      r.shape = [z1 - z0, y1 - y0, x1 - x0] ∧
      ∀ i j k, i < z1 - z0 → j < y1 - y0 → k < x1 - x0 →
        r.getD [i, j, k] 0 = (⟨[nz, ny, nx], data.toArray⟩ : Arr Nat).getD [z0 + i, y0 + j, x0 + k] 0 := by
  rw [open_write_maybe_gz gz gunz hc gzip _ (em_not_gz _ _ _ _ _)]
  have h := loadSubsetExact_eq_slice (emHeader code [nz, ny, nx] rate) [] b nz ny nx data hb z0 z1 y0 y1 x0 x1 hlen hv hz hy hx
  rw [emHeader_length, List.append_nil] at h
  exact h

/-- the same for an MRC file (any mode's item size, any extended header) whose first dimension word does not carry the
gzip magic number (`nx ≢ 35615 mod 65536`, the known finding) -/
theorem mrc_gz_subset_eq_slice (gz gunz : Bytes → Bytes) (hc : GzipContract gz gunz) (gzip : Bool)
    (hdrRest ext : Bytes) (hh : hdrRest.length = 1020) (b nz ny nx : Nat) (hnx : nx % 65536 ≠ 35615) (data : List Nat) (hb : 0 < b)
    (z0 z1 y0 y1 x0 x1 : Nat)
    (hlen : data.length = nz * ny * nx) (hv : ∀ v ∈ data, v < 256 ^ b)
    (hz : z0 ≤ z1 ∧ z1 ≤ nz) (hy : y0 ≤ y1 ∧ y1 ≤ ny) (hx : x0 ≤ x1 ∧ x1 ≤ nx) :
    ∃ r, loadSubsetExact (openMaybeGz gunz (writeMaybeGz gz gzip (leBytes 4 nx ++ (hdrRest ++ ext ++ payload b data))))
          (1024 + ext.length) [nz, ny, nx] b
          [((z0 : Int), (z1 : Int)), ((y0 : Int), (y1 : Int)), ((x0 : Int), (x1 : Int))] = .ok r ∧
      r.shape = [z1 - z0, y1 - y0, x1 - x0] ∧
      ∀ i j k, i < z1 - z0 → j < y1 - y0 → k < x1 - x0 →
        r.getD [i, j, k] 0 = (⟨[nz, ny, nx], data.toArray⟩ : Arr Nat).getD [z0 + i, y0 + j, x0 + k] 0 := by
  rw [mrc_open_write gz gunz hc gzip nx _ hnx, ← List.append_assoc, ← List.append_assoc]
  have h := loadSubsetExact_eq_slice (leBytes 4 nx ++ hdrRest ++ ext) [] b nz ny nx data hb z0 z1 y0 y1 x0 x1 hlen hv hz hy hx
  rw [List.append_nil, List.length_append, List.length_append, length_leBytes, hh] at h
  exact h

example (gz gunz : Bytes → Bytes) (hc : GzipContract gz gunz) :=
  em_gz_subset_eq_slice gz gunz hc true 5 4 2 3 4 1000 (List.range 24) (by decide) 1 2 0 2 1 3 (by decide) (by decide) (by decide) (by decide) (by decide)
example (gz gunz : Bytes → Bytes) (hc : GzipContract gz gunz) :=
  mrc_gz_subset_eq_slice gz gunz hc true (List.replicate 1020 0) [1, 2] List.length_replicate 2 2 3 4 (by decide) (List.range 24) (by decide)
    1 2 0 2 1 3 (by decide) (by decide) (by decide) (by decide) (by decide)
example : GzipContract (fun x => [31, 139] ++ x) (fun x => x.drop 2) := ⟨fun x => by simp [isGz], fun x => by simp⟩

/-! ## the two slicing references agree; `_load_mrc` / `_load_em` never read the step of a slice -/

/-- for in-range unit-step requests the numpy-semantics model (`pySliceArr`, what the HDF5 path is compared with) is
the reference `sliceArr` of the sub-box theorems -/
theorem pySliceArr_eq_sliceArr (data : Array Nat) (nz ny nx z0 z1 y0 y1 x0 x1 : Nat)
    (hz : z0 ≤ z1 ∧ z1 ≤ nz) (hy : y0 ≤ y1 ∧ y1 ≤ ny) (hx : x0 ≤ x1 ∧ x1 ≤ nx) :
    ∃ r, pySliceArr ⟨[nz, ny, nx], data⟩
        [⟨some (z0 : Int), some (z1 : Int), none⟩, ⟨some (y0 : Int), some (y1 : Int), none⟩, ⟨some (x0 : Int), some (x1 : Int), none⟩] = .ok r ∧
      r.shape = (sliceArr ⟨[nz, ny, nx], data⟩ [((z0 : Int), (z1 : Int)), ((y0 : Int), (y1 : Int)), ((x0 : Int), (x1 : Int))]).shape ∧
      ∀ i j k, i < z1 - z0 → j < y1 - y0 → k < x1 - x0 →
        r.getD [i, j, k] 0 =
          (sliceArr ⟨[nz, ny, nx], data⟩ [((z0 : Int), (z1 : Int)), ((y0 : Int), (y1 : Int)), ((x0 : Int), (x1 : Int))]).getD [i, j, k] 0 := by
  obtain ⟨r, hr, hs, hg⟩ := pySliceArr_canonical data nz ny nx z0 z1 y0 y1 x0 x1 none none none (Or.inl rfl) (Or.inl rfl) (Or.inl rfl) hz hy hx
  refine ⟨r, hr, ?_, ?_⟩
  · rw [hs]; simp [sliceArr, Arr.ofFn, boxShape]
  · intro i j k hi hj hk
    rw [hg i j k hi hj hk, sliceArr_getD _ z0 z1 y0 y1 x0 x1 i j k hi hj hk]

/-- **the step of a slice never reaches the binary readers**: for MRC and EM the outcome of a request (data or
refusal) is the same for every choice of the three steps — whereas numpy / HDF5 honour them
(`shifted_full_box_and_step_witness`) -/
theorem binary_readers_ignore_step (f : Bytes) (header b : Nat) (shape : List Nat)
    (a0 b0 a1 b1 a2 b2 s0 s1 s2 t0 t1 t2 : Option Int) :
    emLoadSlices f header shape b [⟨a0, b0, s0⟩, ⟨a1, b1, s1⟩, ⟨a2, b2, s2⟩]
      = emLoadSlices f header shape b [⟨a0, b0, t0⟩, ⟨a1, b1, t1⟩, ⟨a2, b2, t2⟩] ∧
    mrcLoadSlices f header shape b [⟨a0, b0, s0⟩, ⟨a1, b1, s1⟩, ⟨a2, b2, s2⟩]
      = mrcLoadSlices f header shape b [⟨a0, b0, t0⟩, ⟨a1, b1, t1⟩, ⟨a2, b2, t2⟩] := by
  have hb : ∀ (a b s t : Option Int), sliceBounds ⟨a, b, s⟩ = sliceBounds ⟨a, b, t⟩ := by
    intro a b s t; cases a <;> cases b <;> rfl
  constructor
  · simp only [emLoadSlices, emSliceBox, List.mapM_cons, List.mapM_nil, hb a0 b0 s0 t0, hb a1 b1 s1 t1, hb a2 b2 s2 t2]
  · -- `_load_mrc` looks at a request only through the bounds of each entry it keeps
    have hm : mrcSliceBox [⟨a0, b0, s0⟩, ⟨a1, b1, s1⟩, ⟨a2, b2, s2⟩] shape
        = mrcSliceBox [⟨a0, b0, t0⟩, ⟨a1, b1, t1⟩, ⟨a2, b2, t2⟩] shape :=
      mapM_map_congr sliceBounds _ _ (fun i => by
        match i with
        | 0 | 1 | 2 => exact hb _ _ _ _
        | _ + 3 => rfl) _
    simp only [mrcLoadSlices, hm]

example : emLoadSlices (payload 1 (List.range 24)) 0 [2, 3, 4] 1 [⟨some 0, some 1, some 2⟩, ⟨some 0, some 1, some 0⟩, ⟨some 0, some 4, some (-1)⟩]
    = emLoadSlices (payload 1 (List.range 24)) 0 [2, 3, 4] 1 [⟨some 0, some 1, none⟩, ⟨some 0, some 1, none⟩, ⟨some 0, some 4, none⟩] :=
  (binary_readers_ignore_step _ _ _ _ _ _ _ _ _ _ _ _ _ _ _ _).1


/-! ## `_load_mrc`: a short `subset` under a permuted axis order -/

/-- **a short sub-box under any axis order is completed in the caller's axes**: for each of the six
`mapc/mapr/maps` orders, a request of one or two leading entries is the request completed with the full extents of
the *returned* (transposed) volume's remaining axes — with `mrc_crs_subset_eq_slice`: it is that slice -/
theorem mrcCrsBox_short (crs : List Nat)
    (hcrs : crs ∈ [[0, 1, 2], [0, 2, 1], [1, 0, 2], [1, 2, 0], [2, 0, 1], [2, 1, 0]])
    (a b : Int × Int) (n0 n1 n2 : Nat) :
    mrcCrsBox crs [a] [n0, n1, n2]
      = mrcCrsBox crs [a, (0, ((permute crs [n0, n1, n2] 0).getD 1 0 : Int)), (0, ((permute crs [n0, n1, n2] 0).getD 2 0 : Int))] [n0, n1, n2] ∧
    mrcCrsBox crs [a, b] [n0, n1, n2]
      = mrcCrsBox crs [a, b, (0, ((permute crs [n0, n1, n2] 0).getD 2 0 : Int))] [n0, n1, n2] := by
  obtain ⟨h1, h2, h3, h4, h5, h6⟩ := invPerm_axisOrders
  rcases axisOrders_cases hcrs with rfl | rfl | rfl | rfl | rfl | rfl <;>
    simp only [mrcCrsBox_three, h1, h2, h3, h4, h5, h6, permute, List.map, List.getD_cons_zero, List.getD_cons_succ,
      List.getD_nil, and_self]

example : mrcCrsBox [1, 2, 0] [(1, 2)] [2, 3, 4] = mrcCrsBox [1, 2, 0] [(1, 2), (0, 4), (0, 2)] [2, 3, 4] ∧
    permute [1, 2, 0] [2, 3, 4] 0 = [3, 4, 2] := by decide

/-! ## sub-box extents, the full-box test, shapes after `np.transpose` -/

/-- sub-box extents: one extent per axis of the box -/
theorem boxShape_length (box : Box) : (boxShape box).length = box.length := by
  simp [boxShape]

/-- **sub-box shape = slice lengths**: the reference slice has shape `stop - start` per axis -/
theorem sliceArr_shape (a : Arr Nat) (box : Box) :
    (sliceArr a box).shape = box.map (fun s => (s.2 - s.1).toNat) := by
  simp [sliceArr, Arr.ofFn, boxShape, List.map_map, Function.comp_def]

/-- the full-box shortcut is taken only when every extent equals the stored axis length exactly -/
theorem isFullBox_iff (box : Box) (shape : List Nat) :
    isFullBox box shape = true ↔ boxShape box = shape.map (fun (n : Nat) => (n : Int)) := by
  simp [isFullBox]

/-- the completed MRC box and the box in file axes always have one entry per stored axis -/
theorem mrc_boxes_length (crs : List Nat) (box : Box) (shape : List Nat) :
    (mrcPadBox box shape).length = shape.length ∧ (mrcCrsBox crs box shape).length = shape.length := by
  simp only [mrcPadBox, mrcCrsBox, List.length_map, List.length_range, and_self]

/-- axis-order bookkeeping: `transpose` by `p` yields shape `shape[p]`, of rank `|p|`, and `argsort p` has `|p|` entries -/
theorem transposeArr_shape (a : Arr Nat) (p : List Nat) :
    (transposeArr a p).shape = permute p a.shape 0 ∧ (permute p a.shape 0).length = p.length ∧
    (invPerm p).length = p.length := by
  simp only [transposeArr, Arr.ofFn, permute, invPerm, List.length_map, List.length_range, and_self]

/-- **sub-box by the full box = full read**: on the shortcut the result is the whole payload in the stored shape -/
theorem loadSubset_full_box (f : Bytes) (header : Nat) (shape : List Nat) (b : Nat) (box : Box) (r : Arr Nat)
    (hfull : isFullBox box shape = true) (h : loadSubset f header shape b box = .ok r) :
    r = ⟨shape, (readRow f header (prodL shape) b).toArray⟩ ∧ header + prodL shape * b ≤ f.length := by
  simp only [loadSubset, hfull, if_true] at h
  split at h
  · cases h
  · injection h with h; exact ⟨h.symm, by omega⟩

example : isFullBox [(0, 1), (0, 1), (0, 2)] [1, 1, 2] = true ∧
    ∃ r, loadSubset [7, 8] 0 [1, 1, 2] 1 [(0, 1), (0, 1), (0, 2)] = .ok r := ⟨by decide, _, rfl⟩

end Pm.C08
