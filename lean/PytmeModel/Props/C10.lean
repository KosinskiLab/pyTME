import PytmeModel.Model.C10
import PytmeModel.Proofs.C10
import PytmeModel.Model.C10K
import PytmeModel.Proofs.C10K

/-! # C10 — atoms are deposited on the grid at the right voxel and no mass is lost

All statements are about the executable models `Model/C10.lean` (point weights; exact rationals for coordinates, origin,
sampling rate; integer weights) and `Model/C10K.lean` (the weight types that are not point weights, and the file filters),
for every structure, rank, shape, origin, rate and chain subset.

Of the other weight types, `van_der_waals_radius` is modelled in integers throughout.  For `scattering_factors`,
`lowpass_scattering_factors` and `gaussian` the float VALUES (spline profile, Gaussian filter) are not modelled; what is
stated is the SUPPORT — which voxels receive a contribution — and the deposit that precedes the Gaussian filter. -/
namespace Pm.C10

/-- the voxel index is within half a voxel of the exact quotient -/
theorem rint_nearest (q : Rat) : q - 1/2 ≤ (rint q : Rat) ∧ (rint q : Rat) ≤ q + 1/2 := rint_bounds q

/-- … and it is *the* integer strictly within half a voxel whenever there is one (so `floor`, `ceil` or
truncation in its place would be a different function) -/
theorem rint_is_the_nearest (q : Rat) (z : Int) (h1 : q - 1/2 < (z : Rat)) (h2 : (z : Rat) < q + 1/2) :
    rint q = z := by
  obtain ⟨b1, b2⟩ := rint_bounds q
  -- both integers are within a half of `q`, hence less than 1 apart
  have a : (rint q : Rat) < z + 1 := by
    have := b2.trans_lt (add_lt_add_of_lt_of_le (sub_lt_iff_lt_add.mp h1) (le_refl (1/2)))
    rwa [add_assoc, add_halves] at this
  have b : (z : Rat) < rint q + 1 := by
    have := h2.trans_le (add_le_add (sub_le_iff_le_add.mp b1) (le_refl (1/2)))
    rwa [add_assoc, add_halves] at this
  exact Int.le_antisymm (Int.lt_add_one_iff.mp (by exact_mod_cast a)) (Int.lt_add_one_iff.mp (by exact_mod_cast b))

/-- exactly between two integers the even one is taken -/
theorem rint_tie_even (q : Rat) (h : isTie q = true) : rint q % 2 = 0 := by
  have ht := (isTie_iff q).mp h
  rcases rint_cases q with ⟨c, _⟩ | ⟨c, _⟩ | ⟨_, p, e⟩ | ⟨_, p, e⟩
  · exact absurd ht c.ne
  · exact absurd ht c.ne'
  · rw [e]; exact p
  · rw [e]; omega

example : rint (5/2) = 2 ∧ rint (7/2) = 4 ∧ rint (-5/2) = -2 ∧ rint (9/4) = 2 ∧ rint (-11/4) = -3 := by
  decide +kernel

/-- `np.add.at`: the value of a voxel is the summed weight of exactly the entries addressed to it
(duplicates accumulate, nothing else is touched) -/
theorem deposit_voxel (shape : List Nat) (ps : List (List Nat × Int))
    (hps : ∀ pw ∈ ps, inShape shape pw.1 = true) (v : List Nat) (hv : inShape shape v = true) :
    (deposit shape ps).getD v 0 = ((ps.filter (fun pw => pw.1 = v)).map (·.2)).sum := by
  rw [deposit_eq, foldl_getD ps (zeros shape) (zeros_size shape) hps v hv, zeros_getD]; simp

theorem deposit_total (shape : List Nat) (ps : List (List Nat × Int))
    (hps : ∀ pw ∈ ps, inShape shape pw.1 = true) :
    (deposit shape ps).data.toList.sum = (ps.map (·.2)).sum := by
  rw [deposit_eq, foldl_sum ps (zeros shape) (zeros_size shape) hps, zeros_sum]; simp

theorem deposit_shape (shape : List Nat) (ps : List (List Nat × Int)) : (deposit shape ps).shape = shape := by
  rw [deposit_eq, foldl_shape]; rfl

example : (deposit [2, 2] [([0, 1], 5), ([1, 1], 7), ([0, 1], 3)]).toList = [0, 8, 0, 7] := by decide

/-- the frame `to_volume` works in -/
def frameOf (nd : Nat) (sub : List Atom) (shape : Option (List Int)) (r : List Rat) (origin : Option (List Rat)) : Frame :=
  frame nd (sub.map (fun a => a.xyz.reverse)) shape r origin

theorem toVolume_voxel (nd : Nat) (sub : List Atom) (shape : Option (List Int)) (r : List Rat)
    (origin : Option (List Rat)) (wt : WType) (v : List Nat)
    (hv : inShape (toNats (toVolumeCore nd sub shape r origin wt).shape) v = true) :
    (toVolumeCore nd sub shape r origin wt).grid.getD v 0 =
      ((sub.filter (fun a => posOf r (frameOf nd sub shape r origin) a.xyz.reverse = v.map Int.ofNat)).map
        (fun a => weightOf wt a.elem)).sum := by
  unfold toVolumeCore at hv ⊢
  simp only at hv ⊢
  rw [deposit_voxel _ _ (kept_inShape _ _) v hv, sum_kept_at_index _ _ _ hv]
  unfold placed frameOf
  rw [List.filter_map, List.map_map]
  rfl

theorem toVolume_total (nd : Nat) (sub : List Atom) (shape : Option (List Int)) (r : List Rat)
    (origin : Option (List Rat)) (wt : WType) :
    (toVolumeCore nd sub shape r origin wt).grid.data.toList.sum =
      ((sub.filter (fun a => inBox (toVolumeCore nd sub shape r origin wt).shape
          (posOf r (frameOf nd sub shape r origin) a.xyz.reverse))).map (fun a => weightOf wt a.elem)).sum := by
  unfold toVolumeCore
  simp only
  rw [deposit_total _ _ (kept_inShape _ _)]
  unfold placed frameOf
  rw [List.filter_map, List.map_map, List.map_map]
  rfl

theorem outside_count_exact (nd : Nat) (sub : List Atom) (shape : Option (List Int)) (r : List Rat)
    (origin : Option (List Rat)) (wt : WType) :
    (toVolumeCore nd sub shape r origin wt).outside =
      (sub.filter (fun a => !inBox (toVolumeCore nd sub shape r origin wt).shape
          (posOf r (frameOf nd sub shape r origin) a.xyz.reverse))).length := by
  unfold toVolumeCore
  simp only
  unfold placed frameOf
  rw [List.filter_map, List.length_map, length_filter_not]
  rfl

/-! origin and shape given: the frame is `⟨o, 0, s, o⟩` whatever the atoms are, and the three clauses are about plain filters -/

theorem given_box_voxel (nd : Nat) (sub : List Atom) (s : List Int) (r o : List Rat) (wt : WType) (v : List Nat)
    (hv : inShape (toNats s) v = true) :
    (toVolumeCore nd sub (some s) r (some o) wt).grid.getD v 0 =
      ((sub.filter (fun a => posOf r ⟨o, List.replicate nd 0, s, o⟩ a.xyz.reverse = v.map Int.ofNat)).map
        (fun a => weightOf wt a.elem)).sum := toVolume_voxel nd sub (some s) r (some o) wt v hv

theorem given_box_total (nd : Nat) (sub : List Atom) (s : List Int) (r o : List Rat) (wt : WType) :
    (toVolumeCore nd sub (some s) r (some o) wt).grid.data.toList.sum =
      ((sub.filter (fun a => inBox s (posOf r ⟨o, List.replicate nd 0, s, o⟩ a.xyz.reverse))).map
        (fun a => weightOf wt a.elem)).sum := toVolume_total nd sub (some s) r (some o) wt

theorem given_box_outside (nd : Nat) (sub : List Atom) (s : List Int) (r o : List Rat) (wt : WType) :
    (toVolumeCore nd sub (some s) r (some o) wt).outside =
      (sub.filter (fun a => !inBox s (posOf r ⟨o, List.replicate nd 0, s, o⟩ a.xyz.reverse))).length :=
  outside_count_exact nd sub (some s) r (some o) wt

example :
    let sub : List Atom := [⟨[0, 0, 0], "C", "A"⟩, ⟨[1/4, 0, 0], "N", "B"⟩, ⟨[5, 1, 1], "O", "A"⟩, ⟨[0, 0, 9], "Xx", "A"⟩]
    let out := toVolumeCore 3 sub (some [2, 2, 2]) [1, 1, 1] (some [0, 0, 0]) .atomicNumber
    out.outside = 2 ∧ out.grid.toList = [13, 0, 0, 0, 0, 0, 0, 0] ∧ out.kept.map (·.1) = [[0, 0, 0], [0, 0, 0]] := by
  decide +kernel

/-- origin given with a shape, or origin derived: no shift — the returned origin is the one used for rounding,
so the stored position of every atom IS `round((zyx − returned origin)/rate)`, ties included -/
theorem returned_origin_consistent_noshift (nd : Nat) (sub : List Atom) (shape : Option (List Int)) (r : List Rat)
    (origin : Option (List Rat)) (h : (origin.isSome && shape.isNone) = false) (c : List Rat) (hc : c.length ≤ nd) :
    idxOf (frameOf nd sub shape r origin).origin r c = posOf r (frameOf nd sub shape r origin) c := by
  unfold frameOf
  obtain ⟨h1, h2⟩ := frame_noshift nd (sub.map (fun a => a.xyz.reverse)) shape r origin h
  rw [h2]
  exact (posOf_noshift r _ nd h1 c hc).symm

/-- origin given, shape derived: positions are moved by `left_shift` whole voxels and the returned origin is
`origin + left_shift·rate`.  On every axis where the quotient is not exactly a half-integer, or the shift is even,
the stored position is `round((zyx − returned origin)/rate)`. -/
theorem derived_origin_consistent (nd : Nat) (sub : List Atom) (r o : List Rat) (c : List Rat)
    (hr : ∀ x ∈ r, x ≠ 0) (ht : tieFree c o (frameOf nd sub none r (some o)).shift r = true) :
    idxOf (frameOf nd sub none r (some o)).origin r c = posOf r (frameOf nd sub none r (some o)) c := by
  have e1 : (frameOf nd sub none r (some o)).origin0 = o := rfl
  have e2 : (frameOf nd sub none r (some o)).origin =
      zip3 (fun (o : Rat) (l : Int) (r : Rat) => o + (l : Rat) * r) o (frameOf nd sub none r (some o)).shift r := rfl
  unfold posOf
  rw [e2, e1]
  exact idxOf_shifted_origin c o _ r hr ht

/-- today's behaviour at an exact tie with an odd shift: atoms x = −6/5 and x = 1/2, origin 0, rate 1 — the second
atom is stored in voxel 1 of an axis of extent 2, but `round((1/2 − returned origin)/1) = round(3/2) = 2`. -/
theorem derived_origin_tie_current_defect :
    let sub : List Atom := [⟨[-6/5, 0, 0], "C", "A"⟩, ⟨[1/2, 1, 2], "N", "A"⟩]
    let out := toVolumeCore 3 sub none [1, 1, 1] (some [0, 0, 0]) .atomicWeight
    out.origin = [0, 0, -1] ∧ out.shape = [3, 2, 2] ∧ out.kept.map (·.1) = [[0, 0, 0], [2, 1, 1]] ∧
    idxOf out.origin out.rate [2, 1, 1/2] = [2, 1, 2] := by
  decide +kernel

/-- at exact ties, too, the stored index is *a* nearest integer w.r.t. the returned origin (never a voxel off) -/
theorem derived_origin_nearest (c o r : Rat) (l : Int) (hr : r ≠ 0) :
    (c - (o + (l : Rat) * r)) / r - 1/2 ≤ ((axisIdx c o r - l : Int) : Rat) ∧
    ((axisIdx c o r - l : Int) : Rat) ≤ (c - (o + (l : Rat) * r)) / r + 1/2 := by
  obtain ⟨b1, b2⟩ := rint_bounds ((c - o) / r)
  rw [shift_quot c o r l hr, Int.cast_sub, sub_right_comm]
  exact ⟨sub_le_sub_right b1 _, by rw [sub_add_eq_add_sub]; exact sub_le_sub_right b2 _⟩

example : tieFree [2, 1, 1/4] [0, 0, 0] [0, 0, -1] [1, 1, 1] = true ∧
    tieFree [2, 1, 1/2] [0, 0, 0] [0, 0, -2] [1, 1, 1] = true ∧
    tieFree [2, 1, 1/2] [0, 0, 0] [0, 0, -1] [1, 1, 1] = false := by decide +kernel

/-- Restricting to a subset of the atoms (chains, elements — any predicate) with origin and shape given changes
every voxel by exactly the summed weight of the removed atoms mapped to it. -/
theorem chain_restriction_diff (nd : Nat) (sub : List Atom) (s : List Int) (r o : List Rat) (wt : WType)
    (p : Atom → Bool) (v : List Nat) (hv : inShape (toNats s) v = true) :
    (toVolumeCore nd sub (some s) r (some o) wt).grid.getD v 0 =
      (toVolumeCore nd (sub.filter p) (some s) r (some o) wt).grid.getD v 0 +
      (toVolumeCore nd (sub.filter (fun a => !p a)) (some s) r (some o) wt).grid.getD v 0 := by
  rw [given_box_voxel _ _ _ _ _ _ v hv, given_box_voxel _ _ _ _ _ _ v hv, given_box_voxel _ _ _ _ _ _ v hv]
  exact sum_filter_split sub p _ _

/-- the chain subset of `to_volume(chain=…)` is such a predicate -/
theorem subsetByChain_is_filter (c : String) (atoms : List Atom) :
    subsetByChain (some c) atoms = atoms.filter (fun a => (c.splitOn ",").contains a.chain) := rfl

example :
    let sub : List Atom := [⟨[0, 0, 0], "C", "A"⟩, ⟨[1/4, 0, 0], "N", "B"⟩, ⟨[1, 1, 1], "O", "A"⟩]
    (toVolumeCore 3 sub (some [2, 2, 2]) [1, 1, 1] (some [0, 0, 0]) .atomicNumber).grid.toList = [13, 0, 0, 0, 0, 0, 0, 8] ∧
    (toVolumeCore 3 (sub.filter (fun a => a.chain == "A")) (some [2, 2, 2]) [1, 1, 1] (some [0, 0, 0]) .atomicNumber).grid.toList
      = [6, 0, 0, 0, 0, 0, 0, 8] := by
  decide +kernel

/-- shape derived (origin given or derived): every atom of the subset lies inside the grid -/
theorem derived_all_inside_pos (nd : Nat) (sub : List Atom) (r : List Rat) (origin : Option (List Rat))
    (hx : ∀ a ∈ sub, a.xyz.length = nd) (hrl : r.length = nd) (hol : ∀ o, origin = some o → o.length = nd)
    (hrp : ∀ k, k < nd → 0 < r.getD k 0) :
    ∀ a ∈ sub, inBox (frameOf nd sub none r origin).shape
      (posOf r (frameOf nd sub none r origin) a.xyz.reverse) = true := by
  intro a ha
  unfold frameOf posOf
  generalize hcs : sub.map (fun a => a.xyz.reverse) = coords
  have hc : a.xyz.reverse ∈ coords := hcs ▸ List.mem_map_of_mem ha
  have hcl : a.xyz.reverse.length = nd := List.length_reverse.trans (hx a ha)
  generalize a.xyz.reverse = c at hc hcl ⊢
  have hrange : ∀ f : Nat → Rat, ((List.range nd).map f).length = nd := fun f => by
    rw [List.length_map, List.length_range]
  -- the shift is at most the unshifted index: the column minimum of these (origin given), or 0 with the column minimum
  -- of the coordinates as origin
  have key : (frame nd coords none r origin).origin0.length = nd ∧ (frame nd coords none r origin).shift.length = nd ∧
      ∀ k, k < nd → (frame nd coords none r origin).shift.getD k 0 ≤
        (idxOf (frame nd coords none r origin).origin0 r c).getD k 0 := by
    cases origin with
    | some o =>
      rw [frame_shift_some, frame_origin0_some]
      refine ⟨hol o rfl, by rw [List.length_map, List.length_range], fun k hk => ?_⟩
      rw [getD_map_range _ _ _ _ hk]
      exact minL_le _ _ (mem_col 0 k _ _ (List.mem_map_of_mem hc))
    | none =>
      rw [frame_shift_none, frame_origin0_none]
      refine ⟨hrange _, List.length_replicate, fun k hk => ?_⟩
      have hz : (List.replicate nd (0 : Int)).getD k 0 = 0 := by simp [List.getD_eq_getElem?_getD, hk]
      rw [hz, idxOf_getD _ _ _ k (hk.trans_eq hcl.symm) (hk.trans_eq (hrange _).symm) (hk.trans_eq hrl.symm),
        getD_map_range _ _ _ _ hk]
      exact le_axisIdx _ _ _ 0 (hrp k hk) (by
        rw [Int.cast_zero, zero_mul, add_zero]
        exact minQ_le _ _ (mem_col 0 k coords c hc))
  obtain ⟨ho0, hsh, hlow⟩ := key
  have hp0l := idxOf_length _ r c nd hcl ho0 hrl
  have hpl := subPos_length _ _ nd hp0l hsh
  apply inBox_of_forall
  · rw [frame_shape_none, hpl, List.length_map, List.length_range]
  · intro k hk
    rw [hpl] at hk
    constructor
    · rw [subPos_getD _ _ k (hk.trans_eq hp0l.symm) (hk.trans_eq hsh.symm)]
      exact Int.sub_nonneg_of_le (hlow k hk)
    · rw [frame_shape_none, getD_map_range _ _ _ _ hk]
      exact Int.lt_add_one_of_le (le_maxL _ _ (mem_col 0 k _ _ (List.mem_map_of_mem (List.mem_map_of_mem hc))))

/-- … hence the reported outside count is 0 and the grid total is the summed weight of ALL atoms of the subset -/
theorem derived_all_inside (nd : Nat) (sub : List Atom) (r : List Rat) (origin : Option (List Rat)) (wt : WType)
    (hx : ∀ a ∈ sub, a.xyz.length = nd) (hrl : r.length = nd) (hol : ∀ o, origin = some o → o.length = nd)
    (hrp : ∀ k, k < nd → 0 < r.getD k 0) :
    (toVolumeCore nd sub none r origin wt).outside = 0 ∧
    (toVolumeCore nd sub none r origin wt).grid.data.toList.sum = (sub.map (fun a => weightOf wt a.elem)).sum := by
  have h := derived_all_inside_pos nd sub r origin hx hrl hol hrp
  have hs : (toVolumeCore nd sub none r origin wt).shape = (frameOf nd sub none r origin).shape := rfl
  constructor
  · rw [outside_count_exact, hs, List.length_eq_zero_iff, List.filter_eq_nil_iff]
    intro a ha; simp [h a ha]
  · rw [toVolume_total, hs, List.filter_eq_self.mpr (fun a ha => h a ha)]

example :
    let sub : List Atom := [⟨[-6/5, 0, 0], "C", "A"⟩, ⟨[1/2, 1, 2], "N", "A"⟩, ⟨[3, -7/2, 9/4], "S", "B"⟩]
    (toVolumeCore 3 sub none [1, 2, 1/2] none .atomicNumber).outside = 0 ∧
    (toVolumeCore 3 sub none [1, 2, 1/2] none .atomicNumber).shape = [3, 3, 9] ∧
    (toVolumeCore 3 sub none [1, 2, 1/2] (some [-1, 0, 1/3]) .atomicNumber).shape = [3, 3, 9] := by
  decide +kernel

/-- `to_volume` returns only when the rate is well-formed and (the chain subset is non-empty, or origin and shape
are both given), and then it is `toVolumeCore` on the subset with the normalised rate — which is also the returned rate -/
theorem toVolume_ok (nd : Nat) (atoms : List Atom) (shape : Option (List Int)) (rate : Option (List Rat))
    (origin : Option (List Rat)) (chain : Option String) (wt : WType) (out : Out)
    (h : toVolume nd atoms shape rate origin chain wt = .ok out) :
    ∃ r, resolveRate nd rate = some r ∧
      (subsetByChain chain atoms ≠ [] ∨ (origin.isSome = true ∧ shape.isSome = true)) ∧
      out = toVolumeCore nd (subsetByChain chain atoms) shape r origin wt ∧ out.rate = r := by
  unfold toVolume at h
  split at h
  · cases h
  · rename_i r hr
    simp only at h
    split at h
    · cases h
    · rename_i hne
      refine ⟨r, hr, ?_, ?_, ?_⟩
      · by_cases he : subsetByChain chain atoms = []
        · right
          rw [he] at hne
          simpa [Option.isSome_iff_ne_none] using hne
        · left; exact he
      · cases h; rfl
      · cases h; rfl

/-- an empty subset with origin and shape given yields the all-zero grid and count 0 -/
theorem toVolume_empty_subset (nd : Nat) (s : List Int) (r o : List Rat) (wt : WType) :
    (toVolumeCore nd [] (some s) r (some o) wt).outside = 0 ∧
    (toVolumeCore nd [] (some s) r (some o) wt).grid = zeros (toNats s) ∧
    (toVolumeCore nd [] (some s) r (some o) wt).origin = o := by
  exact ⟨rfl, rfl, rfl⟩

/-- sampling rate normalisation: absent → ones, one value → repeated per axis, `nd` values → unchanged -/
theorem resolveRate_spec (nd : Nat) (x : Rat) (l : List Rat) (hl : l.length = nd) (h2 : l.length ≠ 1) :
    resolveRate nd none = some (List.replicate nd 1) ∧ resolveRate nd (some [x]) = some (List.replicate nd x) ∧
    resolveRate nd (some l) = some l := by
  refine ⟨rfl, rfl, ?_⟩
  match l, h2 with
  | [], _ => simp [resolveRate, ← hl]
  | [_], h2 => simp at h2
  | _ :: _ :: _, _ => simp [resolveRate, hl]

/-- unknown element symbols (anything that is not an exact key of the table) weigh nothing -/
theorem weightOf_unknown (wt : WType) (sym : String) (h : lookup sym = none) : weightOf wt sym = 0 := by
  unfold weightOf; rw [h]

/-- the table has 118 distinct keys (a Python dict has no duplicates; `find?` takes the first) -/
theorem elementTable_keys_nodup : (elementTable.map (·.1)).Nodup ∧ elementTable.length = 118 :=
  ⟨.of_map keyCode (nodup_of_distinctFrom _ 0 (by decide +kernel)).1, by decide +kernel⟩

/-- whatever weight a symbol gets is the entry stored under *exactly* that symbol (no case folding, no truncation,
no prefix match): `lookup` only ever returns an entry whose key equals the symbol -/
theorem lookup_exact (sym : String) (v : Nat × Nat) (h : lookup sym = some v) : (sym, v) ∈ elementTable := by
  unfold lookup at h
  cases hf : elementTable.find? (fun e => e.1 == sym) with
  | none => rw [hf] at h; simp at h
  | some e =>
    rw [hf] at h
    have hv : e.2 = v := by simpa using h
    have hk : e.1 = sym := by simpa using List.find?_some hf
    have hm : e ∈ elementTable := List.mem_of_find?_eq_some hf
    rw [← hk, ← hv]
    exact hm

/-- and every entry of the table is found under its key: an atom whose symbol is a key weighs that entry -/
theorem weightOf_table_entry (sym : String) (z w : Nat) (h : (sym, z, w) ∈ elementTable) :
    weightOf .atomicWeight sym = (w : Int) ∧ weightOf .atomicNumber sym = (z : Int) := by
  have hl : lookup sym = some (z, w) := by
    unfold lookup
    rw [find_key_of_mem elementTable elementTable_keys_nodup.1 sym (z, w) h]
    rfl
  simp [weightOf, hl]

example : ("ZN", 30, 65380000000) ∈ elementTable ∧ lookup "Zn" = none ∧ lookup "Z" = none ∧ lookup "ZNN" = none := by
  decide +kernel

example : weightOf .atomicWeight "C" = 12011000000 ∧ weightOf .atomicNumber "FE" = 26 ∧
    weightOf .atomicWeight "Fe" = 0 ∧ weightOf .atomicNumber "" = 0 := by decide +kernel

/-- every element with a positive radius gets a radius of at least one voxel on every axis, whatever the sampling rate -/
theorem vdw_radius_positive (vdwr : Nat) (rate : List Rat) (hv : 0 < vdwr) (hr : ∀ x ∈ rate, 0 < x) :
    ∀ k ∈ vdwRadius vdwr rate, 0 < k := by
  intro k hk
  simp only [vdwRadius, List.mem_map] at hk
  obtain ⟨r, hr', rfl⟩ := hk
  rw [ceilQ_eq]
  apply Int.ceil_pos.mpr
  have := hr r hr'
  have : (0 : Rat) < (vdwr : Rat) := by exact_mod_cast hv
  positivity

example : vdwRadius 170 [1, 1/2, 17/10] = [2, 4, 1] ∧ vdwRadius 170 [2, 3, 10] = [1, 1, 1] ∧ vdwRadius 0 [1, 1, 1] = [0, 0, 0] := by
  decide +kernel

/-- the sphere contains the atom's own voxel as soon as the radius is at least one voxel on every axis … -/
theorem sphere_contains_centre (k : List Int) (hk : ∀ x ∈ k, 0 < x) :
    inSphere k (List.replicate k.length 0) = true := by
  unfold inSphere
  rw [sphereSum_zero]
  simp only [Bool.and_eq_true, List.all_eq_true, decide_eq_true_eq]
  exact ⟨fun x hx => hk x hx, by norm_num⟩

/-- … and is EMPTY when a radius is zero (symbols that are no table key have `vdwr = 0`: they deposit nothing) -/
theorem sphere_empty_of_zero_radius (k d : List Int) (x : Int) (hx : x ∈ k) (h0 : x ≤ 0) : inSphere k d = false := by
  unfold inSphere
  rw [Bool.and_eq_false_iff]
  left
  rw [List.all_eq_false]
  exact ⟨x, hx, by simp; omega⟩

example : inSphere [2, 4, 1] [0, 0, 0] = true ∧ inSphere [0, 0, 0] [0, 0, 0] = false := by decide +kernel

/-- the sphere is symmetric about the atom's voxel -/
theorem sphere_symmetric (k d : List Int) : inSphere k (d.map (fun x => -x)) = inSphere k d := by
  unfold inSphere
  rw [sphereSum_neg]

example : inSphere [2, 4, 1] [1, -3, 0] = true ∧ inSphere [2, 4, 1] [-1, 3, 0] = true ∧
    inSphere [2, 4, 1] [2, 1, 0] = false ∧ inSphere [2, 4, 1] [-2, -1, 0] = false := by decide +kernel

/-- a voxel of the sphere is at most `k` voxels from the centre on every axis, so the footprint array
`np.mgrid[-k:k+1]` the code allocates contains the whole sphere -/
theorem sphere_within_radius (p k v : List Int) (hk : k.length = p.length) (hv : p.length = v.length)
    (h : inSphere k (offs v p) = true) : inWin p k v = true := inSphere_inWin p k v hk hv h

example : inSphere [2, 4, 1] (offs [6, 2, 3] [5, 5, 3]) = true ∧ inWin [5, 5, 3] [2, 4, 1] [6, 2, 3] = true := by
  decide +kernel

/-- the two slices `volume[start:stop]` and `footprint[start_index:stop_index]` have equal lengths and non-negative
bounds on every axis for every atom inside the box, every radius and every shape: `+=` never raises, nothing is written
outside the array, nothing wraps around -/
theorem vdw_slices_never_fail (shape : List Int) (placedK : List (List Int × List Int))
    (hp : ∀ pk ∈ placedK, inBox shape pk.1 = true) (hk : ∀ pk ∈ placedK, ∀ x ∈ pk.2, 0 ≤ x) :
    ∃ g, vdwDeposit shape placedK = .ok g ∧ g.shape = toNats shape :=
  ⟨_, vdwDeposit_ok shape placedK hp hk, rfl⟩

/-- the van der Waals volume: voxel `v` holds the NUMBER of atoms whose sphere contains it (overlapping atoms add up,
the map is not binary), clipped to the box and to nothing else -/
theorem vdw_voxel (shape : List Int) (placedK : List (List Int × List Int)) (g : Arr Int)
    (hp : ∀ pk ∈ placedK, inBox shape pk.1 = true) (hk : ∀ pk ∈ placedK, ∀ x ∈ pk.2, 0 ≤ x)
    (hl : ∀ pk ∈ placedK, pk.2.length = pk.1.length) (hg : vdwDeposit shape placedK = .ok g)
    (v : List Nat) (hv : inShape (toNats shape) v = true) :
    g.getD v 0 = ((placedK.filter (fun pk => inSphere pk.2 (offs (v.map Int.ofNat) pk.1))).length : Int) := by
  rw [vdwDeposit_ok shape placedK hp hk] at hg
  cases hg
  rw [Arr.getD_ofFn _ _ _ _ hv, ← sum_ite_eq_length]
  congr 1
  apply List.map_congr_left
  intro pk hpk
  rw [vdwContribution_eq shape pk.1 pk.2 _ (hl pk hpk) (inBox_length (hp pk hpk)), inBox_of_inShape hv, Bool.true_and]

/-- total mass: the sum of the volume is, atom by atom, the number of voxels of its sphere that lie in the box -/
theorem vdw_total (shape : List Int) (placedK : List (List Int × List Int)) (g : Arr Int)
    (hp : ∀ pk ∈ placedK, inBox shape pk.1 = true) (hk : ∀ pk ∈ placedK, ∀ x ∈ pk.2, 0 ≤ x)
    (hl : ∀ pk ∈ placedK, pk.2.length = pk.1.length) (hg : vdwDeposit shape placedK = .ok g) :
    g.data.toList.sum = (placedK.map (fun pk =>
      (((allIdx (toNats shape)).filter (fun v => inSphere pk.2 (offs (v.map Int.ofNat) pk.1))).length : Int))).sum := by
  rw [vdwDeposit_ok shape placedK hp hk] at hg
  cases hg
  rw [ofFn_sum, sum_map_sum_comm (allIdx (toNats shape)) placedK (fun pk v => vdwContribution shape pk.1 pk.2 (v.map Int.ofNat))]
  congr 1
  apply List.map_congr_left
  intro pk hpk
  rw [← sum_ite_eq_length]
  congr 1
  apply List.map_congr_left
  intro v hv
  have hin := mem_allIdx.mp hv
  rw [vdwContribution_eq shape pk.1 pk.2 _ (hl pk hpk) (inBox_length (hp pk hpk)), inBox_of_inShape hin, Bool.true_and]

example : (vdwDeposit [3, 4] [([0, 1], [1, 1]), ([1, 1], [1, 2])]).map (·.toList) =
    .ok [1, 2, 1, 0, 1, 2, 1, 1, 0, 1, 0, 0] := by decide +kernel

/-- one axis: the voxels that receive a contribution are exactly the integers `v` of the axis with
`p - R ≤ v` and `v + 1 ≤ p + R` (`range(ceil(p - R), floor(p + R))` clipped to `[0, n)`) -/
theorem scat_axis_exact (p : Int) (R : Rat) (n v : Int) :
    ((scatRange p R n).1 ≤ v ∧ v < (scatRange p R n).2) ↔
      (0 ≤ v ∧ v < n) ∧ ((p : Rat) - R ≤ (v : Rat) ∧ (v : Rat) + 1 ≤ (p : Rat) + R) := scatRange_spec p R n v

/-- the atom's own voxel is in the range iff the radius is at least one voxel -/
theorem scat_axis_centre_iff (p : Int) (R : Rat) (n : Int) (hp : 0 ≤ p ∧ p < n) :
    ((scatRange p R n).1 ≤ p ∧ p < (scatRange p R n).2) ↔ 1 ≤ R := by
  rw [scatRange_spec]
  constructor
  · rintro ⟨_, _, h⟩; linarith
  · intro h; exact ⟨hp, by linarith, by linarith⟩

example : scatRange 5 (3/2) 20 = (4, 6) ∧ scatRange 5 (1/2) 20 = (5, 5) ∧ scatRange 0 (5/2) 2 = (0, 2) := by decide +kernel

/-- TODAY's support is NOT symmetric about the atom's voxel `p`: it is symmetric about `p - 1/2` (the mirror image of
`v` is `2p - 1 - v`), because `range(start, stop)` leaves out `stop = floor(p + R)` -/
theorem scat_axis_mirror (p : Int) (R : Rat) (n v : Int) (hv : 0 ≤ v ∧ v < n) (hm : 0 ≤ 2 * p - 1 - v ∧ 2 * p - 1 - v < n) :
    ((scatRange p R n).1 ≤ v ∧ v < (scatRange p R n).2) ↔
      ((scatRange p R n).1 ≤ 2 * p - 1 - v ∧ 2 * p - 1 - v < (scatRange p R n).2) := by
  rw [scatRange_spec, scatRange_spec]
  push_cast
  constructor
  · rintro ⟨_, a, b⟩; exact ⟨hm, by linarith, by linarith⟩
  · rintro ⟨_, a, b⟩; exact ⟨hv, by linarith, by linarith⟩

/-- witness: radius 3/2 voxels around voxel 5 — voxels 4 and 5 receive a contribution, voxel 6 does not -/
theorem scat_support_halfopen_current : scatRange 5 (3/2) 20 = (4, 6) ∧
    scatCovers [5, 5, 5] [3/2, 3/2, 3/2] [20, 20, 20] [4, 5, 5] = true ∧
    scatCovers [5, 5, 5] [3/2, 3/2, 3/2] [20, 20, 20] [6, 5, 5] = false := by decide +kernel

/-- no index out of bounds: whatever the radius, every voxel that receives a contribution from an atom inside the box
is inside the box (product of ranges, or the fallback to the atom's own voxel) -/
theorem scat_support_inBox (p : List Int) (R : List Rat) (shape v : List Int) (hp : inBox shape p = true)
    (hR : R.length = shape.length) (h : scatCovers p R shape v = true) : inBox shape v = true := by
  unfold scatCovers at h
  split at h
  · rename_i rs hs
    -- the support is a box only if it is the full product of the ranges
    have hrs : rs = zip3 scatRange p R shape := by
      unfold scatSupport at hs
      simp only at hs
      split at hs
      · cases hs
      · split at hs
        · cases hs
        · cases hs
          rfl
    rw [hrs] at h
    exact inRanges_inBox p R shape v (inBox_length hp) hR h
  · have : v = p := by simpa using h
    rw [this]; exact hp
  · cases h

/-- the fallback of the code (`if not len(distances)`): when the range of the SECOND axis is empty the value at
distance 0 goes to the atom's own voxel, and only there -/
theorem scat_point_fallback (p : List Int) (R : List Rat) (shape v : List Int)
    (h : rangeEmpty ((zip3 scatRange p R shape).getD 1 (0, 0)) = true) :
    scatCovers p R shape v = (v == p) := by
  unfold scatCovers scatSupport
  simp only [h, if_true]

example : scatCovers [5, 5, 5] [3/2, 1/2, 3/2] [20, 20, 20] [5, 5, 5] = true ∧
    scatCovers [5, 5, 5] [3/2, 1/2, 3/2] [20, 20, 20] [4, 5, 5] = false ∧
    (scatCount [20, 20, 20] [([5, 5, 5], [1/2, 3/2, 3/2])]).toOption.isNone = true := by decide +kernel

/-- `_position_to_molmap` derives its own origin `min - pad·rate` and shape `max + pad + 1`: every atom is stored at
least `pad` voxels away from every face of the array, for every padding, rate and structure -/
theorem molmap_pad_margin (nd pad : Nat) (rate : List Rat) (coords : List (List Rat)) (w : List Int)
    (hrl : rate.length = nd) (hrp : ∀ k, k < nd → 0 < rate.getD k 0) (c : List Rat) (hc : c ∈ coords)
    (hcl : c.length = nd) (k : Nat) (hk : k < nd) :
    (pad : Int) ≤ (idxOf (molmap nd pad rate coords w).origin rate c).getD k 0 ∧
    (idxOf (molmap nd pad rate coords w).origin rate c).getD k 0 + (pad : Int) < (molmap nd pad rate coords w).shape.getD k 0 := by
  rw [molmap_origin, molmap_shape]
  have hol := molOrigin_length nd pad rate coords hrl
  constructor
  · rw [idxOf_getD _ _ _ k (hk.trans_eq hcl.symm) (hk.trans_eq hol.symm) (hk.trans_eq hrl.symm),
      molOrigin_getD nd pad rate coords hrl k hk]
    exact le_axisIdx _ _ _ pad (hrp k hk) (by
      rw [Int.cast_natCast, sub_add_cancel]
      exact minQ_le _ _ (mem_col (0 : Rat) k coords c hc))
  · rw [getD_map_range _ _ _ _ hk]
    exact Int.lt_add_one_of_le (Int.add_le_add_right (le_maxL _ _ (mem_col 0 k _ _ (List.mem_map_of_mem hc))) _)

/-- … the stored positions are `round((zyx − returned origin)/rate)`, all inside, and no mass is lost: the array handed
to the Gaussian filter sums to the summed weight of ALL atoms -/
theorem molmap_total (nd pad : Nat) (rate : List Rat) (coords : List (List Rat)) (w : List Int)
    (hrl : rate.length = nd) (hrp : ∀ k, k < nd → 0 < rate.getD k 0) (hcl : ∀ c ∈ coords, c.length = nd)
    (hw : w.length = coords.length) :
    (molmap nd pad rate coords w).positions = coords.map (idxOf (molmap nd pad rate coords w).origin rate) ∧
    (∀ p ∈ (molmap nd pad rate coords w).positions, inBox (molmap nd pad rate coords w).shape p = true) ∧
    (molmap nd pad rate coords w).grid.data.toList.sum = w.sum := by
  have hin : ∀ p ∈ (molmap nd pad rate coords w).positions, inBox (molmap nd pad rate coords w).shape p = true := by
    intro p hp
    rw [molmap_positions] at hp
    obtain ⟨c, hc, rfl⟩ := List.mem_map.mp hp
    have hl := idxOf_length (molOrigin nd pad rate coords) rate c nd (hcl c hc) (molOrigin_length nd pad rate coords hrl) hrl
    apply inBox_of_forall
    · rw [hl, molmap_shape, List.length_map, List.length_range]
    · intro k hk
      rw [hl] at hk
      have := molmap_pad_margin nd pad rate coords w hrl hrp c hc (hcl c hc) k hk
      rw [molmap_origin] at this
      omega
  refine ⟨rfl, hin, ?_⟩
  have hg : (molmap nd pad rate coords w).grid = deposit (toNats (molmap nd pad rate coords w).shape)
      (List.zipWith (fun p w => (toNats p, w)) (molmap nd pad rate coords w).positions w) := rfl
  rw [hg, zipWith_toNats, deposit_total, List.map_snd_zip (by rw [List.length_map, molmap_positions, List.length_map, hw])]
  intro pw hpw
  obtain ⟨q, hq, e⟩ := List.mem_map.mp (List.of_mem_zip hpw).1
  rw [← e]
  exact inBox_toNats (hin q hq)

example : (molmap 2 3 [1, 1/2] [[0, 0], [5/2, 1]] [6, 8]).origin.map (fun q => (q.num, q.den)) = [(-3, 1), (-3, 2)] ∧
    (molmap 2 3 [1, 1/2] [[0, 0], [5/2, 1]] [6, 8]).shape = [10, 9] ∧
    (molmap 2 3 [1, 1/2] [[0, 0], [5/2, 1]] [6, 8]).positions = [[3, 3], [6, 5]] := by decide +kernel

/-- the `keep` mask: element in the set (absent / EMPTY set = no filter), residue in the set (same), record `ATOM` -/
theorem fileKeep_spec (e r : Option (List String)) (x : Rec) :
    fileKeep e r false x = true ↔
      setFilter e x.atom.elem = true ∧ setFilter r x.resname = true ∧ x.record = "ATOM" := by
  simp [fileKeep, and_assoc]

theorem setFilter_spec (l : List String) (hl : l ≠ []) (x : String) :
    setFilter none x = true ∧ setFilter (some []) x = true ∧ (setFilter (some l) x = true ↔ x ∈ l) := by
  refine ⟨rfl, rfl, ?_⟩
  cases l with
  | nil => exact absurd rfl hl
  | cons a t => simp [setFilter]

/-- `Density.from_structure(path, …, chain, filter_by_elements, filter_by_residues)` is `to_volume` of exactly the
selected records (glue) -/
theorem fromFileK_selected (nd : Nat) (recs : List Rec) (e r : Option (List String)) (shape : Option (List Int))
    (rate origin : Option (List Rat)) (chain : Option String) (wk : WKind) :
    fromFileK nd recs e r shape rate origin chain wk =
      toVolumeK nd ((recs.filter (fun x => fileKeep e r false x)).map (·.atom)) shape rate origin chain wk := rfl

/-- filtering records (by element, residue, record type — any predicate on the records) with origin and shape given
changes every voxel by exactly the summed weight of the removed records mapped to it -/
theorem file_filter_diff {β : Type} (f : β → Atom) (nd : Nat) (l : List β) (s : List Int) (r o : List Rat) (wt : WType)
    (keep : β → Bool) (v : List Nat) (hv : inShape (toNats s) v = true) :
    (toVolumeCore nd (l.map f) (some s) r (some o) wt).grid.getD v 0 =
      (toVolumeCore nd ((l.filter keep).map f) (some s) r (some o) wt).grid.getD v 0 +
      (toVolumeCore nd ((l.filter (fun x => !keep x)).map f) (some s) r (some o) wt).grid.getD v 0 := by
  rw [given_box_voxel _ _ _ _ _ _ v hv, given_box_voxel _ _ _ _ _ _ v hv, given_box_voxel _ _ _ _ _ _ v hv]
  simp only [List.filter_map, List.map_map]
  exact sum_filter_split l keep _ _

example :
    let recs : List Rec := [⟨⟨[0, 0, 0], "C", "A"⟩, "GLY", "ATOM"⟩, ⟨⟨[1, 1, 1], "O", "A"⟩, "SER", "ATOM"⟩,
      ⟨⟨[1, 0, 0], "ZN", "A"⟩, "ZN", "HETATM"⟩]
    (recs.filter (fun x => fileKeep (some []) (some ["SER", "ZN"]) false x)).map (·.atom.elem) = ["O"] ∧
    (recs.filter (fun x => fileKeep (some ["C", "ZN"]) none false x)).map (·.atom.elem) = ["C"] := by decide +kernel

/-- origin AND shape given by the caller: the frame is the caller's, the position of every atom is exactly
`rint((zyx − origin)/rate)`, the atoms kept are exactly those whose position is inside the shape — none outside is
kept, none inside is lost, in input order -/
theorem given_box_kept (nd : Nat) (sub : List Atom) (s : List Int) (r o : List Rat) (wt : WType)
    (hx : ∀ a ∈ sub, a.xyz.length ≤ nd) :
    (toVolumeCore nd sub (some s) r (some o) wt).shape = s ∧
    (toVolumeCore nd sub (some s) r (some o) wt).origin = o ∧
    (toVolumeCore nd sub (some s) r (some o) wt).kept =
      (sub.filter (fun a => inBox s (idxOf o r a.xyz.reverse))).map
        (fun a => (idxOf o r a.xyz.reverse, weightOf wt a.elem)) := by
  refine ⟨rfl, rfl, ?_⟩
  unfold toVolumeCore placed
  simp only [frame_given, List.filter_map]
  rw [List.map_congr_left (g := fun a => (idxOf o r a.xyz.reverse, weightOf wt a.elem))]
  · congr 1
    apply List.filter_congr
    intro a ha
    simp only [Function.comp]
    rw [given_box_pos nd s r o _ (by simpa using hx a ha)]
  · intro a ha
    rw [given_box_pos nd s r o _ (by simpa using hx a (List.mem_of_mem_filter ha))]

example :
    let sub : List Atom := [⟨[0, 0, 0], "C", "A"⟩, ⟨[5, 1, 1], "O", "A"⟩, ⟨[3/2, 1, 0], "N", "A"⟩]
    (toVolumeCore 3 sub (some [2, 2, 3]) [1, 1, 1] (some [0, 0, 0]) .atomicNumber).kept = [([0, 0, 0], 6), ([0, 1, 2], 7)] ∧
    (toVolumeCore 3 sub (some [2, 2, 2]) [1, 1, 1] (some [0, 0, 0]) .atomicNumber).kept = [([0, 0, 0], 6)] := by decide +kernel

/-- `to_volume(weight_type="van_der_waals_radius" | "scattering_factors" | "lowpass_scattering_factors")`: shape,
origin, rate, out-of-bounds count and the kept positions are those of the point-weight conversion of the same arguments
(so every frame theorem above applies to these weight types, too) -/
theorem toVolumeK_frame (nd : Nat) (atoms : List Atom) (shape : Option (List Int)) (rate origin : Option (List Rat))
    (chain : Option String) (wk : WKind) (hwk : wk = .vdw ∨ wk = .scattering) (out : OutK)
    (h : toVolumeK nd atoms shape rate origin chain wk = .ok out) :
    ∃ r, resolveRate nd rate = some r ∧
      out.shape = (toVolumeCore nd (subsetByChain chain atoms) shape r origin .atomicNumber).shape ∧
      out.origin = (toVolumeCore nd (subsetByChain chain atoms) shape r origin .atomicNumber).origin ∧
      out.rate = r ∧
      out.outside = (toVolumeCore nd (subsetByChain chain atoms) shape r origin .atomicNumber).outside ∧
      out.positions = (toVolumeCore nd (subsetByChain chain atoms) shape r origin .atomicNumber).kept.map (·.1) := by
  obtain ⟨r, g, _, hr, rfl, rfl, _⟩ := toVolumeK_sphere_inv nd atoms shape rate origin chain wk hwk out h _ rfl
  exact ⟨r, hr, rfl, rfl, rfl, congrArg (_ - ·) (keptK_length r _ .atomicNumber _), keptK_positions r _ .atomicNumber _⟩

/-- end to end: with positive rates, a voxel of the van der Waals volume holds the number of atoms of the chain subset
that lie inside the grid and whose sphere (radius `ceil(vdwr/(100·rate))` voxels per axis around the atom's voxel)
contains it -/
theorem toVolumeK_vdw_voxel (nd : Nat) (atoms : List Atom) (shape : Option (List Int)) (rate origin : Option (List Rat))
    (chain : Option String) (out : OutK) (h : toVolumeK nd atoms shape rate origin chain .vdw = .ok out)
    (hs : ∀ s, shape = some s → s.length = nd) (hpos : ∀ r, resolveRate nd rate = some r → ∀ x ∈ r, 0 < x)
    (v : List Nat) (hv : inShape (toNats out.shape) v = true) :
    ∃ r, resolveRate nd rate = some r ∧
      out.grid.getD v 0 = (((subsetByChain chain atoms).filter (fun a =>
        inBox out.shape (posOf r (frameOf nd (subsetByChain chain atoms) shape r origin) a.xyz.reverse) &&
        inSphere (vdwRadius (vdwrD a.elem) r)
          (offs (v.map Int.ofNat) (posOf r (frameOf nd (subsetByChain chain atoms) shape r origin) a.xyz.reverse)))).length : Int) := by
  obtain ⟨r, g, _, hr, rfl, rfl, hg, _⟩ :=
    toVolumeK_sphere_inv nd atoms shape rate origin chain .vdw (.inl rfl) out h _ rfl
  refine ⟨r, hr, ?_⟩
  -- the hypotheses of `vdw_voxel` for the kept atoms: inside the box, radii non-negative, one radius per axis
  have hinside : ∀ pe ∈ keptK r (frameOf nd (subsetByChain chain atoms) shape r origin) (subsetByChain chain atoms),
      inBox (frameOf nd (subsetByChain chain atoms) shape r origin).shape pe.1 = true :=
    fun pe hpe => (List.mem_filter.mp hpe).2
  have hnonneg : ∀ pe ∈ keptK r (frameOf nd (subsetByChain chain atoms) shape r origin) (subsetByChain chain atoms),
      ∀ x ∈ vdwRadius (vdwrD pe.2) r, 0 ≤ x := fun pe _ => vdwRadius_nonneg _ r (hpos r hr)
  have hlen : ∀ pe ∈ keptK r (frameOf nd (subsetByChain chain atoms) shape r origin) (subsetByChain chain atoms),
      (vdwRadius (vdwrD pe.2) r).length = pe.1.length := fun pe hpe => by
    rw [vdwRadius, List.length_map, resolveRate_length nd rate r hr, inBox_length (hinside pe hpe)]
    exact (frame_shape_length nd _ shape r origin hs).symm
  rw [vdw_voxel _ _ g (List.forall_mem_map.mpr hinside) (List.forall_mem_map.mpr hnonneg) (List.forall_mem_map.mpr hlen)
    (hg rfl) v hv, List.filter_map, List.length_map, keptK_count]
  rfl

example :
    let atoms : List Atom := [⟨[0, 0, 0], "C", "A"⟩, ⟨[2, 0, 1], "N", "A"⟩, ⟨[9, 9, 9], "O", "A"⟩, ⟨[1, 1, 1], "Xx", "B"⟩]
    (toVolumeK 3 atoms (some [2, 2, 3]) (some [2]) (some [0, 0, 0]) none .vdw).toOption.map
      (fun o => (o.outside, o.positions, o.grid.toList)) =
      some (1, [[0, 0, 0], [0, 0, 1], [0, 0, 0]], [2, 2, 1, 1, 1, 0, 1, 1, 0, 0, 0, 0]) := by decide +kernel

/-- the support-count array: a voxel holds the number of atoms whose support covers it; it exists unless some atom
runs into the `IndexError` of an empty range on the first / last axis -/
theorem scatCount_voxel (shape : List Int) (placedR : List (List Int × List Rat)) (g : Arr Int)
    (hg : scatCount shape placedR = .ok g) (v : List Nat) (hv : inShape (toNats shape) v = true) :
    g.getD v 0 = ((placedR.filter (fun pr => scatCovers pr.1 pr.2 shape (v.map Int.ofNat))).length : Int) := by
  unfold scatCount at hg
  split at hg
  · cases hg
  · cases hg
    rw [Arr.getD_ofFn _ _ _ _ hv, ← sum_ite_eq_length]

/-- end to end for `scattering_factors` / `lowpass_scattering_factors`: a voxel receives a contribution from exactly
the atoms of the chain subset inside the grid whose support `range(ceil(p − R), floor(p + R))` (per axis,
`R = vdwr/(100·rate)`; the atom's own voxel when the range of the second axis is empty) covers it -/
theorem toVolumeK_scat_voxel (nd : Nat) (atoms : List Atom) (shape : Option (List Int)) (rate origin : Option (List Rat))
    (chain : Option String) (out : OutK) (h : toVolumeK nd atoms shape rate origin chain .scattering = .ok out)
    (v : List Nat) (hv : inShape (toNats out.shape) v = true) :
    ∃ r, resolveRate nd rate = some r ∧
      out.grid.getD v 0 = (((subsetByChain chain atoms).filter (fun a =>
        inBox out.shape (posOf r (frameOf nd (subsetByChain chain atoms) shape r origin) a.xyz.reverse) &&
        scatCovers (posOf r (frameOf nd (subsetByChain chain atoms) shape r origin) a.xyz.reverse)
          (scatRadius (vdwrD a.elem) r) out.shape (v.map Int.ofNat))).length : Int) := by
  obtain ⟨r, g, _, hr, rfl, rfl, _, hg⟩ :=
    toVolumeK_sphere_inv nd atoms shape rate origin chain .scattering (.inr rfl) out h _ rfl
  refine ⟨r, hr, ?_⟩
  rw [scatCount_voxel _ _ g (hg rfl) v hv, List.filter_map, List.length_map, keptK_count]
  rfl

example :
    let atoms : List Atom := [⟨[0, 0, 0], "C", "A"⟩, ⟨[2, 1, 1], "N", "A"⟩]
    (toVolumeK 3 atoms none none none none .scattering).toOption.map (fun o => (o.shape, o.grid.toList)) =
      some ([2, 2, 3], [1, 1, 1, 0, 1, 1, 0, 1, 1, 0, 1, 1]) ∧
    (toVolumeK 3 atoms none (some [2, 1, 1]) none none .scattering).toOption.isNone = true ∧
    (toVolumeK 3 atoms none (some [1, 2, 1]) none none .scattering).toOption.map (fun o => (o.shape, o.grid.toList)) =
      some ([2, 1, 3], [1, 0, 0, 0, 0, 1]) := by decide +kernel

/-- no mass is lost in `_position_to_molmap`: the array handed to the Gaussian filter sums to the deposited weights -/
theorem toVolumeK_gaussian_sum (nd pad : Nat) (atoms : List Atom) (shape : Option (List Int)) (rate origin : Option (List Rat))
    (chain : Option String) (out : OutK) (r : List Rat)
    (h : toVolumeK nd atoms shape rate origin chain (.gaussian pad) = .ok out) (hr : resolveRate nd rate = some r)
    (hx : ∀ a ∈ atoms, a.xyz.length = nd) (hrp : ∀ k, k < nd → 0 < r.getD k 0) (ws : List Int)
    (hws : gaussWeights (subsetByChain chain atoms).length
      ((keptK r (frameOf nd (subsetByChain chain atoms) shape r origin) (subsetByChain chain atoms)).map
        (fun pe => weightOf .atomicNumber pe.2)) = some ws) :
    out.grid.data.toList.sum = ws.sum := by
  obtain ⟨r', ws', _, hr', _, hws', rfl, rfl⟩ := toVolumeK_gaussian_inv nd pad atoms shape rate origin chain out h _ rfl
  cases hr.symm.trans hr'
  cases hws.symm.trans hws'
  have hcl : ∀ c ∈ (subsetByChain chain atoms).map (fun a => a.xyz.reverse), c.length = nd := by
    intro c hc
    obtain ⟨a, ha, rfl⟩ := List.mem_map.mp hc
    rw [List.length_reverse]
    exact hx a (mem_subsetByChain ha)
  exact (molmap_total nd pad r _ ws (resolveRate_length nd rate r hr) hrp hcl
    (by rw [(gaussWeights_some hws).1, List.length_map])).2.2

/-- `to_volume(weight_type="gaussian")` returns only when the chain subset is non-empty and the atoms inside the
requested box are all of them, or exactly one (whose weight numpy then broadcasts to every atom); the array handed to the
Gaussian filter, its origin and its shape are `_position_to_molmap`'s own (`molmap`), NOT the requested ones -/
theorem toVolumeK_gaussian_ok (nd pad : Nat) (atoms : List Atom) (shape : Option (List Int)) (rate origin : Option (List Rat))
    (chain : Option String) (out : OutK) (h : toVolumeK nd atoms shape rate origin chain (.gaussian pad) = .ok out) :
    ∃ r ws, resolveRate nd rate = some r ∧ subsetByChain chain atoms ≠ [] ∧
      ws.length = (subsetByChain chain atoms).length ∧
      out.shape = (molmap nd pad r ((subsetByChain chain atoms).map (fun a => a.xyz.reverse)) ws).shape ∧
      out.origin = (molmap nd pad r ((subsetByChain chain atoms).map (fun a => a.xyz.reverse)) ws).origin ∧
      out.positions = (molmap nd pad r ((subsetByChain chain atoms).map (fun a => a.xyz.reverse)) ws).positions ∧
      out.grid = (molmap nd pad r ((subsetByChain chain atoms).map (fun a => a.xyz.reverse)) ws).grid ∧
      (out.outside = 0 ∨ ∃ w, ws = List.replicate (subsetByChain chain atoms).length w) := by
  obtain ⟨r, ws, _, hr, hne, hws, rfl, rfl⟩ := toVolumeK_gaussian_inv nd pad atoms shape rate origin chain out h _ rfl
  obtain ⟨hl, ⟨hk, _⟩ | ⟨_, w, hw⟩⟩ := gaussWeights_some hws
  · rw [List.length_map] at hk
    exact ⟨r, ws, hr, hne, hl, rfl, rfl, rfl, rfl, .inl (by rw [hk]; exact Nat.sub_self _)⟩
  · exact ⟨r, ws, hr, hne, hl, rfl, rfl, rfl, rfl, .inr ⟨w, hw⟩⟩

example :
    let atoms : List Atom := [⟨[0, 0, 0], "C", "A"⟩, ⟨[2, 1, 1], "N", "A"⟩, ⟨[9, 9, 9], "O", "A"⟩]
    (toVolumeK 3 atoms (some [3, 3, 3]) none (some [0, 0, 0]) none (.gaussian 2)).toOption.isNone = true ∧
    (toVolumeK 3 atoms (some [1, 1, 1]) none (some [0, 0, 0]) none (.gaussian 2)).toOption.map
      (fun o => (o.shape, o.positions, o.grid.toList.sum)) = some ([14, 14, 14], [[2, 2, 2], [3, 3, 4], [11, 11, 11]], 18) ∧
    (toVolumeK 3 atoms none none none none (.gaussian 2)).toOption.map (fun o => o.grid.toList.sum) = some 21 := by
  -- the 14³ arrays are not evaluated: their sums are those of the weights, `[6, 6, 6]` (one atom inside, broadcast) and `[6, 7, 8]`
  dsimp only
  refine ⟨by decide +kernel, ?_, ?_⟩
  · refine (toOption_map_congr (g := fun o => (o.shape, o.positions, 18)) fun out h => ?_).trans (by decide +kernel)
    exact congrArg (fun s => (out.shape, out.positions, s)) (toVolumeK_gaussian_sum _ _ _ _ _ _ _ out _ h rfl
      (by decide) (by decide +kernel) [6, 6, 6] (by decide +kernel))
  · refine (toOption_map_congr (g := fun _ => 21) fun out h => ?_).trans (by decide +kernel)
    exact toVolumeK_gaussian_sum _ _ _ _ _ _ _ out _ h rfl (by decide) (by decide +kernel) [6, 7, 8] (by decide +kernel)

/-- … and when no left shift happens (origin derived, or given together with the shape) this is the clause the
harness evaluates on the real outputs (`specVdw` with the RETURNED origin, rate and shape) -/
theorem toVolumeK_vdw_spec (nd : Nat) (atoms : List Atom) (shape : Option (List Int)) (rate origin : Option (List Rat))
    (chain : Option String) (out : OutK) (h : toVolumeK nd atoms shape rate origin chain .vdw = .ok out)
    (hs : ∀ s, shape = some s → s.length = nd) (hpos : ∀ r, resolveRate nd rate = some r → ∀ x ∈ r, 0 < x)
    (hns : (origin.isSome && shape.isNone) = false) (hx : ∀ a ∈ atoms, a.xyz.length ≤ nd)
    (v : List Nat) (hv : inShape (toNats out.shape) v = true) :
    out.grid.getD v 0 = specVdw out.origin out.rate out.shape
      ((subsetByChain chain atoms).map (fun a => (a.xyz, vdwrD a.elem))) (v.map Int.ofNat) := by
  obtain ⟨r, hr, e⟩ := toVolumeK_vdw_voxel nd atoms shape rate origin chain out h hs hpos v hv
  obtain ⟨r', hr', _, ho, hrate, _, _⟩ := toVolumeK_frame nd atoms shape rate origin chain .vdw (Or.inl rfl) out h
  have : r' = r := by rw [hr] at hr'; cases hr'; rfl
  subst this
  rw [e, hrate]
  unfold specVdw
  simp only [List.filter_map, List.length_map]
  congr 2
  apply List.filter_congr
  intro a ha
  have hc : a.xyz.reverse.length ≤ nd := by simpa using hx a (mem_subsetByChain ha)
  have hpo := returned_origin_consistent_noshift nd (subsetByChain chain atoms) shape r' origin hns a.xyz.reverse hc
  have ho' : out.origin = (frameOf nd (subsetByChain chain atoms) shape r' origin).origin := ho
  simp only [Function.comp, ho', hpo]
  rfl

/-- `Density.from_structure(path, chain, filter_by_elements, filter_by_residues)` with point weights: every voxel holds
the summed weight of exactly the records that pass the file filters, belong to the chain selection and are mapped to it -/
theorem fromFile_voxel (nd : Nat) (recs : List Rec) (e rs : Option (List String)) (shape : Option (List Int))
    (r : List Rat) (origin : Option (List Rat)) (chain : Option String) (wt : WType) (v : List Nat)
    (hv : inShape (toNats (toVolumeCore nd (subsetByChain chain ((recs.filter (fun x => fileKeep e rs false x)).map (·.atom)))
      shape r origin wt).shape) v = true) :
    (toVolumeCore nd (subsetByChain chain ((recs.filter (fun x => fileKeep e rs false x)).map (·.atom))) shape r origin wt).grid.getD v 0 =
      ((recs.filter (fun x => (fileKeep e rs false x && chainSel chain x.atom) &&
          decide (posOf r (frameOf nd (subsetByChain chain ((recs.filter (fun x => fileKeep e rs false x)).map (·.atom))) shape r origin)
            x.atom.xyz.reverse = v.map Int.ofNat))).map (fun x => weightOf wt x.atom.elem)).sum := by
  rw [toVolume_voxel _ _ _ _ _ _ v hv]
  generalize frameOf nd (subsetByChain chain ((recs.filter (fun x => fileKeep e rs false x)).map (·.atom))) shape r origin = fr
  rw [subsetByChain_eq_filter]
  simp only [List.filter_map, List.filter_filter, List.map_map]
  congr 1
  congr 1
  apply List.filter_congr
  intro x _
  simp only [Function.comp, Bool.and_comm, Bool.and_assoc]

example :
    let recs : List Rec := [⟨⟨[0, 0, 0], "C", "A"⟩, "GLY", "ATOM"⟩, ⟨⟨[1, 1, 1], "O", "A"⟩, "SER", "ATOM"⟩,
      ⟨⟨[1, 1, 1], "N", "B"⟩, "SER", "ATOM"⟩, ⟨⟨[1, 0, 0], "ZN", "A"⟩, "ZN", "HETATM"⟩]
    (fromFileK 3 recs none (some ["SER", "ZN"]) (some [2, 2, 2]) none (some [0, 0, 0]) none (.point .atomicNumber)).toOption.map
      (fun o => o.grid.toList) = some [0, 0, 0, 0, 0, 0, 0, 15] := by decide +kernel

/-- grid level symmetry: an atom contributes the same to a voxel and to its mirror image about the atom's voxel,
whenever both are inside the box (the only asymmetry of the van der Waals volume is the clipping by the faces) -/
theorem vdw_contribution_mirror (shape p k v : List Int) (hk : k.length = p.length) (hp : p.length = shape.length)
    (hv : inBox shape v = true) (hm : inBox shape (mirror p v) = true) :
    vdwContribution shape p k (mirror p v) = vdwContribution shape p k v := by
  rw [vdwContribution_eq shape p k _ hk hp, vdwContribution_eq shape p k _ hk hp, hv, hm, offs_mirror, sphere_symmetric]

example : mirror [5, 5] [6, 3] = [4, 7] ∧ vdwContribution [10, 10] [5, 5] [2, 3] [6, 3] = 1 ∧
    vdwContribution [10, 10] [5, 5] [2, 3] [4, 7] = 1 := by decide +kernel

/-- shape derived: also for the sphere / support weight types no atom is outside -/
theorem toVolumeK_derived_all_inside (nd : Nat) (atoms : List Atom) (rate origin : Option (List Rat))
    (chain : Option String) (wk : WKind) (hwk : wk = .vdw ∨ wk = .scattering) (out : OutK)
    (h : toVolumeK nd atoms none rate origin chain wk = .ok out)
    (hx : ∀ a ∈ atoms, a.xyz.length = nd) (hol : ∀ o, origin = some o → o.length = nd)
    (hrp : ∀ r, resolveRate nd rate = some r → ∀ k, k < nd → 0 < r.getD k 0) : out.outside = 0 := by
  obtain ⟨r, hr, _, _, _, ho, _⟩ := toVolumeK_frame nd atoms none rate origin chain wk hwk out h
  rw [ho]
  exact (derived_all_inside nd (subsetByChain chain atoms) r origin .atomicNumber
    (fun a ha => hx a (mem_subsetByChain ha)) (resolveRate_length nd rate r hr) hol (hrp r hr)).1

example :
    let atoms : List Atom := [⟨[0, 0, 0], "C", "A"⟩, ⟨[2, 1, 1], "N", "A"⟩, ⟨[-3, 5/2, 7], "S", "B"⟩]
    (toVolumeK 3 atoms none (some [1, 2, 1/2]) (some [1, 1, 1]) none .vdw).toOption.map (fun o => (o.outside, o.shape)) =
      some (0, [8, 2, 11]) := by decide +kernel

/-- an atom inside the box whose radius is at least one voxel on every axis marks its own voxel -/
theorem vdw_centre_covered (shape p k : List Int) (hk : k.length = p.length) (hp : inBox shape p = true)
    (hpos : ∀ x ∈ k, 0 < x) : vdwContribution shape p k p = 1 := by
  rw [vdwContribution_eq shape p k p hk (inBox_length hp), hp, offs_self, ← hk, sphere_contains_centre k hpos]
  rfl

example : vdwContribution [4, 4] [0, 3] [1, 2] [0, 3] = 1 ∧ vdwContribution [4, 4] [0, 3] [0, 0] [0, 3] = 0 := by decide +kernel

/-- (helper) every range contains the atom's voxel and none is empty when every radius is at least one voxel -/
theorem inRanges_centre : ∀ (p : List Int) (R : List Rat) (shape : List Int), inBox shape p = true →
    R.length = shape.length → (∀ x ∈ R, 1 ≤ x) →
    inRanges (zip3 scatRange p R shape) p = true ∧ (zip3 scatRange p R shape).any rangeEmpty = false
  | [], [], [], _, _, _ => ⟨rfl, rfl⟩
  | [], _ :: _, [], _, hl, _ => absurd hl (Nat.succ_ne_zero _)
  | [], _ :: _, _ :: _, h, _, _ => Bool.noConfusion h
  | _ :: _, _, [], h, _, _ => Bool.noConfusion h
  | _ :: _, [], _ :: _, _, h, _ => absurd h.symm (Nat.succ_ne_zero _)
  | [], [], _ :: _, h, _, _ => Bool.noConfusion h
  | p :: ps, R :: Rs, n :: ns, h, hl, hR => by
      obtain ⟨hb, hr⟩ := inBox_cons.mp h
      obtain ⟨ih1, ih2⟩ := inRanges_centre ps Rs ns hr (Nat.succ.inj hl) (fun x hx => hR x (List.mem_cons_of_mem _ hx))
      have hc := (scat_axis_centre_iff p R n hb).mpr (hR R List.mem_cons_self)
      refine ⟨?_, ?_⟩
      · simp only [zip3, inRanges, Bool.and_eq_true, decide_eq_true_eq]
        exact ⟨hc, ih1⟩
      · simp only [zip3, List.any_cons, Bool.or_eq_false_iff]
        exact ⟨decide_eq_false (not_le.mpr (hc.1.trans_lt hc.2)), ih2⟩

/-- an atom inside the box whose radius is at least one voxel on every axis contributes to its own voxel (and the
conversion does not raise on its account) -/
theorem scat_centre_covered (p : List Int) (R : List Rat) (shape : List Int) (hp : inBox shape p = true)
    (hl : R.length = shape.length) (hR : ∀ x ∈ R, 1 ≤ x) : scatCovers p R shape p = true := by
  obtain ⟨h1, h2⟩ := inRanges_centre p R shape hp hl hR
  unfold scatCovers scatSupport
  by_cases hc : rangeEmpty ((zip3 scatRange p R shape).getD 1 (0, 0)) = true
  · simp only
    rw [if_pos hc]
    simp
  · simp only
    rw [if_neg hc, if_neg (by rw [h2]; simp)]
    exact h1

example : scatCovers [0, 3, 1] [1, 3/2, 2] [1, 4, 2] [0, 3, 1] = true := by decide +kernel

/-- `to_volume(weight_type="gaussian")` when no atom is outside the requested box (in particular when none is
requested): the array handed to the Gaussian filter sums to the summed atomic number of the chain subset -/
theorem toVolumeK_gaussian_total (nd pad : Nat) (atoms : List Atom) (shape : Option (List Int)) (rate origin : Option (List Rat))
    (chain : Option String) (out : OutK) (h : toVolumeK nd atoms shape rate origin chain (.gaussian pad) = .ok out)
    (hx : ∀ a ∈ atoms, a.xyz.length = nd)
    (hrp : ∀ r, resolveRate nd rate = some r → ∀ k, k < nd → 0 < r.getD k 0) (hout : out.outside = 0) :
    out.grid.data.toList.sum = ((subsetByChain chain atoms).map (fun a => weightOf .atomicNumber a.elem)).sum := by
  obtain ⟨r, ws, _, hr, _, hws, rfl, rfl⟩ := toVolumeK_gaussian_inv nd pad atoms shape rate origin chain out h _ rfl
  rw [toVolumeK_gaussian_sum nd pad atoms shape rate origin chain _ r h hr hx (hrp r hr) ws hws]
  set sub := subsetByChain chain atoms
  set fr := frame nd (sub.map (fun a => a.xyz.reverse)) shape r origin
  -- nothing outside: the bounds filter keeps every atom, and the weights are those of all atoms
  have hle : (keptK r fr sub).length ≤ sub.length := by
    rw [keptK_eq_filter, List.length_map]
    exact List.length_filter_le _ _
  have hlen : (keptK r fr sub).length = sub.length := Nat.le_antisymm hle (Nat.le_of_sub_eq_zero hout)
  have hkeep : keptK r fr sub = sub.map (fun a => (posOf r fr a.xyz.reverse, a.elem)) :=
    filter_eq_self_of_length _ _ (hlen.trans (List.length_map _).symm)
  rcases (gaussWeights_some hws).2 with ⟨_, rfl⟩ | ⟨hne, _⟩
  · rw [hkeep, List.map_map]
    rfl
  · exact absurd ((List.length_map _).trans hlen) hne

example :
    let atoms : List Atom := [⟨[0, 0, 0], "C", "A"⟩, ⟨[2, 1, 1], "N", "B"⟩, ⟨[4, 4, 4], "O", "A"⟩]
    (toVolumeK 3 atoms (some [11, 11, 11]) (some [1/2]) (some [-1, -1, -1]) none (.gaussian 3)).toOption.map
      (fun o => (o.outside, o.grid.toList.sum)) = some (0, 21) := by
  -- the 15³ array is not evaluated: its sum is that of the weights
  dsimp only
  refine (toOption_map_congr (g := fun o => (o.outside, 21)) fun out h => ?_).trans (by decide +kernel)
  exact congrArg (fun s => (out.outside, s)) (toVolumeK_gaussian_sum _ _ _ _ _ _ _ out _ h rfl
    (by decide) (by decide +kernel) [6, 7, 8] (by decide +kernel))

/-- the radius table has the keys of the weight table, in the same order (one `Elements._elements` dict) -/
theorem vdwrTable_keys : vdwrTable.map (·.1) = elementTable.map (·.1) := by decide +kernel

/-- a symbol that is no table key has radius 0 (`Elements._default`), every axis radius is then 0 voxels and the atom
deposits nothing, whatever the sampling rate -/
theorem unknown_symbol_deposits_nothing (sym : String) (h : vdwrTable.find? (fun e => e.1 == sym) = none)
    (rate : List Rat) (hr : rate ≠ []) (d : List Int) :
    vdwrOf sym = some 0 ∧ inSphere (vdwRadius (vdwrD sym) rate) d = false := by
  have h0 : vdwrOf sym = some 0 := by unfold vdwrOf; rw [h]
  refine ⟨h0, ?_⟩
  cases rate with
  | nil => exact absurd rfl hr
  | cons r rs =>
    apply sphere_empty_of_zero_radius _ d (ceilQ (((vdwrD sym : Nat) : Rat) / (r * 100))) (by simp [vdwRadius])
    unfold vdwrD
    rw [h0]
    simp [ceilQ, floor_eq]

example : vdwrTable.find? (fun e => e.1 == "Xx") = none ∧ vdwrOf "Zn" = some 0 ∧ vdwrOf "ZN" = some 201 ∧ vdwrOf "OG" = none := by
  decide +kernel

/-- `np.add.at` is additive over concatenation of the entry lists: every voxel of `deposit (a ++ b)` is the sum of the
voxels of `deposit a` and `deposit b` -/
theorem deposit_append_voxel (shape : List Nat) (a b : List (List Nat × Int))
    (ha : ∀ pw ∈ a, inShape shape pw.1 = true) (hb : ∀ pw ∈ b, inShape shape pw.1 = true)
    (v : List Nat) (hv : inShape shape v = true) :
    (deposit shape (a ++ b)).getD v 0 = (deposit shape a).getD v 0 + (deposit shape b).getD v 0 := by
  have hab : ∀ pw ∈ a ++ b, inShape shape pw.1 = true := by
    intro pw h; rcases List.mem_append.mp h with h | h
    · exact ha pw h
    · exact hb pw h
  rw [deposit_voxel _ _ hab v hv, deposit_voxel _ _ ha v hv, deposit_voxel _ _ hb v hv]
  simp [List.filter_append]

/-- `np.add.at` does not depend on the order of the entries: any permutation gives the same voxel values -/
theorem deposit_perm_voxel (shape : List Nat) (a b : List (List Nat × Int)) (h : a.Perm b)
    (ha : ∀ pw ∈ a, inShape shape pw.1 = true) (v : List Nat) (hv : inShape shape v = true) :
    (deposit shape a).getD v 0 = (deposit shape b).getD v 0 := by
  have hb : ∀ pw ∈ b, inShape shape pw.1 = true := fun pw hp => ha pw (h.mem_iff.mpr hp)
  rw [deposit_voxel _ _ ha v hv, deposit_voxel _ _ hb v hv]
  exact perm_sum_filter _ _ h

/-- all weights zero ⇒ every voxel of the deposit is zero -/
theorem deposit_zero_weights (shape : List Nat) (ps : List (List Nat × Int))
    (hps : ∀ pw ∈ ps, inShape shape pw.1 = true) (hw : ∀ pw ∈ ps, pw.2 = 0)
    (v : List Nat) (hv : inShape shape v = true) : (deposit shape ps).getD v 0 = 0 := by
  rw [deposit_voxel _ _ hps v hv]
  apply List.sum_eq_zero
  intro x hx
  obtain ⟨pw, hpw, rfl⟩ := List.mem_map.mp hx
  exact hw pw (List.mem_of_mem_filter hpw)

/-- a structure whose atoms all weigh nothing (e.g. only unknown element symbols) gives the all-zero grid, whatever
shape / origin are given or derived -/
theorem toVolume_zero_weights (nd : Nat) (sub : List Atom) (shape : Option (List Int)) (r : List Rat)
    (origin : Option (List Rat)) (wt : WType) (hw : ∀ a ∈ sub, weightOf wt a.elem = 0) (v : List Nat)
    (hv : inShape (toNats (toVolumeCore nd sub shape r origin wt).shape) v = true) :
    (toVolumeCore nd sub shape r origin wt).grid.getD v 0 = 0 := by
  rw [toVolume_voxel _ _ _ _ _ _ v hv]
  apply List.sum_eq_zero
  intro x hx
  obtain ⟨a, ha, rfl⟩ := List.mem_map.mp hx
  exact hw a (List.mem_of_mem_filter ha)

/-- the grid always has the returned shape -/
theorem toVolume_grid_shape (nd : Nat) (sub : List Atom) (shape : Option (List Int)) (r : List Rat)
    (origin : Option (List Rat)) (wt : WType) :
    (toVolumeCore nd sub shape r origin wt).grid.shape = toNats (toVolumeCore nd sub shape r origin wt).shape := by
  unfold toVolumeCore
  simp only
  rw [deposit_shape]

/-- every atom is counted exactly once: reported outside count + number of atoms kept = number of atoms -/
theorem outside_plus_inside (nd : Nat) (sub : List Atom) (shape : Option (List Int)) (r : List Rat)
    (origin : Option (List Rat)) (wt : WType) :
    (toVolumeCore nd sub shape r origin wt).outside + (toVolumeCore nd sub shape r origin wt).kept.length = sub.length := by
  unfold toVolumeCore
  simp only
  have h := List.length_filter_le (fun pw : List Int × Int =>
    inBox (frame nd (sub.map (fun a => a.xyz.reverse)) shape r origin).shape pw.1)
    (placed r (frame nd (sub.map (fun a => a.xyz.reverse)) shape r origin) wt sub)
  have h2 : (placed r (frame nd (sub.map (fun a => a.xyz.reverse)) shape r origin) wt sub).length = sub.length := by
    simp [placed]
  omega

/-- origin and shape given: sampling the concatenation of two atom lists gives, voxel by voxel, the sum of the two grids -/
theorem given_box_append_voxel (nd : Nat) (a b : List Atom) (s : List Int) (r o : List Rat) (wt : WType)
    (v : List Nat) (hv : inShape (toNats s) v = true) :
    (toVolumeCore nd (a ++ b) (some s) r (some o) wt).grid.getD v 0 =
      (toVolumeCore nd a (some s) r (some o) wt).grid.getD v 0 + (toVolumeCore nd b (some s) r (some o) wt).grid.getD v 0 := by
  rw [given_box_voxel _ _ _ _ _ _ v hv, given_box_voxel _ _ _ _ _ _ v hv, given_box_voxel _ _ _ _ _ _ v hv]
  rw [List.filter_append, List.map_append, List.sum_append]

/-- origin and shape given: the grid does not depend on the order of the atoms -/
theorem given_box_perm_voxel (nd : Nat) (a b : List Atom) (h : a.Perm b) (s : List Int) (r o : List Rat) (wt : WType)
    (v : List Nat) (hv : inShape (toNats s) v = true) :
    (toVolumeCore nd a (some s) r (some o) wt).grid.getD v 0 = (toVolumeCore nd b (some s) r (some o) wt).grid.getD v 0 := by
  rw [given_box_voxel _ _ _ _ _ _ v hv, given_box_voxel _ _ _ _ _ _ v hv]
  exact perm_sum_filter _ _ h

/-- origin and shape given: the grid total (in any rank) does not depend on the order of the atoms -/
theorem given_box_perm_total (nd : Nat) (a b : List Atom) (h : a.Perm b) (s : List Int) (r o : List Rat) (wt : WType) :
    (toVolumeCore nd a (some s) r (some o) wt).grid.data.toList.sum =
      (toVolumeCore nd b (some s) r (some o) wt).grid.data.toList.sum := by
  rw [given_box_total, given_box_total]
  exact perm_sum_filter _ _ h

/-- origin and shape given: the grid total is additive over concatenation of atom lists -/
theorem given_box_append_total (nd : Nat) (a b : List Atom) (s : List Int) (r o : List Rat) (wt : WType) :
    (toVolumeCore nd (a ++ b) (some s) r (some o) wt).grid.data.toList.sum =
      (toVolumeCore nd a (some s) r (some o) wt).grid.data.toList.sum +
      (toVolumeCore nd b (some s) r (some o) wt).grid.data.toList.sum := by
  rw [given_box_total, given_box_total, given_box_total, List.filter_append, List.map_append, List.sum_append]

/-- origin and shape given: the outside count is additive over concatenation of atom lists -/
theorem given_box_outside_append (nd : Nat) (a b : List Atom) (s : List Int) (r o : List Rat) (wt : WType) :
    (toVolumeCore nd (a ++ b) (some s) r (some o) wt).outside =
      (toVolumeCore nd a (some s) r (some o) wt).outside + (toVolumeCore nd b (some s) r (some o) wt).outside := by
  rw [given_box_outside, given_box_outside, given_box_outside, List.filter_append, List.length_append]

/-- origin and shape given: the outside count does not depend on the order of the atoms -/
theorem given_box_outside_perm (nd : Nat) (a b : List Atom) (h : a.Perm b) (s : List Int) (r o : List Rat) (wt : WType) :
    (toVolumeCore nd a (some s) r (some o) wt).outside = (toVolumeCore nd b (some s) r (some o) wt).outside := by
  rw [given_box_outside, given_box_outside]
  exact (h.filter _).length_eq

example : ([⟨[0, 0, 0], "C", "A"⟩, ⟨[1, 1, 1], "O", "A"⟩] : List Atom).Perm [⟨[1, 1, 1], "O", "A"⟩, ⟨[0, 0, 0], "C", "A"⟩] :=
  List.Perm.swap _ _ _

/-- an atom whose index equals the extent on some axis (exactly on the upper boundary) is OUTSIDE … -/
theorem upper_boundary_outside (s p : List Int) (k : Nat) (hk : k < p.length) (h : p.getD k 0 = s.getD k 0) :
    inBox s p = false := by
  cases hb : inBox s p with
  | false => rfl
  | true =>
    have := ((inBox_iff s p).mp hb).2 k hk
    omega

/-- … and so is one with a negative index on some axis (no wrap-around to the far side of the array) -/
theorem negative_index_outside (s p : List Int) (k : Nat) (hk : k < p.length) (h : p.getD k 0 < 0) :
    inBox s p = false := by
  cases hb : inBox s p with
  | false => rfl
  | true =>
    have := ((inBox_iff s p).mp hb).2 k hk
    omega

/-- the last voxel of every axis (index = extent − 1) is inside, for every shape with positive extents -/
theorem last_voxel_inside (s : List Int) (hs : ∀ x ∈ s, 0 < x) : inBox s (s.map (· - 1)) = true := by
  induction s with
  | nil => rfl
  | cons x xs ih =>
    rw [List.map_cons, inBox_cons]
    have hx := hs x (by simp)
    exact ⟨by omega, ih (fun y hy => hs y (by simp [hy]))⟩

example : inBox [2, 3] [1, 2] = true ∧ inBox [2, 3] [2, 0] = false ∧ inBox [2, 3] [0, 3] = false ∧
    inBox [2, 3] [0, -1] = false := by decide +kernel

example : idxOf [1/2, 0] [1, 2] [3, 5/2] = [2, 1] ∧ idxOf [1/2 + 7, 0 - 3] [1, 2] [3 + 7, 5/2 - 3] = [2, 1] ∧
    idxOf [10 * (1/2), 0] [10, 20] [30, 25] = [2, 1] := by decide +kernel

/-- the property as a function: the spec voxel is additive over concatenation of atom lists -/
theorem specVoxel_append (o r : List Rat) (a b : List (List Rat × Int)) (v : List Int) :
    specVoxel o r (a ++ b) v = specVoxel o r a v + specVoxel o r b v := by
  simp [specVoxel, List.filter_append]

/-- … and independent of the order of the atoms -/
theorem specVoxel_perm (o r : List Rat) (a b : List (List Rat × Int)) (h : a.Perm b) (v : List Int) :
    specVoxel o r a v = specVoxel o r b v := perm_sum_filter _ _ h

/-- the spec total is independent of the order of the atoms and additive over concatenation -/
theorem specTotal_perm_append (o r : List Rat) (s : List Int) (a b c : List (List Rat × Int)) (h : a.Perm b) :
    specTotal o r s a = specTotal o r s b ∧ specTotal o r s (a ++ c) = specTotal o r s a + specTotal o r s c :=
  ⟨perm_sum_filter _ _ h, by simp [specTotal, List.filter_append]⟩

/-- the spec outside count is additive over concatenation, order independent, and complements the inside count -/
theorem specOutside_append_perm (o r : List Rat) (s : List Int) (a b c : List (List Rat × Int)) (h : a.Perm b) :
    specOutside o r s (a ++ c) = specOutside o r s a + specOutside o r s c ∧
    specOutside o r s a = specOutside o r s b ∧
    specOutside o r s a + (a.filter (fun x => inBox s (idxOf o r x.1.reverse))).length = a.length := by
  refine ⟨by simp [specOutside, List.filter_append], (h.filter _).length_eq, ?_⟩
  unfold specOutside
  have := length_filter_not a (fun x => inBox s (idxOf o r x.1.reverse))
  have h2 := List.length_filter_le (fun x : List Rat × Int => inBox s (idxOf o r x.1.reverse)) a
  omega

/-- the spec total is the sum of the spec voxels' atoms: an atom contributes to the total iff its voxel is inside -/
theorem specTotal_zero_weights (o r : List Rat) (s : List Int) (a : List (List Rat × Int)) (hw : ∀ x ∈ a, x.2 = 0) :
    specTotal o r s a = 0 := by
  unfold specTotal
  apply List.sum_eq_zero
  intro x hx
  obtain ⟨y, hy, rfl⟩ := List.mem_map.mp hx
  exact hw y (List.mem_of_mem_filter hy)

/-- chain / element restriction as a difference: the grid of the kept atoms is the full grid minus the grid of the
removed atoms, voxel by voxel (origin and shape given) -/
theorem restriction_is_full_minus_removed (nd : Nat) (sub : List Atom) (s : List Int) (r o : List Rat) (wt : WType)
    (p : Atom → Bool) (v : List Nat) (hv : inShape (toNats s) v = true) :
    (toVolumeCore nd (sub.filter p) (some s) r (some o) wt).grid.getD v 0 =
      (toVolumeCore nd sub (some s) r (some o) wt).grid.getD v 0 -
      (toVolumeCore nd (sub.filter (fun a => !p a)) (some s) r (some o) wt).grid.getD v 0 := by
  have := chain_restriction_diff nd sub s r o wt p v hv
  omega

/-- `chain=None` restricts nothing; a chain string keeps exactly the atoms whose chain is one of its comma-separated
parts, so chains not named contribute to no voxel -/
theorem subsetByChain_mem (c : String) (atoms : List Atom) (a : Atom) :
    subsetByChain none atoms = atoms ∧
    (a ∈ subsetByChain (some c) atoms ↔ a ∈ atoms ∧ a.chain ∈ c.splitOn ",") := by
  refine ⟨rfl, ?_⟩
  simp [subsetByChain, List.mem_filter]

/-- origin and shape given: every voxel of the grid is the property's spec function `specVoxel` (summed weight of the
atoms with `round((zyx − origin)/rate) = v`) of the atom list -/
theorem given_box_voxel_is_spec (nd : Nat) (sub : List Atom) (s : List Int) (r o : List Rat) (wt : WType)
    (hx : ∀ a ∈ sub, a.xyz.length ≤ nd) (v : List Nat) (hv : inShape (toNats s) v = true) :
    (toVolumeCore nd sub (some s) r (some o) wt).grid.getD v 0 =
      specVoxel o r (sub.map (fun a => (a.xyz, weightOf wt a.elem))) (v.map Int.ofNat) := by
  rw [given_box_voxel _ _ _ _ _ _ v hv]
  unfold specVoxel
  rw [List.filter_map, List.map_map]
  have : sub.filter (fun a => decide (posOf r ⟨o, List.replicate nd 0, s, o⟩ a.xyz.reverse = v.map Int.ofNat)) =
      sub.filter ((fun a : List Rat × Int => idxOf o r a.1.reverse == v.map Int.ofNat) ∘
        (fun a : Atom => (a.xyz, weightOf wt a.elem))) :=
    List.filter_congr (fun a ha => by
      simp only [Function.comp, given_box_pos nd s r o a.xyz.reverse (by simpa using hx a ha), beq_eq_decide])
  rw [this]
  rfl

/-- origin and shape given: the grid total is the spec function `specTotal`, the reported outside count is `specOutside` -/
theorem given_box_total_outside_is_spec (nd : Nat) (sub : List Atom) (s : List Int) (r o : List Rat) (wt : WType)
    (hx : ∀ a ∈ sub, a.xyz.length ≤ nd) :
    (toVolumeCore nd sub (some s) r (some o) wt).grid.data.toList.sum =
      specTotal o r s (sub.map (fun a => (a.xyz, weightOf wt a.elem))) ∧
    (toVolumeCore nd sub (some s) r (some o) wt).outside =
      specOutside o r s (sub.map (fun a => (a.xyz, weightOf wt a.elem))) := by
  have hpos : ∀ a ∈ sub, posOf r ⟨o, List.replicate nd 0, s, o⟩ a.xyz.reverse = idxOf o r a.xyz.reverse :=
    fun a ha => given_box_pos nd s r o _ (by rw [List.length_reverse]; exact hx a ha)
  constructor
  · rw [given_box_total]
    unfold specTotal
    rw [List.filter_map, List.map_map]
    congr 2
    exact List.filter_congr fun a ha => by rw [hpos a ha]; rfl
  · rw [given_box_outside]
    unfold specOutside
    rw [List.filter_map, List.length_map]
    congr 1
    exact List.filter_congr fun a ha => by rw [hpos a ha]; rfl

/-- translation covariance end to end (origin and shape given): moving every atom and the origin by the same vector `t`
(z,y,x order) gives the same positions, the same outside count and the same grid -/
theorem given_box_translate (nd : Nat) (sub : List Atom) (s : List Int) (r o t : List Rat) (wt : WType)
    (ht : ∀ a ∈ sub, a.xyz.length ≤ t.length) :
    let sub' := sub.map (fun a => (⟨(List.zipWith (· + ·) a.xyz.reverse t).reverse, a.elem, a.chain⟩ : Atom))
    let o' := List.zipWith (· + ·) o t
    (toVolumeCore nd sub' (some s) r (some o') wt).kept = (toVolumeCore nd sub (some s) r (some o) wt).kept ∧
    (toVolumeCore nd sub' (some s) r (some o') wt).outside = (toVolumeCore nd sub (some s) r (some o) wt).outside ∧
    (toVolumeCore nd sub' (some s) r (some o') wt).grid = (toVolumeCore nd sub (some s) r (some o) wt).grid := by
  intro sub' o'
  have hp : placed r ⟨o', List.replicate nd 0, s, o'⟩ wt sub' = placed r ⟨o, List.replicate nd 0, s, o⟩ wt sub := by
    unfold placed
    rw [List.map_map]
    apply List.map_congr_left
    intro a ha
    simp only [Function.comp, posOf, List.reverse_reverse]
    rw [idxOf_translate _ _ _ _ (by simpa using ht a ha)]
  have hl : sub'.length = sub.length := by simp [sub']
  unfold toVolumeCore
  simp only [frame_given, hp, hl, and_self]

/-- scaling covariance end to end (origin and shape given): a change of length unit (coordinates, origin and sampling
rate multiplied by the same non-zero factor) gives the same positions, the same outside count and the same grid -/
theorem given_box_scale (nd : Nat) (sub : List Atom) (s : List Int) (r o : List Rat) (k : Rat) (hk : k ≠ 0) (wt : WType) :
    let sub' := sub.map (fun a => (⟨a.xyz.map (k * ·), a.elem, a.chain⟩ : Atom))
    let o' := o.map (k * ·)
    let r' := r.map (k * ·)
    (toVolumeCore nd sub' (some s) r' (some o') wt).kept = (toVolumeCore nd sub (some s) r (some o) wt).kept ∧
    (toVolumeCore nd sub' (some s) r' (some o') wt).outside = (toVolumeCore nd sub (some s) r (some o) wt).outside ∧
    (toVolumeCore nd sub' (some s) r' (some o') wt).grid = (toVolumeCore nd sub (some s) r (some o) wt).grid := by
  intro sub' o' r'
  have hp : placed r' ⟨o', List.replicate nd 0, s, o'⟩ wt sub' = placed r ⟨o, List.replicate nd 0, s, o⟩ wt sub := by
    unfold placed
    rw [List.map_map]
    apply List.map_congr_left
    intro a ha
    simp only [Function.comp, posOf, ← List.map_reverse]
    rw [idxOf_scale k hk]
  have hl : sub'.length = sub.length := by simp [sub']
  unfold toVolumeCore
  simp only [frame_given, hp, hl, and_self]

example :
    let sub : List Atom := [⟨[0, 0, 0], "C", "A"⟩, ⟨[5, 1, 1], "O", "A"⟩, ⟨[3/2, 1, 0], "N", "A"⟩]
    let sub' : List Atom := [⟨[7, 0, -2], "C", "A"⟩, ⟨[12, 1, -1], "O", "A"⟩, ⟨[17/2, 1, -2], "N", "A"⟩]
    (toVolumeCore 3 sub' (some [2, 2, 3]) [1, 1, 1] (some [-2, 0, 7]) .atomicNumber).grid.toList =
    (toVolumeCore 3 sub (some [2, 2, 3]) [1, 1, 1] (some [0, 0, 0]) .atomicNumber).grid.toList := by decide +kernel

/-- `to_volume(chain=c)` is `to_volume` of the chain subset with no chain argument: the restriction acts on the atom list
and on nothing else (shape / origin derivation, rate, weights all see only the subset) -/
theorem toVolume_chain_is_subset (nd : Nat) (atoms : List Atom) (shape : Option (List Int)) (rate : Option (List Rat))
    (origin : Option (List Rat)) (c : String) (wt : WType) :
    toVolume nd atoms shape rate origin (some c) wt =
      toVolume nd (subsetByChain (some c) atoms) shape rate origin none wt := rfl

/-- shape derived: all atoms are kept (none dropped), in any rank -/
theorem derived_all_kept (nd : Nat) (sub : List Atom) (r : List Rat) (origin : Option (List Rat)) (wt : WType)
    (hx : ∀ a ∈ sub, a.xyz.length = nd) (hrl : r.length = nd) (hol : ∀ o, origin = some o → o.length = nd)
    (hrp : ∀ k, k < nd → 0 < r.getD k 0) :
    (toVolumeCore nd sub none r origin wt).kept.length = sub.length := by
  have h1 := (derived_all_inside nd sub r origin wt hx hrl hol hrp).1
  have h2 := outside_plus_inside nd sub none r origin wt
  omega

/-- shape derived: although the derived frame depends on the atoms, the grid total is additive over concatenation and
independent of the order of the atoms (no mass is lost in either) -/
theorem derived_total_append_perm (nd : Nat) (a b c : List Atom) (hp : a.Perm c) (r : List Rat)
    (origin : Option (List Rat)) (wt : WType)
    (ha : ∀ x ∈ a, x.xyz.length = nd) (hb : ∀ x ∈ b, x.xyz.length = nd) (hrl : r.length = nd)
    (hol : ∀ o, origin = some o → o.length = nd) (hrp : ∀ k, k < nd → 0 < r.getD k 0) :
    (toVolumeCore nd (a ++ b) none r origin wt).grid.data.toList.sum =
      (toVolumeCore nd a none r origin wt).grid.data.toList.sum + (toVolumeCore nd b none r origin wt).grid.data.toList.sum ∧
    (toVolumeCore nd a none r origin wt).grid.data.toList.sum = (toVolumeCore nd c none r origin wt).grid.data.toList.sum := by
  have hab : ∀ x ∈ a ++ b, x.xyz.length = nd := by
    intro x h; rcases List.mem_append.mp h with h | h
    · exact ha x h
    · exact hb x h
  have hc : ∀ x ∈ c, x.xyz.length = nd := fun x hx => ha x (hp.mem_iff.mpr hx)
  rw [(derived_all_inside nd (a ++ b) r origin wt hab hrl hol hrp).2, (derived_all_inside nd a r origin wt ha hrl hol hrp).2,
    (derived_all_inside nd b r origin wt hb hrl hol hrp).2, (derived_all_inside nd c r origin wt hc hrl hol hrp).2]
  exact ⟨by simp, (hp.map _).sum_eq⟩

/-- origin and shape both derived: the returned origin is, axis by axis, the smallest z,y,x coordinate of the subset -/
theorem derived_origin_is_min (nd : Nat) (sub : List Atom) (r : List Rat) (wt : WType) :
    (toVolumeCore nd sub none r none wt).origin =
      (List.range nd).map (fun k => minQ (col 0 k (sub.map (fun a => a.xyz.reverse)))) := by
  have h := frame_noshift nd (sub.map (fun a => a.xyz.reverse)) none r none rfl
  have h0 := frame_origin0_none nd (sub.map (fun a => a.xyz.reverse)) r
  unfold toVolumeCore
  simp only
  rw [h.2, h0]

/-- chain / element restriction (origin and shape given): the grid total splits into the total of the kept atoms and the
total of the removed atoms, and so does the outside count -/
theorem restriction_total_outside_split (nd : Nat) (sub : List Atom) (s : List Int) (r o : List Rat) (wt : WType)
    (p : Atom → Bool) :
    (toVolumeCore nd sub (some s) r (some o) wt).grid.data.toList.sum =
      (toVolumeCore nd (sub.filter p) (some s) r (some o) wt).grid.data.toList.sum +
      (toVolumeCore nd (sub.filter (fun a => !p a)) (some s) r (some o) wt).grid.data.toList.sum ∧
    (toVolumeCore nd sub (some s) r (some o) wt).outside =
      (toVolumeCore nd (sub.filter p) (some s) r (some o) wt).outside +
      (toVolumeCore nd (sub.filter (fun a => !p a)) (some s) r (some o) wt).outside := by
  constructor
  · rw [given_box_total, given_box_total, given_box_total]
    exact sum_filter_split sub p _ _
  · rw [given_box_outside, given_box_outside, given_box_outside, ← List.length_append]
    exact (filter_split_perm sub p _).length_eq.symm

end Pm.C10
