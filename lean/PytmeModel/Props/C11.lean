import PytmeModel.Model.C11
import PytmeModel.Proofs.C11
import PytmeModel.Proofs.C11Star
import PytmeModel.Proofs.C11Perm
import PytmeModel.Proofs.C11Extract

/-! # C11 — orientation tables: text / Dynamo / STAR round trips, integer and boolean subsetting, extraction windows
and picks, `copy` / iteration, constructor validation, format dispatch -/
namespace Pm.C11

/-! ## extraction windows (per axis: every target extent `T`, box extent `e`, pick `p`) -/

/-- source and destination windows always have the same extent -/
theorem window_extents_eq (T e : Nat) (p : Int) :
    candEnd T e p - candBeg e p = obsEnd T e p - obsBeg e p := by
  unfold candEnd candBeg; omega

/-- the source window never leaves the target; for a pick inside the target it is a proper
(possibly empty) interval -/
theorem window_in_target (T e : Nat) (p : Int) :
    0 ≤ obsBeg e p ∧ obsEnd T e p ≤ T ∧ (0 ≤ p → p ≤ T → obsBeg e p ≤ obsEnd T e p) := by
  have := pads e
  unfold obsBeg obsEnd; omega

/-- the destination window never leaves the box, whatever the parities, also when the box is
larger than the target -/
theorem window_in_box (T e : Nat) (p : Int) :
    0 ≤ candBeg e p ∧ candEnd T e p ≤ e ∧ (0 ≤ p → p ≤ T → candBeg e p ≤ candEnd T e p) := by
  have := pads e
  unfold candBeg candEnd obsBeg obsEnd; omega

/-- the per-axis keep test holds exactly when the window has the full box extent -/
theorem kept_iff_full (T e : Nat) (p : Int) :
    keepAxis T e p = true ↔ candEnd T e p - candBeg e p = e := by
  have h := window_in_box T e p
  unfold keepAxis
  simp only [Bool.and_eq_true, beq_iff_eq]
  omega

/-- in particular a pick at least `⌈e/2⌉` away from both faces of the target is never dropped -/
theorem interior_kept (T e : Nat) (p : Int) (h1 : leftPad e ≤ p) (h2 : p + leftPad e ≤ T) :
    keepAxis T e p = true := by
  rw [keep_iff_fits]
  have := pads e
  omega

theorem keepPick_iff_full_any (T e : List Nat) (p : List Int) :
    keepPick T e p = true ↔ ∀ w ∈ (windowAxes T e p).zip e, w.1.2.1 - w.1.1 = (w.2 : Int) := by
  fun_induction keepPick T e p with
  | case1 T Ts e es p ps ih =>
    simp only [windowAxes, Bool.and_eq_true, List.zip_cons_cons, List.mem_cons, forall_eq_or_imp]
    rw [ih, kept_iff_full]
  | case2 T e p h =>
    rcases nil_of_no_cons₃ T e p h with rfl | rfl | rfl
    · simp [windowAxes]
    · simp [windowAxes]
    · cases T <;> cases e <;> simp [windowAxes]

/-- n-D: a pick is kept exactly when every axis has the full extent -/
theorem keepPick_iff_full (T e : List Nat) (p : List Int) (h1 : T.length = e.length) (h2 : e.length = p.length) :
    keepPick T e p = true ↔
      ∀ w ∈ (windowAxes T e p).zip e, w.1.2.1 - w.1.1 = (w.2 : Int) :=
  keepPick_iff_full_any T e p

/-- n-D: every window produced for a pick satisfies the three per-axis clauses -/
theorem windowAxes_spec (T e : List Nat) (p : List Int) :
    ∀ w ∈ windowAxes T e p, w.2.1 - w.1 = w.2.2.2 - w.2.2.1 ∧ 0 ≤ w.1 ∧ 0 ≤ w.2.2.1 := by
  fun_induction windowAxes T e p with
  | case1 T Ts e es p ps ih =>
    intro w hw
    rcases List.mem_cons.mp hw with rfl | hw
    · exact ⟨window_extents_eq T e p, (window_in_box T e p).1, (window_in_target T e p).1⟩
    · exact ih w hw
  | case2 T e p h => intro w hw; cases hw

example : windowAxes [10, 9] [4, 5] [0, 8] = [(2, 4, 0, 2), (0, 4, 5, 9)] := by decide
example : keepPick [10, 9] [4, 5] [5, 5] = true ∧ keepPick [10, 9] [4, 5] [0, 5] = false := by decide
example : keepAxis 3 7 1 = false ∧ candBeg 7 1 = 3 ∧ candEnd 3 7 1 = 6 := by decide

/-! ## text files (`_to_text` / `_from_text`) -/

/-- a row as the writer emits it: `d` translation and `r` angle tokens, every token a non-empty
whitespace-free string (what `str(np.float32)` produces) -/
structure RowWf (d r : Nat) (row : Row) : Prop extends RowOk d r row where
  toks : ∀ t ∈ row.tokens, tokWf t

/-- **text round trip**: for every number of translation (`d ≤ 26`) and angle (`1 ≤ r ≤ 26`)
columns and every table of 0..N rows, reading the written file gives back the same number of
rows in the same order, translation columns in the stored axis order, and angle / score /
detail tokens unchanged (bit-identity of the numbers = numpy's print/parse, trusted) -/
theorem text_roundtrip (d r : Nat) (hd : d ≤ 26) (hr1 : 1 ≤ r) (hr : r ≤ 26) (rows : List Row)
    (h : ∀ row ∈ rows, RowWf d r row) :
    readText (writeText d r rows) = .ok (Table.ofRows d r rows) := by
  rw [← writeTextPerm_id d r hd hr rows (fun row hm => (h row hm).toRowOk)]
  exact readText_writeTextPerm d r hd hr1 hr _ (List.Perm.refl _) rows (fun row hm => (h row hm).toRowOk)
    (fun row hm => (h row hm).toks)

/-- number of entries and order: the table read back has exactly the written rows -/
theorem text_roundtrip_count (d r : Nat) (hd : d ≤ 26) (hr1 : 1 ≤ r) (hr : r ≤ 26) (rows : List Row)
    (h : ∀ row ∈ rows, RowWf d r row) :
    ∃ t, readText (writeText d r rows) = .ok t ∧ t.trans.length = rows.length ∧ t.transCols = d ∧
      t.rotCols = r ∧ ∀ i (hi : i < rows.length), t.trans[i]? = some rows[i].trans ∧
        t.rot[i]? = some rows[i].rot ∧ t.score[i]? = some rows[i].score ∧ t.detail[i]? = some rows[i].detail := by
  refine ⟨_, text_roundtrip d r hd hr1 hr rows h, by simp [Table.ofRows], rfl, rfl, ?_⟩
  intro i hi
  simp [Table.ofRows, hi]

/-- **text files with permuted named columns**: a file that carries the writer's `d + r` column names in *any*
order `perm` (translation and angle columns may be interleaved; score and detail last), each row's tokens in the
same order, is read into exactly the table the canonical file gives: the reader's header-driven order
(`sorted(zip(names, range), reverse=True)` on the translation names and on the `euler_*` names) undoes every
permutation, for every number of rows.  (`text_roundtrip` is the case `perm = 0, 1, …` — `text_permuted_identity`.) -/
theorem text_roundtrip_permuted (d r : Nat) (hd : d ≤ 26) (hr1 : 1 ≤ r) (hr : r ≤ 26) (perm : List Nat)
    (hp : perm.Perm (List.range (d + r))) (rows : List Row) (h : ∀ row ∈ rows, RowWf d r row) :
    readText (writeTextPerm d r perm rows) = .ok (Table.ofRows d r rows) :=
  readText_writeTextPerm d r hd hr1 hr perm hp rows (fun row hm => (h row hm).toRowOk) (fun row hm => (h row hm).toks)

/-- the identity order is the writer's own file, so the permuted statement contains the plain round trip -/
theorem text_permuted_identity (d r : Nat) (hd : d ≤ 26) (hr : r ≤ 26) (rows : List Row)
    (h : ∀ row ∈ rows, RowWf d r row) : writeTextPerm d r (List.range (d + r)) rows = writeText d r rows :=
  writeTextPerm_id d r hd hr rows (fun row hm => (h row hm).toRowOk)

/-- the order the reader computes, in general: for names that are the images of any permutation `ks` of `0..n-1`
under a key map on which Python's string order reverses the index order, gathering a row's values in the
computed order restores `0..n-1` -/
theorem text_sort_order_restores (ks : List Nat) (n : Nat) (hp : ks.Perm (List.range n)) (nm : Nat → Str)
    (hnm : ∀ a, a < n → ∀ b, b < n → strLt (nm a) (nm b) = decide (b < a)) (v : Nat → Str) :
    pick (ks.map v) (sortOrder (ks.map nm)) = .ok ((List.range n).map v) :=
  (sortOrder_restores ks n hp nm hnm v).1

/-- all hypotheses of `text_roundtrip_permuted` together -/
example : readText (writeTextPerm 3 2 [3, 0, 4, 2, 1] [⟨[['1'], ['2'], ['3']], [['8'], ['9']], ['5'], ['7']⟩]) =
    .ok ⟨[[['1'], ['2'], ['3']]], 3, [[['8'], ['9']]], 2, [['5']], [['7']]⟩ := by
  refine text_roundtrip_permuted 3 2 (by omega) (by omega) (by omega) _ (by decide) _ ?_
  intro row hr
  simp only [List.mem_cons, List.mem_nil_iff, or_false] at hr
  subst hr
  exact { lt := rfl, lr := rfl, toks := by decide }
example : [3, 0, 4, 2, 1].Perm (List.range (3 + 2)) := by decide
example : writeTextPerm 3 2 [3, 0, 4, 2, 1] [⟨[['1'], ['2'], ['3']], [['8'], ['9']], ['5'], ['7']⟩] =
    "euler_z\tz\teuler_y\tx\ty\tscore\tdetail\n8\t1\t9\t3\t2\t5\t7\n".toList := by decide +kernel
example : readText (writeTextPerm 3 2 [3, 0, 4, 2, 1] [⟨[['1'], ['2'], ['3']], [['8'], ['9']], ['5'], ['7']⟩]) =
    .ok (Table.ofRows 3 2 [⟨[['1'], ['2'], ['3']], [['8'], ['9']], ['5'], ['7']⟩]) := by decide +kernel
example : [2, 0, 1].Perm (List.range 3) ∧
    (∀ a, a < 3 → ∀ b, b < 3 → strLt (tnF a) (tnF b) = decide (b < a)) := by decide

/-- the header-driven column order: a file whose translation / angle columns are written in
another order (`x y z`, `euler_x …`) is read into the stored `z y x` order -/
theorem text_header_order :
    sortOrder [['x'], ['y'], ['z']] = [2, 1, 0] ∧ sortOrder [['z'], ['y'], ['x']] = [0, 1, 2] ∧
    sortOrder [['y'], ['x'], ['z']] = [2, 0, 1] := by decide

/-- the reader as it was before `fix: text orientation reader accepts files without data rows`:
a written table with no rows could not be read back (`np.vstack([])`) -/
theorem text_zero_rows_old_defect :
    readTextOld (writeText 3 3 []) = .error .valueError ∧
    readText (writeText 3 3 []) = .ok (Table.ofRows 3 3 []) := by
  constructor
  · decide
  · exact text_roundtrip 3 3 (by omega) (by omega) (by omega) [] (by simp)

example : RowWf 2 1 ⟨[['1','.','5'], ['2','.','0']], [['9','0','.','0']], ['0','.','5'], ['-','1','.','0']⟩ :=
  { lt := rfl, lr := rfl, toks := by decide }
example : writeText 2 1 [⟨[['1'], ['2']], [['9']], ['5'], ['7']⟩] =
    "z\ty\teuler_z\tscore\tdetail\n1\t2\t9\t5\t7\n".toList := by decide +kernel

/-! ## Dynamo tables (`_to_dynamo_tbl` / `_from_tbl`) -/

/-- **Dynamo round trip** (token level): every written row comes back, in order, with the
translation restored to the stored z, y, x order (columns 26, 25, 24 ← `translation[::-1]`),
the three angle tokens of columns 7–9 and the score of column 10 -/
theorem tbl_roundtrip (sampling : Str) (hs : tokWf sampling) (rows : List TblRow) (h : ∀ r ∈ rows, TblWf r) :
    readTbl (writeTbl sampling rows) = .ok (rows.map TblRow.out) := by
  have hw : ∀ toks ∈ rows.map (TblRow.tokens sampling), rowWf toks := by
    intro toks ht
    obtain ⟨r, hr, rfl⟩ := List.mem_map.mp ht
    exact tblTokens_rowWf r sampling (h r hr) hs
  unfold readTbl writeTbl
  rw [splitOn_nl_renderLines ' ' (by decide) _ hw]
  have hfil : (List.map (joinSep ' ') (rows.map (TblRow.tokens sampling)) ++ [[]]).filter
      (fun l => !(strip l).isEmpty) =
      List.map (joinSep ' ') (rows.map (TblRow.tokens sampling)) := by
    rw [List.filter_append, List.filter_eq_self.mpr]
    · exact List.append_nil _
    · intro l hl
      obtain ⟨toks, ht, rfl⟩ := List.mem_map.mp hl
      rw [strip_joinSep ' ' toks (hw toks ht)]
      simpa using rowWf_joinSep_ne_nil ' ' toks (hw toks ht)
  have hmap := map_map_cancel _ (fun l => splitOn ' ' (strip l)) _
    (fun toks ht => splitOn_joinSep ' ' (by decide) toks (hw toks ht))
  simp only [hfil, hmap]
  cases rows with
  | nil => rfl
  | cons r rs =>
    simp only [List.map_cons]
    have h38 := tblTokens_length r sampling (h r (by simp))
    simp only [h38, bne_self_eq_false, Bool.false_eq_true, if_false]
    rw [← List.map_cons (f := TblRow.tokens sampling), List.mapM_map,
      mapM_ok (readTblRow ∘ TblRow.tokens sampling) TblRow.out (r :: rs) (fun x hx => readTblRow_written x sampling (h x hx))]
    rfl

/-- the same for every value of the writer's further keyword arguments `name_prefix` and `subtomogram_size`
(accepted, never written): the table and what is read back do not depend on them -/
theorem tbl_roundtrip_opts (namePrefix size : Option Str) (sampling : Str) (hs : tokWf sampling) (rows : List TblRow)
    (h : ∀ r ∈ rows, TblWf r) :
    writeTblOpts namePrefix sampling size rows = writeTbl sampling rows ∧
    readTbl (writeTblOpts namePrefix sampling size rows) = .ok (rows.map TblRow.out) :=
  ⟨rfl, tbl_roundtrip sampling hs rows h⟩

/-- number of entries and order of the Dynamo round trip: one output row per written row, the i-th one carrying the
i-th row's translation (stored z, y, x order), angle tokens and score -/
theorem tbl_roundtrip_count (namePrefix size : Option Str) (sampling : Str) (hs : tokWf sampling) (rows : List TblRow)
    (h : ∀ r ∈ rows, TblWf r) :
    ∃ out, readTbl (writeTblOpts namePrefix sampling size rows) = .ok out ∧ out.length = rows.length ∧
      ∀ i (hi : i < rows.length), out[i]? = some ⟨rows[i].trans, rows[i].ang, rows[i].score⟩ := by
  refine ⟨_, (tbl_roundtrip_opts namePrefix size sampling hs rows h).2, by simp, ?_⟩
  intro i hi
  simp [hi, TblRow.out]

example : TblWf ⟨['0'], [['1','0','.','5'], ['9','0','.','0'], ['0','.','0']], [['1','.','5'], ['2','.','5'], ['3','.','5']], ['0','.','9']⟩ :=
  { ang := rfl, trans := rfl, toks := by decide }
example : (readTbl (writeTblOpts (some ['s','u','b']) ['1','.','0'] (some ['1','6'])
      [⟨['0'], [['7'], ['8'], ['9']], [['1'], ['2'], ['3']], ['5']⟩])) =
    .ok [⟨[['1'], ['2'], ['3']], [['7'], ['8'], ['9']], ['5']⟩] := by decide +kernel
example : (readTbl (writeTbl ['1','.','0'] [⟨['0'], [['7'], ['8'], ['9']], [['1'], ['2'], ['3']], ['5']⟩])) =
    .ok [⟨[['1'], ['2'], ['3']], [['7'], ['8'], ['9']], ['5']⟩] := by decide +kernel

/-! ## RELION STAR

The header lines of a written file are run through the parser's state machine symbolically (`parseStar_written`).
Left to the correspondence check (Leg B): that the model's writer / parser are the code's (bytes and tokens compared
on every run), numpy's printing / parsing of the numbers and scipy's Euler conversion. -/

/-- **STAR round trip** (`delimiter=None`): for every particle list (0..N rows) of well-formed tokens, every
`name` argument (absent, one token, one token per particle) and `ctf_image` (absent or a token), the writer
succeeds and the reader gives back the coordinate columns in the stored z, y, x order and the three angle
columns, one entry per particle in file order -/
theorem star_roundtrip (size sampling : Str) (name : NameArg) (ctf : Option Str) (rows : List StarRow)
    (hsz : tokWf size) (hsa : tokWf sampling) (hn : NameOk name rows.length) (hc : ∀ s, ctf = some s → tokWf s)
    (hr : ∀ r ∈ rows, StarWf r) :
    (writeStar size sampling name ctf rows).bind (readStar none) = .ok (StarOut.ofRows rows) := by
  obtain ⟨text, hw, hrd, _⟩ := star_written_read none (Or.inl rfl) size sampling name ctf hsz hsa rows hn hc hr
  rw [hw]; exact hrd

/-- the same with `delimiter="\t"` (how RELION files are usually read) -/
theorem star_roundtrip_tab (size sampling : Str) (name : NameArg) (ctf : Option Str) (rows : List StarRow)
    (hsz : tokWf size) (hsa : tokWf sampling) (hn : NameOk name rows.length) (hc : ∀ s, ctf = some s → tokWf s)
    (hr : ∀ r ∈ rows, StarWf r) :
    (writeStar size sampling name ctf rows).bind (readStar (some '\t')) = .ok (StarOut.ofRows rows) := by
  obtain ⟨text, hw, hrd, _⟩ := star_written_read (some '\t') (Or.inr rfl) size sampling name ctf hsz hsa rows hn hc hr
  rw [hw]; exact hrd

/-- in the form "whatever text the writer returned": writing succeeds, and every text it can return reads back -/
theorem star_roundtrip_text (size sampling : Str) (name : NameArg) (ctf : Option Str) (rows : List StarRow)
    (hsz : tokWf size) (hsa : tokWf sampling) (hn : NameOk name rows.length) (hc : ∀ s, ctf = some s → tokWf s)
    (hr : ∀ r ∈ rows, StarWf r) :
    (∃ text, writeStar size sampling name ctf rows = .ok text) ∧
    ∀ text, writeStar size sampling name ctf rows = .ok text →
      readStar none text = .ok (StarOut.ofRows rows) ∧ readStar (some '\t') text = .ok (StarOut.ofRows rows) := by
  obtain ⟨t1, hw1, hr1, _⟩ := star_written_read none (Or.inl rfl) size sampling name ctf hsz hsa rows hn hc hr
  obtain ⟨t2, hw2, hr2, _⟩ := star_written_read (some '\t') (Or.inr rfl) size sampling name ctf hsz hsa rows hn hc hr
  refine ⟨⟨t1, hw1⟩, ?_⟩
  intro text ht
  rw [ht] at hw1 hw2
  injection hw1 with hw1; injection hw2 with hw2
  subst hw1; subst hw2
  exact ⟨hr1, hr2⟩

/-- the whole `data_particles` dictionary of a written file: exactly the column names of the header in file
order (7, 8 or 9 of them, depending on `name` / `ctf_image`), each with one entry per particle -/
theorem star_particles_dict (size sampling : Str) (name : NameArg) (ctf : Option Str) (rows : List StarRow)
    (hsz : tokWf size) (hsa : tokWf sampling) (hn : NameOk name rows.length) (hc : ∀ s, ctf = some s → tokWf s)
    (hr : ∀ r ∈ rows, StarWf r) :
    ∃ text cols, writeStar size sampling name ctf rows = .ok text ∧
      particles none text = .ok ((pcols name ctf).zip cols) ∧ cols.length = (pcols name ctf).length ∧
      ∀ c ∈ cols, c.length = rows.length := by
  obtain ⟨text, hw, _, cols, hl, hc', hp⟩ := star_written_read none (Or.inl rfl) size sampling name ctf hsz hsa rows hn hc hr
  exact ⟨text, cols, hw, hp, by rw [hl, pcols_length], hc'⟩

/-- number of entries and order: what is read back has one entry per written particle in every column, and the
i-th entries are the i-th particle's coordinates (stored z, y, x order) and angles -/
theorem star_roundtrip_entries (rows : List StarRow) (hr : ∀ r ∈ rows, StarWf r) :
    (∀ c ∈ (StarOut.ofRows rows).trans ++ (StarOut.ofRows rows).ang, c.length = rows.length) ∧
    ∀ i (hi : i < rows.length), (StarOut.ofRows rows).trans.map (fun c => c.getD i []) = rows[i].trans ∧
      (StarOut.ofRows rows).ang.map (fun c => c.getD i []) = rows[i].ang := by
  refine ⟨?_, ?_⟩
  · intro c hc
    simp only [StarOut.ofRows, List.cons_append, List.nil_append, List.mem_cons, List.mem_nil_iff, or_false] at hc
    rcases hc with rfl | rfl | rfl | rfl | rfl | rfl <;> exact List.length_map _
  intro i hi
  obtain ⟨ht, ha, _, _⟩ := hr rows[i] (List.getElem_mem hi)
  simp only [StarOut.ofRows, List.map_cons, List.map_nil, List.getD_eq_getElem?_getD, List.getElem?_map,
    List.getElem?_eq_getElem hi, Option.map_some, Option.getD_some]
  generalize rows[i] = r at ht ha ⊢
  obtain ⟨trans, ang⟩ := r
  obtain ⟨z, y, x, rfl⟩ := length_eq_three ht
  obtain ⟨a, b, c, rfl⟩ := length_eq_three ha
  exact ⟨rfl, rfl⟩

/-- a `name` list shorter than the particle list is the writer's `IndexError`, not a damaged file -/
theorem star_name_list_too_short :
    writeStar ['0'] ['1','.','0'] (.many [['a']]) none
      [⟨[['1'],['2'],['3']], [['7'],['8'],['9']]⟩, ⟨[['4'],['5'],['6']], [['7'],['8'],['9']]⟩] = .error .indexError := by
  decide

/-- (corollary, kept from the partial result) every written particle line (tab-joined whitespace-free tokens, not
starting like a keyword) is split back into its tokens and appended to the block, order preserved, header state
untouched -/
theorem star_rows_partial (ret : Cats) (cat : Option Str) (blk : List (List Str)) (rows : List (List Str))
    (hw : ∀ toks ∈ rows, rowWf toks) (hl : ∀ toks ∈ rows, isDataLine (joinSep '\t' toks) = true) :
    parseFold none ⟨ret, cat, blk⟩ (rows.map (joinSep '\t')) = .ok ⟨ret, cat, blk ++ rows⟩ := by
  rw [parseFold_dataD none ret cat blk _ (by
    intro l hm
    obtain ⟨toks, ht, rfl⟩ := List.mem_map.mp hm
    exact hl toks ht)]
  rw [map_map_cancel _ (splitLine none) rows (fun toks ht => splitWs_joinSep '\t' (by decide) toks (hw toks ht))]

/-- (corollary, kept from the partial result) the columns of a rectangular block are the per-row projections,
rows in file order -/
theorem star_columns_partial (block : List (List Str)) (m : Nat) (hne : block ≠ [])
    (h : ∀ r ∈ block, r.length = m) :
    transpose block = (List.range m).map (fun j => block.map (fun r => r.getD j [])) :=
  transpose_uniform block m hne h

example : StarWf ⟨[['1','.','5'], ['-','2','.','0'], ['n','a','n']], [['9','0','.','0'], ['0','.','0'], ['-','4','5','.','5']]⟩ :=
  { trans := rfl, ang := rfl, toks := by decide, first := by decide }
example : NameOk (.many [['a','.','m','r','c'], ['b','.','m','r','c'], ['c']]) 2 := by
  intro k hk
  match k, hk with
  | 0, _ => exact ⟨_, rfl, by decide⟩
  | 1, _ => exact ⟨_, rfl, by decide⟩
example : NameOk (.single ['d','a','t','a','_','t','.','m','r','c']) 5 := by
  show tokWf _; decide
example : NameOk .none 3 := trivial
example : ∀ s, (some ['#','c','t','f'] : Option Str) = some s → tokWf s := by
  intro s hs; cases hs; decide
/-- all hypotheses of `star_roundtrip` together, on a two-particle file with per-particle names and a ctf image -/
example : (writeStar ['3','2'] ['2','.','5'] (.many [['a','.','m','r','c'], ['_','b']]) (some ['#','c'])
      [⟨[['1','.','5'],['2'],['i','n','f']], [['7'],['8'],['9']]⟩, ⟨[['4'],['5'],['-','6','e','-','0','5']], [['1','0'],['2','0'],['3','0']]⟩]).bind
      (readStar none) =
    .ok ⟨[[['1','.','5'],['4']], [['2'],['5']], [['i','n','f'],['-','6','e','-','0','5']]],
         [[['7'],['1','0']], [['8'],['2','0']], [['9'],['3','0']]]⟩ := by
  refine star_roundtrip _ _ _ _ _ (by decide) (by decide) ?_ (by intro s hs; cases hs; decide) ?_
  · intro k hk
    match k, hk with
    | 0, _ => exact ⟨_, rfl, by decide⟩
    | 1, _ => exact ⟨_, rfl, by decide⟩
  · intro r hr
    simp only [List.mem_cons, List.mem_nil_iff, or_false] at hr
    rcases hr with rfl | rfl
    · exact { trans := rfl, ang := rfl, toks := by decide, first := by decide }
    · exact { trans := rfl, ang := rfl, toks := by decide, first := by decide }
example : isDataLine (joinSep '\t' [['3','.','5'], ['2'], ['1'], ['9','0'], ['0'], ['0'], ['1']]) = true := by decide
example : (match writeStar ['0'] ['1','.','0'] .none none
      [⟨[['1'],['2'],['3']], [['7'],['8'],['9']]⟩, ⟨[['4'],['5'],['6']], [['1','0'],['2','0'],['3','0']]⟩] with
    | .ok t => readStar none t | .error e => .error e) =
    .ok ⟨[[['1'],['4']], [['2'],['5']], [['3'],['6']]], [[['7'],['1','0']], [['8'],['2','0']], [['9'],['3','0']]]⟩ := by decide +kernel
example : (match writeStar ['0'] ['1','.','0'] (.single ['t','.','m','r','c']) (some ['w'])
      [⟨[['1'],['2'],['3']], [['7'],['8'],['9']]⟩] with
    | .ok t => readStar none t | .error e => .error e) = .ok ⟨[[['1']], [['2']], [['3']]], [[['7']], [['8']], [['9']]]⟩ := by decide +kernel
example : (match writeStar ['0'] ['1','.','0'] .none none [] with
    | .ok t => readStar none t | .error e => .error e) = .ok ⟨[[], [], []], [[], [], []]⟩ := by decide +kernel
example : StarOut.ofRows [⟨[['1'],['2'],['3']], [['7'],['8'],['9']]⟩, ⟨[['4'],['5'],['6']], [['1','0'],['2','0'],['3','0']]⟩] =
    ⟨[[['1'],['4']], [['2'],['5']], [['3'],['6']]], [[['7'],['1','0']], [['8'],['2','0']], [['9'],['3','0']]]⟩ := by decide +kernel

/-! ## subsetting by index list or mask (`__getitem__`) -/

/-- **integer selection** returns exactly the selected rows: one output row per index, the k-th
being the source row at the k-th index (negative indices counted from the end) -/
theorem subset_rows_idx {α : Type} (l : List α) (idx : List Int) (out : List α) (h : takeIdx l idx = .ok out) :
    out.length = idx.length ∧
    ∀ k (hk : k < idx.length), ∃ j, j < l.length ∧ out[k]? = l[j]? ∧
      ((0 ≤ idx[k] ∧ (j : Int) = idx[k]) ∨ (idx[k] < 0 ∧ (j : Int) = idx[k] + l.length)) := by
  obtain ⟨h1, h2⟩ := takeIdx_spec l idx out h
  refine ⟨h1, ?_⟩
  intro k hk
  obtain ⟨j, hj, hlt, ho⟩ := h2 k hk
  exact ⟨j, hlt, ho, (normIndex_spec _ _ _ hj).2⟩

/-- … and succeeds for every index list within `[-n, n)` -/
theorem subset_rows_idx_total {α : Type} (l : List α) (idx : List Int)
    (h : ∀ i ∈ idx, -(l.length : Int) ≤ i ∧ i < l.length) : ∃ out, takeIdx l idx = .ok out :=
  takeIdx_ok l idx h

/-- **boolean selection** returns exactly the rows whose mask entry is true, in source order -/
theorem subset_rows_mask {α : Type} (l : List α) (mask : List Bool) (h : mask.length = l.length) :
    takeMask l mask = .ok (((l.zip mask).filter (·.2)).map (·.1)) ∧ (maskSel l mask).Sublist l :=
  ⟨takeMask_spec l mask h, maskSel_sublist l mask⟩

/-- the four arrays stay aligned: row `k` of every array of the subset comes from the same source row -/
theorem subset_aligned {τ ρ σ δ : Type} (o o' : Orient τ ρ σ δ) (idx : List Int)
    (hr : o.rotations.length = o.translations.length) (hs : o.scores.length = o.translations.length)
    (hd : o.details.length = o.translations.length) (h : o.getIdx idx = .ok o') :
    ∀ k (hk : k < idx.length), ∃ j, j < o.translations.length ∧ o'.translations[k]? = o.translations[j]? ∧
      o'.rotations[k]? = o.rotations[j]? ∧ o'.scores[k]? = o.scores[j]? ∧ o'.details[k]? = o.details[j]? := by
  obtain ⟨h1, h2, h3, h4⟩ := Orient.getIdx_ok h
  intro k hk
  obtain ⟨j1, n1, l1, e1⟩ := (takeIdx_spec _ _ _ h1).2 k hk
  obtain ⟨j2, n2, _, e2⟩ := (takeIdx_spec _ _ _ h2).2 k hk
  obtain ⟨j3, n3, _, e3⟩ := (takeIdx_spec _ _ _ h3).2 k hk
  obtain ⟨j4, n4, _, e4⟩ := (takeIdx_spec _ _ _ h4).2 k hk
  rw [hr, n1] at n2; rw [hs, n1] at n3; rw [hd, n1] at n4
  cases n2; cases n3; cases n4
  exact ⟨j1, l1, e1, e2, e3, e4⟩

example : takeIdx [10, 20, 30, 40] [-1, 0, 2, 2] = .ok [40, 10, 30, 30] := by decide
example : takeIdx [10, 20, 30] [3] = .error .indexError := by decide
example : takeMask [10, 20, 30] [true, false, true] = .ok [10, 30] := by decide

/-! ## `get_extraction_slices` end to end: every pick, every axis, both `drop_out_of_box` settings -/

/-- **which entries are returned**: entry `(i, w)` is in the result exactly when pick `i` exists, passes the filter
(no filter without `drop_out_of_box`) and `w` is its list of per-axis windows -/
theorem extraction_entry_iff (T e : List Nat) (peaks : List (List Int)) (drop : Bool) (i : Nat)
    (w : List (Int × Int × Int × Int)) :
    (i, w) ∈ extraction T e peaks drop ↔
      ∃ p, peaks[i]? = some p ∧ (drop = false ∨ keepPick T e p = true) ∧ w = windowAxes T e p :=
  mem_extraction T e peaks drop i w

/-- **rows and slices stay together**: the positions returned are the ones numpy's `self[keep_peaks]` selects from
`0..n-1` (that selection succeeds: the mask has one entry per pick), the slices are those of the same picks in the
same order, and the positions are strictly increasing (source order, no pick twice) -/
theorem extraction_rows (T e : List Nat) (peaks : List (List Int)) (drop : Bool) :
    takeMask (List.range peaks.length) (keepMask T e peaks drop) = .ok ((extraction T e peaks drop).map (·.1)) ∧
    (extraction T e peaks drop).map (·.2) = (maskSel peaks (keepMask T e peaks drop)).map (windowAxes T e) ∧
    ((extraction T e peaks drop).map (·.1)).Pairwise (· < ·) := by
  obtain ⟨h1, h2⟩ := extraction_fst_snd T e peaks drop
  refine ⟨?_, h2, ?_⟩
  · rw [h1]; exact takeMask_ok _ _ (by simp [keepMask])
  · rw [h1]; exact List.Pairwise.sublist (maskSel_sublist _ _) List.pairwise_lt_range

/-- the orientation set returned next to the slices (`subset = self[keep_peaks]`): all four arrays are cut with the
same mask, so its `k`-th row belongs to the `k`-th pair of slices -/
theorem extraction_subset {τ ρ σ δ : Type} (o : Orient τ ρ σ δ) (T e : List Nat) (peaks : List (List Int)) (drop : Bool)
    (ht : o.translations.length = peaks.length) (hr : o.rotations.length = peaks.length)
    (hs : o.scores.length = peaks.length) (hd : o.details.length = peaks.length) :
    extractionSubset o T e peaks drop =
      .ok ⟨maskSel o.translations (keepMask T e peaks drop), maskSel o.rotations (keepMask T e peaks drop),
           maskSel o.scores (keepMask T e peaks drop), maskSel o.details (keepMask T e peaks drop)⟩ := by
  have hm : (keepMask T e peaks drop).length = peaks.length := by simp [keepMask]
  exact Orient.getMask_ok o _ (ht.trans hm.symm) (hr.trans hm.symm) (hs.trans hm.symm) (hd.trans hm.symm)

/-- the `k`-th row of the returned orientation set is the row of the pick the `k`-th pair of slices was computed for -/
theorem extraction_subset_aligned {τ ρ σ δ : Type} (o o' : Orient τ ρ σ δ) (T e : List Nat) (peaks : List (List Int))
    (drop : Bool) (ht : o.translations.length = peaks.length) (hr : o.rotations.length = peaks.length)
    (hs : o.scores.length = peaks.length) (hd : o.details.length = peaks.length)
    (h : extractionSubset o T e peaks drop = .ok o') (k i : Nat) (w : List (Int × Int × Int × Int))
    (hk : (extraction T e peaks drop)[k]? = some (i, w)) :
    i < peaks.length ∧ (∃ p, peaks[i]? = some p ∧ w = windowAxes T e p) ∧
    o'.translations[k]? = o.translations[i]? ∧ o'.rotations[k]? = o.rotations[i]? ∧
    o'.scores[k]? = o.scores[i]? ∧ o'.details[k]? = o.details[i]? := by
  have hm : (keepMask T e peaks drop).length = peaks.length := by simp [keepMask]
  have hi : (maskSel (List.range peaks.length) (keepMask T e peaks drop))[k]? = some i := by
    rw [← (extraction_fst_snd T e peaks drop).1]; simp [hk]
  obtain ⟨p, hp, _, hw⟩ := (mem_extraction T e peaks drop i w).mp (List.mem_of_getElem? hk)
  rw [extraction_subset o T e peaks drop ht hr hs hd] at h
  injection h with h
  subst h
  have sel : ∀ {α : Type} (l : List α), l.length = peaks.length →
      (maskSel l (keepMask T e peaks drop))[k]? = l[i]? :=
    fun l hl => maskSel_getElem?_of_range l _ (hl.trans hm.symm) k i (hl ▸ hi)
  exact ⟨(List.getElem?_eq_some_iff.mp hp).1, ⟨p, hp, hw⟩, sel _ ht, sel _ hr, sel _ hs, sel _ hd⟩
example : extractionSubset (⟨[10, 11, 12], [20, 21, 22], [30, 31, 32], [40, 41, 42]⟩ : Orient Nat Nat Nat Nat)
      [10] [4] [[5], [0], [8]] true = .ok ⟨[10, 12], [20, 22], [30, 32], [40, 42]⟩ ∧
    (extraction [10] [4] [[5], [0], [8]] true)[1]? = some (2, [(0, 4, 6, 10)]) := by decide +kernel

/-- **without `drop_out_of_box`** (the padding mode) nothing is filtered: one entry per pick, in order, and the
orientation set comes back unchanged -/
theorem extraction_no_drop {τ ρ σ δ : Type} (o : Orient τ ρ σ δ) (T e : List Nat) (peaks : List (List Int))
    (ht : o.translations.length = peaks.length) (hr : o.rotations.length = peaks.length)
    (hs : o.scores.length = peaks.length) (hd : o.details.length = peaks.length) :
    (extraction T e peaks false).map (·.1) = List.range peaks.length ∧
    (extraction T e peaks false).map (·.2) = peaks.map (windowAxes T e) ∧
    extractionSubset o T e peaks false = .ok o := by
  have hm : (keepMask T e peaks false).length = peaks.length := by simp [keepMask]
  have ha : ∀ b ∈ keepMask T e peaks false, b = true := by simp [keepMask]
  obtain ⟨h1, h2⟩ := extraction_fst_snd T e peaks false
  refine ⟨?_, ?_, ?_⟩
  · rw [h1, maskSel_all _ _ (by simp [keepMask]) ha]
  · rw [h2, maskSel_all _ _ hm ha]
  · rw [extraction_subset o T e peaks false ht hr hs hd,
      maskSel_all _ _ (hm.trans ht.symm) ha, maskSel_all _ _ (hm.trans hr.symm) ha,
      maskSel_all _ _ (hm.trans hs.symm) ha, maskSel_all _ _ (hm.trans hd.symm) ha]

/-- **every returned window, every axis, both settings**: the window of axis `k` of a returned entry is computed from
the `k`-th target extent, box extent and coordinate of that pick; candidate (destination) and observation (source)
slices have equal extents, the observation slice lies in `[0, T_k]`, the candidate slice in `[0, e_k]`, and both are
proper intervals when the coordinate lies in the target -/
theorem extraction_windows_spec (T e : List Nat) (peaks : List (List Int)) (drop : Bool) (i : Nat)
    (w : List (Int × Int × Int × Int)) (hw : (i, w) ∈ extraction T e peaks drop)
    (k : Nat) (wk : Int × Int × Int × Int) (hk : w[k]? = some wk) :
    ∃ p Tk ek pk, peaks[i]? = some p ∧ T[k]? = some Tk ∧ e[k]? = some ek ∧ p[k]? = some pk ∧
      wk = (candBeg ek pk, candEnd Tk ek pk, obsBeg ek pk, obsEnd Tk ek pk) ∧
      wk.2.1 - wk.1 = wk.2.2.2 - wk.2.2.1 ∧
      0 ≤ wk.2.2.1 ∧ wk.2.2.2 ≤ Tk ∧ 0 ≤ wk.1 ∧ wk.2.1 ≤ ek ∧
      (0 ≤ pk → pk ≤ Tk → wk.2.2.1 ≤ wk.2.2.2 ∧ wk.1 ≤ wk.2.1) := by
  obtain ⟨p, hp, _, rfl⟩ := (mem_extraction T e peaks drop i w).mp hw
  obtain ⟨Tk, ek, pk, hT, he, hpk, rfl⟩ := (windowAxes_getElem? T e p k wk).mp hk
  have a := window_extents_eq Tk ek pk
  have b := window_in_target Tk ek pk
  have c := window_in_box Tk ek pk
  exact ⟨p, Tk, ek, pk, hp, hT, he, hpk, rfl, a, b.1, b.2.1, c.1, c.2.1, fun h0 h1 => ⟨b.2.2 h0 h1, c.2.2 h0 h1⟩⟩

/-- one window per axis for every returned entry (extents and coordinates of equal rank) -/
theorem extraction_rank (T e : List Nat) (peaks : List (List Int)) (drop : Bool) (h1 : T.length = e.length)
    (h2 : ∀ p ∈ peaks, p.length = e.length) :
    ∀ iw ∈ extraction T e peaks drop, iw.2.length = T.length := by
  rintro ⟨i, w⟩ hw
  obtain ⟨p, hp, _, rfl⟩ := (mem_extraction T e peaks drop i w).mp hw
  have := h2 p (List.mem_of_getElem? hp)
  rw [windowAxes_length]
  omega

/-- **with `drop_out_of_box`**: on every axis of every returned entry the box `[p_k - ⌈e_k/2⌉, p_k + ⌊e_k/2⌋)` lies
inside the target, the observation slice is that box and the candidate slice is the whole `[0, e_k)` -/
theorem extraction_drop_spec (T e : List Nat) (peaks : List (List Int)) (i : Nat)
    (w : List (Int × Int × Int × Int)) (hw : (i, w) ∈ extraction T e peaks true)
    (k : Nat) (wk : Int × Int × Int × Int) (hk : w[k]? = some wk) :
    ∃ p Tk ek pk, peaks[i]? = some p ∧ T[k]? = some Tk ∧ e[k]? = some ek ∧ p[k]? = some pk ∧
      0 ≤ pk - leftPad ek ∧ pk + rightPad ek ≤ Tk ∧
      wk = (0, (ek : Int), pk - leftPad ek, pk + rightPad ek) := by
  obtain ⟨p, hp, hkeep, rfl⟩ := (mem_extraction T e peaks true i w).mp hw
  have hkeep : keepPick T e p = true := hkeep.resolve_left (by decide)
  obtain ⟨Tk, ek, pk, hT, he, hpk, rfl⟩ := (windowAxes_getElem? T e p k wk).mp hk
  have ha := (keepPick_iff_axes T e p).mp hkeep k Tk ek pk hT he hpk
  have hf := (keep_iff_fits Tk ek pk).mp ha
  obtain ⟨o0, o1, c0, c1⟩ := kept_window Tk ek pk ha
  refine ⟨p, Tk, ek, pk, hp, hT, he, hpk, by omega, hf.2, ?_⟩
  rw [c0, c1, o0, o1]

/-- **kept ⇔ the box lies in the target**: with `drop_out_of_box` pick `i` is returned exactly when on every axis its
box fits into the target; nothing else is dropped and nothing else is kept -/
theorem extraction_drop_iff (T e : List Nat) (peaks : List (List Int)) (i : Nat) :
    (∃ w, (i, w) ∈ extraction T e peaks true) ↔
      ∃ p, peaks[i]? = some p ∧
        ∀ (k : Nat) Tk ek pk, T[k]? = some Tk → e[k]? = some ek → p[k]? = some pk →
          leftPad ek ≤ pk ∧ pk + rightPad ek ≤ Tk := by
  constructor
  · rintro ⟨w, hw⟩
    obtain ⟨p, hp, hkeep, rfl⟩ := (mem_extraction T e peaks true i w).mp hw
    have hkeep : keepPick T e p = true := hkeep.resolve_left (by decide)
    refine ⟨p, hp, ?_⟩
    intro k Tk ek pk hT he hpk
    exact (keep_iff_fits Tk ek pk).mp ((keepPick_iff_axes T e p).mp hkeep k Tk ek pk hT he hpk)
  · rintro ⟨p, hp, h⟩
    refine ⟨windowAxes T e p, (mem_extraction T e peaks true i _).mpr ⟨p, hp, Or.inr ?_, rfl⟩⟩
    rw [keepPick_iff_axes]
    intro k Tk ek pk hT he hpk
    exact (keep_iff_fits Tk ek pk).mpr (h k Tk ek pk hT he hpk)

/-- the axis-wise reading of the n-D functions used above (no rank hypotheses: `zip` stops at the shortest list) -/
theorem windowAxes_axis (T e : List Nat) (p : List Int) (k : Nat) (w : Int × Int × Int × Int) :
    (windowAxes T e p)[k]? = some w ↔
      ∃ Tk ek pk, T[k]? = some Tk ∧ e[k]? = some ek ∧ p[k]? = some pk ∧
        w = (candBeg ek pk, candEnd Tk ek pk, obsBeg ek pk, obsEnd Tk ek pk) :=
  windowAxes_getElem? T e p k w

theorem keepPick_axes (T e : List Nat) (p : List Int) :
    keepPick T e p = true ↔
      ∀ (k : Nat) Tk ek pk, T[k]? = some Tk → e[k]? = some ek → p[k]? = some pk → keepAxis Tk ek pk = true :=
  keepPick_iff_axes T e p

/-- 2-D, four picks (interior, on the lower border, outside the target, on the upper border), even and odd box extents:
padding mode returns all four, `drop_out_of_box` exactly the interior one with full windows -/
example : extraction [10, 9] [4, 5] [[5, 5], [0, 4], [-3, 20], [9, 8]] false =
    [(0, [(0, 4, 3, 7), (0, 5, 2, 7)]), (1, [(2, 4, 0, 2), (0, 5, 1, 6)]),
     (2, [(5, 4, 0, -1), (0, -8, 17, 9)]), (3, [(0, 3, 7, 10), (0, 4, 5, 9)])] := by decide +kernel
example : extraction [10, 9] [4, 5] [[5, 5], [0, 4], [-3, 20], [9, 8]] true = [(0, [(0, 4, 3, 7), (0, 5, 2, 7)])] := by decide +kernel
example : keepMask [10, 9] [4, 5] [[5, 5], [0, 4], [-3, 20], [9, 8]] true = [true, false, false, false] := by decide +kernel
example : (0, [(0, 4, 3, 7), (0, 5, 2, 7)]) ∈ extraction [10, 9] [4, 5] [[5, 5], [0, 4]] true := by decide +kernel
/-- 3-D, box larger than the target on one axis: every pick is dropped; 0 picks: nothing to return -/
example : extraction [6, 6, 6] [3, 8, 2] [[3, 3, 3], [2, 4, 1]] true = [] ∧ extraction [6, 6] [3, 3] [] false = [] := by decide +kernel
example : extractionSubset (⟨[10, 11, 12], [20, 21, 22], [30, 31, 32], [40, 41, 42]⟩ : Orient Nat Nat Nat Nat)
    [10] [4] [[5], [0], [8]] true = .ok ⟨[10, 12], [20, 22], [30, 32], [40, 42]⟩ := by decide +kernel
example : (extraction [10, 9] [4, 5] [[5, 5], [0, 4], [5, 4]] true).map (·.1) = [0, 2] := by decide +kernel
/-- the rank hypotheses of `extraction_rank` on a 2-D case -/
example : [10, 9].length = [4, 5].length ∧ ∀ p ∈ [[5, 5], [0, 4], [5, 4]], p.length = [4, 5].length := by decide
/-- `extraction_drop_iff` read on a concrete pick: `[5, 4]` (position 2) fits on both axes, hence is returned -/
example : ∃ w, (2, w) ∈ extraction [10, 9] [4, 5] [[5, 5], [0, 4], [5, 4]] true := by
  rw [extraction_drop_iff]
  refine ⟨[5, 4], rfl, ?_⟩
  intro k Tk ek pk hT he hp
  match k, hT, he, hp with
  | 0, hT, he, hp => cases hT; cases he; cases hp; decide
  | 1, hT, he, hp => cases hT; cases he; cases hp; decide
  | k + 2, hT, _, _ => simp at hT

/-! ## from stored translations to picks (`self.translations.astype(int)`) -/

/-- **truncation towards zero**: for a finite coordinate `x = m·2^e` the pick is `x` itself when `x` is an integer
(`e ≥ 0`), otherwise the integer next to `x` in the direction of zero (`q = 2^(-e)`: `p·q ≤ m < (p+1)·q` for `x ≥ 0`,
`(p-1)·q < m ≤ p·q` for `x ≤ 0`) -/
theorem truncPick_spec (m e : Int) :
    (0 ≤ e → truncPick m e = m * 2 ^ e.toNat) ∧
    (e < 0 →
      (0 ≤ m → truncPick m e * 2 ^ (-e).toNat ≤ m ∧ m < (truncPick m e + 1) * 2 ^ (-e).toNat) ∧
      (m ≤ 0 → (truncPick m e - 1) * 2 ^ (-e).toNat < m ∧ m ≤ truncPick m e * 2 ^ (-e).toNat)) := by
  refine ⟨fun h => by simp [truncPick, h], ?_⟩
  intro he
  have hq : (0 : Int) < 2 ^ (-e).toNat := by positivity
  have hb := tdiv_bounds m (2 ^ (-e).toNat) hq
  have hd : truncPick m e = Int.tdiv m (2 ^ (-e).toNat) := by simp [truncPick, Int.not_le.mpr he]
  rw [hd]
  exact ⟨fun h => ⟨(hb.1 h).1, (hb.1 h).2.1⟩, fun h => ⟨(hb.2 h).1, (hb.2 h).2.1⟩⟩

/-- a coordinate inside the target (`0 ≤ x ≤ T`, any fractional part) gives a pick inside the target -/
theorem truncPick_in_target (T : Nat) (m e : Int) (h0 : 0 ≤ m)
    (hT : if 0 ≤ e then m * 2 ^ e.toNat ≤ T else m ≤ T * 2 ^ (-e).toNat) :
    0 ≤ truncPick m e ∧ truncPick m e ≤ T := by
  by_cases he : 0 ≤ e
  · rw [if_pos he] at hT
    have hq : (0 : Int) < 2 ^ e.toNat := by positivity
    simp only [truncPick, if_pos he]
    exact ⟨Int.mul_nonneg h0 (Int.le_of_lt hq), hT⟩
  · rw [if_neg he] at hT
    have hq : (0 : Int) < 2 ^ (-e).toNat := by positivity
    have hb := (tdiv_bounds m (2 ^ (-e).toNat) hq).1 h0
    simp only [truncPick, if_neg he]
    exact ⟨hb.2.2, Int.le_of_mul_le_mul_right (Int.le_trans hb.1 hT) hq⟩

/-- … so both of its windows are proper (possibly empty) intervals on that axis, whatever the box extent -/
theorem window_of_translation (T b : Nat) (m e : Int) (h0 : 0 ≤ m)
    (hT : if 0 ≤ e then m * 2 ^ e.toNat ≤ T else m ≤ T * 2 ^ (-e).toNat) :
    obsBeg b (truncPick m e) ≤ obsEnd T b (truncPick m e) ∧ candBeg b (truncPick m e) ≤ candEnd T b (truncPick m e) := by
  obtain ⟨h1, h2⟩ := truncPick_in_target T m e h0 hT
  exact ⟨(window_in_target T b _).2.2 h1 h2, (window_in_box T b _).2.2 h1 h2⟩

/-- 2.75 = 11·2⁻², -2.75, 12 = 3·2², -0.5: picks 2, -2, 12, 0 -/
example : truncPeaks [[(11, -2), (-11, -2)], [(3, 2), (-1, -1)]] = [[2, -2], [12, 0]] := by decide
example : (if (0 : Int) ≤ -2 then (11 : Int) * 2 ^ (-2 : Int).toNat ≤ (3 : Nat) else (11 : Int) ≤ (3 : Nat) * 2 ^ (-(-2 : Int)).toNat) := by decide

/-! ## `copy`, `__iter__` -/

/-- `copy()` (= `self[np.arange(n)]`) succeeds and returns every row of all four arrays, in order -/
theorem copy_identity {τ ρ σ δ : Type} (o : Orient τ ρ σ δ)
    (ht : o.translations.length = o.scores.length) (hr : o.rotations.length = o.scores.length)
    (hd : o.details.length = o.scores.length) : o.copy = .ok o := by
  unfold Orient.copy Orient.getIdx
  have h1 := takeIdx_arange o.translations
  have h2 := takeIdx_arange o.rotations
  have h3 := takeIdx_arange o.scores
  have h4 := takeIdx_arange o.details
  rw [ht] at h1; rw [hr] at h2; rw [hd] at h4
  rw [h1, h2, h3, h4]
  rfl

/-- selecting `0, 1, …, n-1` from any array of length `n` is the identity -/
theorem subset_arange {α : Type} (l : List α) : takeIdx l (arange l.length) = .ok l := takeIdx_arange l

/-- iteration yields one tuple per orientation, the `k`-th made of the `k`-th entries of the four arrays -/
theorem iter_rows {τ ρ σ δ : Type} (o : Orient τ ρ σ δ)
    (hr : o.rotations.length = o.translations.length) (hs : o.scores.length = o.translations.length)
    (hd : o.details.length = o.translations.length) :
    o.iterRows.length = o.translations.length ∧
    ∀ k (hk : k < o.translations.length),
      o.iterRows[k]? = some (o.translations[k], o.rotations[k]'(hr ▸ hk), o.scores[k]'(hs ▸ hk), o.details[k]'(hd ▸ hk)) := by
  have hlen : o.iterRows.length = o.translations.length := by
    simp only [Orient.iterRows, List.length_zip, hr, hs, hd, Nat.min_self]
  refine ⟨hlen, fun k hk => ?_⟩
  rw [List.getElem?_eq_getElem (hlen ▸ hk)]
  simp only [Orient.iterRows, List.getElem_zip]

example : (⟨[1, 2, 3], [4, 5, 6], [7, 8, 9], [0, 0, 1]⟩ : Orient Nat Nat Nat Nat).copy = .ok ⟨[1, 2, 3], [4, 5, 6], [7, 8, 9], [0, 0, 1]⟩ := by
  decide
example : (⟨[1, 2], [4, 5], [7, 8], [0, 1]⟩ : Orient Nat Nat Nat Nat).iterRows = [(1, 4, 7, 0), (2, 5, 8, 1)] := by decide
example : takeIdx ['a', 'b', 'c'] (arange 3) = .ok ['a', 'b', 'c'] := by decide

/-! ## constructor validation (`__post_init__`), and why `__getitem__` / `copy` never trip it -/

/-- **accepted shapes**: the constructor accepts exactly the sets whose four arrays have at least one axis and the same
number of rows, with 2-D translations and 2-D rotations (the rank of scores / details beyond the first axis is not
examined by the code) -/
theorem postInit_ok_iff (t r s d : List Nat) :
    postInit t r s d = .ok () ↔
      ∃ n dt dr ss ds, t = [n, dt] ∧ r = [n, dr] ∧ s = n :: ss ∧ d = n :: ds := by
  constructor
  · intro h
    fun_cases postInit t r s d with
    | case1 nt t' nr r' ns s' nd d' h1 => rw [postInit, if_pos h1] at h; cases h
    | case2 nt t' nr r' ns s' nd d' h1 h2 => rw [postInit, if_neg h1, if_pos h2] at h; cases h
    | case3 nt t' nr r' ns s' nd d' h1 h2 h3 => rw [postInit, if_neg h1, if_neg h2, if_pos h3] at h; cases h
    | case4 nt t' nr r' ns s' nd d' h1 h2 h3 =>
      simp at h1 h2 h3
      obtain ⟨⟨rfl, rfl⟩, rfl⟩ := h1
      obtain ⟨dt, rfl⟩ := List.length_eq_one_iff.mp h2
      obtain ⟨dr, rfl⟩ := List.length_eq_one_iff.mp h3
      exact ⟨_, dt, dr, s', d', rfl, rfl, rfl, rfl⟩
    | case5 t r s d hh =>
      unfold postInit at h
      split at h
      · exact (hh _ _ _ _ _ _ _ _ rfl rfl rfl rfl).elim
      · cases h
  · rintro ⟨n, dt, dr, ss, ds, rfl, rfl, rfl, rfl⟩
    simp [postInit, pure, Except.pure]

/-- **which error**: a 0-d array among the four is an `IndexError` (whatever the others are); otherwise every
rejected set is a `ValueError` -/
theorem postInit_error_kind (t r s d : List Nat) :
    ((t = [] ∨ r = [] ∨ s = [] ∨ d = []) → postInit t r s d = .error .indexError) ∧
    (t ≠ [] → r ≠ [] → s ≠ [] → d ≠ [] → postInit t r s d = .ok () ∨ postInit t r s d = .error .valueError) := by
  constructor
  · intro h
    unfold postInit
    split
    · simp at h
    · rfl
  · intro ht hr hs hd
    fun_cases postInit t r s d with
    | case1 nt t' nr r' ns s' nd d' h1 => exact Or.inr rfl
    | case2 nt t' nr r' ns s' nd d' h1 h2 => rw [if_pos h2]; exact Or.inr rfl
    | case3 nt t' nr r' ns s' nd d' h1 h2 h3 => rw [if_neg h2, if_pos h3]; exact Or.inr rfl
    | case4 nt t' nr r' ns s' nd d' h1 h2 h3 => rw [if_neg h2, if_neg h3]; exact Or.inl rfl
    | case5 t r s d hh =>
      obtain ⟨a, t, rfl⟩ := List.exists_cons_of_ne_nil ht
      obtain ⟨b, r, rfl⟩ := List.exists_cons_of_ne_nil hr
      obtain ⟨c, s, rfl⟩ := List.exists_cons_of_ne_nil hs
      obtain ⟨e, d, rfl⟩ := List.exists_cons_of_ne_nil hd
      exact (hh _ _ _ _ _ _ _ _ rfl rfl rfl rfl).elim

/-- **`__getitem__` re-validates and passes**: whatever integer selection succeeds on a validated set, the four
selected arrays all have one row per index, hence `self.__class__(**kwargs)` accepts them (`dt`, `dr` = column counts) -/
theorem getitem_idx_valid {τ ρ σ δ : Type} (o o' : Orient τ ρ σ δ) (idx : List Int) (dt dr : Nat)
    (h : o.getIdx idx = .ok o') :
    o'.translations.length = idx.length ∧ o'.rotations.length = idx.length ∧ o'.scores.length = idx.length ∧
    o'.details.length = idx.length ∧
    postInit [o'.translations.length, dt] [o'.rotations.length, dr] [o'.scores.length] [o'.details.length] = .ok () := by
  obtain ⟨h1, h2, h3, h4⟩ := Orient.getIdx_ok h
  have l1 := (takeIdx_spec _ _ _ h1).1
  have l2 := (takeIdx_spec _ _ _ h2).1
  have l3 := (takeIdx_spec _ _ _ h3).1
  have l4 := (takeIdx_spec _ _ _ h4).1
  refine ⟨l1, l2, l3, l4, ?_⟩
  rw [l1, l2, l3, l4]
  exact (postInit_ok_iff _ _ _ _).mpr ⟨_, _, _, _, _, rfl, rfl, rfl, rfl⟩

/-- the same for a boolean selection of a validated set (one mask entry per row): every array keeps one row per
true entry, so the new set is accepted -/
theorem getitem_mask_valid {τ ρ σ δ : Type} (o : Orient τ ρ σ δ) (m : List Bool) (dt dr : Nat)
    (ht : o.translations.length = m.length) (hr : o.rotations.length = m.length)
    (hs : o.scores.length = m.length) (hd : o.details.length = m.length) :
    ∃ o', o.getMask m = .ok o' ∧
      o'.translations.length = (m.filter id).length ∧ o'.rotations.length = (m.filter id).length ∧
      o'.scores.length = (m.filter id).length ∧ o'.details.length = (m.filter id).length ∧
      postInit [o'.translations.length, dt] [o'.rotations.length, dr] [o'.scores.length] [o'.details.length] = .ok () := by
  have len : ∀ {α : Type} (l : List α), l.length = m.length → (maskSel l m).length = (m.filter id).length :=
    fun l h => maskSel_length l m h
  refine ⟨⟨maskSel o.translations m, maskSel o.rotations m, maskSel o.scores m, maskSel o.details m⟩, ?_,
    len _ ht, len _ hr, len _ hs, len _ hd, ?_⟩
  · exact Orient.getMask_ok o m ht hr hs hd
  · simp only [len _ ht, len _ hr, len _ hs, len _ hd]
    exact (postInit_ok_iff _ _ _ _).mpr ⟨_, _, _, _, _, rfl, rfl, rfl, rfl⟩

example : postInit [4, 3] [4, 3] [4] [4] = .ok () ∧ postInit [0, 2] [0, 1] [0] [0] = .ok () ∧
    postInit [4, 3] [4, 3] [4, 7] [4] = .ok () := by decide
example : postInit [4, 3] [4, 3] [5] [4] = .error .valueError ∧ postInit [4] [4, 3] [4] [4] = .error .valueError ∧
    postInit [4, 3] [4, 3, 1] [4] [4] = .error .valueError ∧ postInit [4, 3] [4, 3] [] [4] = .error .indexError ∧
    postInit [] [5] [6] [7] = .error .indexError := by decide
example : (⟨[1, 2, 3], [4, 5, 6], [7, 8, 9], [0, 0, 1]⟩ : Orient Nat Nat Nat Nat).getIdx [-1, 0, 0, 2] =
    .ok ⟨[3, 1, 1, 3], [6, 4, 4, 6], [9, 7, 7, 9], [1, 0, 0, 1]⟩ := by decide
example : (⟨[1, 2, 3], [4, 5, 6], [7, 8, 9], [0, 0, 1]⟩ : Orient Nat Nat Nat Nat).getMask [true, false, true] =
    .ok ⟨[1, 3], [4, 6], [7, 9], [0, 1]⟩ := by decide

/-! ## format dispatch (`to_file(filename, file_format)` / `from_file(filename, file_format)`) -/

/-- with no format given, reading infers exactly the format that writing inferred, for every file name -/
theorem dispatch_inferred_same (f : Str) : readFmt f none = writeFmt f none := rfl

/-- each documented format name selects the same, existing, format on both sides, whatever the file name -/
theorem dispatch_named_same (f nm : Str) (h : nm = nmText ∨ nm = nmRelion ∨ nm = nmDynamo) :
    readFmt f (some nm) = writeFmt f (some nm) ∧ ∃ fmt, writeFmt f (some nm) = .ok fmt := by
  rcases h with rfl | rfl | rfl
  · exact ⟨rfl, _, rfl⟩
  · exact ⟨rfl, _, rfl⟩
  · exact ⟨rfl, _, rfl⟩

/-- the inference looks at the end of the lower-cased name only: any spelling of `.star` at the end
of any name selects RELION … -/
theorem infer_star (stem suf : Str) (h : lower suf = extStar) : inferFmt (stem ++ suf) = .relion := by
  unfold lower at h
  simp [inferFmt, endsWith, lower, List.map_append, h, extStar, List.isPrefixOf]

/-- … any spelling of `.tbl` Dynamo (such a name does not end in `.star`) … -/
theorem infer_tbl (stem suf : Str) (h : lower suf = extTbl) : inferFmt (stem ++ suf) = .dynamo := by
  unfold lower at h
  simp [inferFmt, endsWith, lower, List.map_append, h, extStar, extTbl, List.isPrefixOf]

/-- … and a name that merely *contains* them is a text file -/
theorem infer_text_examples :
    inferFmt "a.star.txt".toList = .text ∧ inferFmt "a.tbl.bak".toList = .text ∧ inferFmt "star".toList = .text ∧
    inferFmt "x.TBL".toList = .dynamo ∧ inferFmt "a.tbl.Star".toList = .relion ∧ inferFmt "a.star.tbl".toList = .dynamo := by
  decide +kernel

/-- `from_file` before `fix: from_file accepts the documented format name "dynamo"`: a table written
with `file_format="dynamo"` could not be read back under the same name -/
theorem dispatch_dynamo_name_old_defect :
    writeFmt [] (some nmDynamo) = .ok .dynamo ∧ readFmtOld [] (some nmDynamo) = .error .valueError ∧
    readFmt [] (some nmDynamo) = .ok .dynamo := by decide

example : lower ".StAr".toList = extStar := by decide
example : writeFmt "p.tbl".toList (some nmTbl) = .error .valueError ∧ readFmt "p.tbl".toList (some nmTbl) = .ok .dynamo := by decide

/-! ## extraction windows: clipping amounts, centre picks, monotonicity, translates, counts -/

/-- the two pads make up the box extent: `⌈e/2⌉ + ⌊e/2⌋ = e` -/
theorem pads_sum (e : Nat) : leftPad e + rightPad e = e :=
  (pads e).2.2.2

/-- source extent + amount clipped at the lower face + amount clipped at the upper face = box extent -/
theorem window_clip_sum (T e : Nat) (p : Int) :
    (obsEnd T e p - obsBeg e p) + (obsBeg e p - (p - leftPad e)) + ((p + rightPad e) - obsEnd T e p) = e := by
  have := pads e
  unfold obsBeg obsEnd; omega

/-- the destination offsets are exactly the clipped amounts: `cand_beg` is what was cut at the lower face,
`e - cand_end` what was cut at the upper face (both non-negative) -/
theorem cand_is_clip (T e : Nat) (p : Int) :
    candBeg e p = obsBeg e p - (p - leftPad e) ∧ (e : Int) - candEnd T e p = (p + rightPad e) - obsEnd T e p ∧
    0 ≤ obsBeg e p - (p - leftPad e) ∧ 0 ≤ (p + rightPad e) - obsEnd T e p := by
  have := pads e
  unfold candBeg candEnd obsBeg obsEnd; omega

/-- a pick at the (upper) centre `⌈T/2⌉` of the target is full-size whenever the box is not larger than the target -/
theorem centre_kept (T e : Nat) (h : e ≤ T) : keepAxis T e ((T - T / 2 : Nat) : Int) = true := by
  rw [keep_iff_fits]
  have := pads e
  omega

/-- … and so is the pick at the lower centre `⌊T/2⌋` when the box is strictly smaller -/
theorem centre_floor_kept (T e : Nat) (h : e < T) : keepAxis T e ((T / 2 : Nat) : Int) = true := by
  rw [keep_iff_fits]
  have := pads e
  omega

/-- a box larger than the target never fits: every pick is dropped on that axis -/
theorem box_too_large_dropped (T e : Nat) (p : Int) (h : T < e) : keepAxis T e p = false := by
  have hf := keep_iff_fits T e p
  have := pads e
  cases hk : keepAxis T e p with
  | false => rfl
  | true => rw [hk] at hf; simp only [true_iff] at hf; omega

/-- **monotone in the box size** (one axis): a pick kept for a box is kept for every smaller box -/
theorem keepAxis_mono (T e e' : Nat) (p : Int) (he : e ≤ e') (h : keepAxis T e' p = true) :
    keepAxis T e p = true := by
  rw [keep_iff_fits] at *
  have := pads e
  have := pads e'
  omega

/-- … and **monotone in the target size**: it stays kept when the target grows -/
theorem keepAxis_mono_target (T T' e : Nat) (p : Int) (hT : T ≤ T') (h : keepAxis T e p = true) :
    keepAxis T' e p = true := by
  rw [keep_iff_fits] at *; omega

/-- **translates**: two full-size picks differing by `t` have source windows that are translates by `t`
and identical destination windows -/
theorem window_translate (T e : Nat) (p t : Int) (h1 : keepAxis T e p = true) (h2 : keepAxis T e (p + t) = true) :
    obsBeg e (p + t) = obsBeg e p + t ∧ obsEnd T e (p + t) = obsEnd T e p + t ∧
    candBeg e (p + t) = candBeg e p ∧ candEnd T e (p + t) = candEnd T e p := by
  obtain ⟨a0, a1, a2, a3⟩ := kept_window T e p h1
  obtain ⟨b0, b1, b2, b3⟩ := kept_window T e (p + t) h2
  rw [a0, a1, a2, a3, b0, b1, b2, b3]
  omega

example : keepAxis 10 4 3 = true ∧ keepAxis 10 4 (3 + 5) = true ∧ keepAxis 10 4 ((10 - 10 / 2 : Nat) : Int) = true := by decide

/-- never more windows than picks, and without `drop_out_of_box` exactly one per pick -/
theorem extraction_count (T e : List Nat) (peaks : List (List Int)) (drop : Bool) :
    (extraction T e peaks drop).length ≤ peaks.length ∧ (extraction T e peaks false).length = peaks.length := by
  have hlen := fun drop => congrArg List.length (extraction_fst_snd T e peaks drop).1
  simp only [List.length_map] at hlen
  constructor
  · rw [hlen]
    exact (maskSel_sublist _ _).length_le.trans (by simp)
  · rw [hlen, maskSel_all _ _ (by simp [keepMask]) (by simp [keepMask])]
    simp

/-- everything returned with `drop_out_of_box` is also returned without it (same position, same windows) -/
theorem extraction_drop_subset (T e : List Nat) (peaks : List (List Int)) (i : Nat) (w : List (Int × Int × Int × Int))
    (h : (i, w) ∈ extraction T e peaks true) : (i, w) ∈ extraction T e peaks false := by
  rw [extraction_entry_iff] at *
  obtain ⟨p, hp, _, hw⟩ := h
  exact ⟨p, hp, Or.inl rfl, hw⟩

/-- **monotone in the box size** (all axes): a pick kept for boxes `e'` is kept for boxes `e ≤ e'` axis by axis -/
theorem keepPick_mono (T e e' : List Nat) (p : List Int) (he : List.Forall₂ (· ≤ ·) e e')
    (h : keepPick T e' p = true) : keepPick T e p = true := by
  fun_induction keepPick T e p generalizing e' with
  | case1 T Ts e es p ps ih =>
    cases he with
    | cons hab hrest =>
      simp only [keepPick, Bool.and_eq_true] at h ⊢
      exact ⟨keepAxis_mono _ _ _ _ hab h.1, ih _ hrest h.2⟩
  | case2 T e p _ => rfl

example : List.Forall₂ (· ≤ ·) [2, 3] [4, 3] ∧ keepPick [10, 10] [4, 3] [5, 5] = true := by
  refine ⟨?_, by decide⟩
  exact .cons (by decide) (.cons (by decide) .nil)

/-- **the kept set is monotone in the box size**: every pick returned under `drop_out_of_box` for boxes `e'` is also
returned for boxes `e ≤ e'` (axis by axis) -/
theorem extraction_mono_box (T e e' : List Nat) (peaks : List (List Int)) (i : Nat)
    (he : List.Forall₂ (· ≤ ·) e e') (h : ∃ w, (i, w) ∈ extraction T e' peaks true) :
    ∃ w, (i, w) ∈ extraction T e peaks true := by
  obtain ⟨w, hw⟩ := h
  rw [extraction_entry_iff] at hw
  obtain ⟨p, hp, hk, _⟩ := hw
  refine ⟨windowAxes T e p, ?_⟩
  rw [extraction_entry_iff]
  refine ⟨p, hp, Or.inr ?_, rfl⟩
  cases hk with
  | inl h => cases h
  | inr h => exact keepPick_mono T e e' p he h

/-! ## subsetting: empty and composed selections, per-row maps, concatenation, wrap-around, round trip of a subset -/

/-- the subset has as many rows as the index list is long, and the empty index list selects nothing -/
theorem subset_empty {α : Type} (l : List α) : takeIdx l [] = .ok [] := rfl

/-- **axis-order reversal** (zyx ↔ xyz, used by the STAR and Dynamo writers) is an involution in any dimension
and keeps the number of coordinates -/
theorem axis_reversal_involution (trans : List Str) :
    trans.reverse.reverse = trans ∧ trans.reverse.length = trans.length := by
  simp

/-- **subsetting composes** (`a[i1][i2] = a[i1[i2]]`): selecting by `idx1` and then by `idx2` is selecting once by the
composed index list `idx1[idx2]` (negative indices included; errors agree as well) -/
theorem subset_compose {α : Type} (l : List α) (idx1 idx2 : List Int) (l1 : List α) (idx12 : List Int)
    (h1 : takeIdx l idx1 = .ok l1) (h2 : takeIdx idx1 idx2 = .ok idx12) :
    takeIdx l1 idx2 = takeIdx l idx12 := by
  obtain ⟨hl, hk⟩ := takeIdx_spec l idx1 l1 h1
  induction idx2 generalizing idx12 with
  | nil => cases h2; rfl
  | cons i is ih =>
    obtain ⟨j, rest, hn, hj, hr, rfl⟩ := takeIdx_cons_ok h2
    -- row `j` of the first selection is the source row at the (wrapped) index `idx1[j]`
    obtain ⟨j', hn', hj', ho⟩ := hk j hj
    have hjl : j < l1.length := hl ▸ hj
    rw [List.getElem?_eq_getElem hjl, List.getElem?_eq_getElem hj'] at ho
    injection ho with ho
    rw [takeIdx_cons, takeIdx_cons, hl, hn, hn', ih rest hr]
    simp only [bind, Except.bind, List.getElem?_eq_getElem hjl, List.getElem?_eq_getElem hj', ho]

example : takeIdx ['a','b','c'] [2, -3] = .ok ['c','a'] ∧ takeIdx ([2, -3] : List Int) [-1] = .ok [-3] ∧
    takeIdx ['c','a'] [-1] = takeIdx ['a','b','c'] [-3] := by decide

/-- **subsetting is row-wise**: it commutes with any per-row map — in particular with writing the rows and reading them
back (`Table.ofRows` maps each field out of the rows), so subset-then-round-trip = round-trip-then-subset -/
theorem subset_map {α β : Type} (f : α → β) (l : List α) (idx : List Int) :
    takeIdx (l.map f) idx = (takeIdx l idx).map (List.map f) := by
  induction idx with
  | nil => rfl
  | cons i is ih =>
    rw [takeIdx_cons, takeIdx_cons, ih, List.length_map]
    cases normIndex l.length i with
    | error e => rfl
    | ok k =>
      simp only [bind, Except.bind, List.getElem?_map]
      cases l[k]? with
      | none => rfl
      | some x => cases takeIdx l is <;> rfl

/-- selecting by a concatenated index list concatenates the selections -/
theorem subset_append {α : Type} (l : List α) (a b : List Int) (x y : List α)
    (ha : takeIdx l a = .ok x) (hb : takeIdx l b = .ok y) : takeIdx l (a ++ b) = .ok (x ++ y) := by
  induction a generalizing x with
  | nil => cases ha; exact hb
  | cons i is ih =>
    obtain ⟨j, rest, hn, hj, hr, rfl⟩ := takeIdx_cons_ok ha
    exact takeIdx_cons_of hn hj (ih rest hr)

example : takeIdx [10, 20, 30] [0, -1] = .ok [10, 30] ∧ takeIdx [10, 20, 30] [1] = .ok [20] := by decide

/-- a negative index `i - n` selects the same row as `i` (numpy wrap-around) -/
theorem index_wrap (n : Nat) (i : Int) (h0 : 0 ≤ i) (h1 : i < n) : normIndex n (i - n) = normIndex n i := by
  have hl : normIndex n (i - n) = .ok i.toNat := by
    unfold normIndex
    rw [if_neg (by omega), if_pos (by omega)]
    have : i - n + n = i := by omega
    rw [this]; rfl
  have hr : normIndex n i = .ok i.toNat := by
    unfold normIndex
    rw [if_pos ⟨h0, h1⟩]; rfl
  rw [hl, hr]

example : normIndex 5 (2 - 5) = .ok 2 := by decide

theorem subset_mem {α : Type} (l : List α) (idx : List Int) (out : List α) (h : takeIdx l idx = .ok out) :
    ∀ x ∈ out, x ∈ l := by
  intro x hm
  obtain ⟨k, hk, rfl⟩ := List.mem_iff_getElem.mp hm
  obtain ⟨hlen, hsp⟩ := subset_rows_idx l idx out h
  obtain ⟨j, hj, ho, _⟩ := hsp k (by omega)
  rw [List.getElem?_eq_getElem hk, List.getElem?_eq_getElem hj] at ho
  injection ho with ho
  rw [ho]; exact List.getElem_mem hj

/-- **subsetting commutes with the text round trip**: writing a subset and reading it back gives, array by array,
the same as subsetting (with the same indices) what is read back from the full file -/
theorem text_subset_commutes (d r : Nat) (hd : d ≤ 26) (hr1 : 1 ≤ r) (hr : r ≤ 26) (rows rows' : List Row)
    (idx : List Int) (h : ∀ row ∈ rows, RowWf d r row) (hs : takeIdx rows idx = .ok rows') :
    ∃ t t', readText (writeText d r rows) = .ok t ∧ readText (writeText d r rows') = .ok t' ∧
      takeIdx t.trans idx = .ok t'.trans ∧ takeIdx t.rot idx = .ok t'.rot ∧
      takeIdx t.score idx = .ok t'.score ∧ takeIdx t.detail idx = .ok t'.detail := by
  have h' : ∀ row ∈ rows', RowWf d r row := fun row hm => h row (subset_mem rows idx rows' hs row hm)
  refine ⟨_, _, text_roundtrip d r hd hr1 hr rows h, text_roundtrip d r hd hr1 hr rows' h', ?_, ?_, ?_, ?_⟩ <;>
  · simp only [Table.ofRows]
    rw [subset_map, hs]; rfl

end Pm.C11
