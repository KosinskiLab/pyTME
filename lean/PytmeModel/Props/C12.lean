import PytmeModel.Model.C12
import PytmeModel.Proofs.C12
import PytmeModel.Proofs.C12b
import Mathlib.Data.List.Nodup

/-! # C12 — Fourier filters: consistent shapes, symmetric, bounded, stateless, composable

Clauses of the property and the theorems that carry them (all for every shape / argument / history; `a_b/c` stands
for `a_b`, `a_c`; helper lemmas are not listed):

* shape asked for ............ `radialMask_shape`, `bandpass_shape_full/half/rfshape`, `whiten_shape`,
                               `contWedge_shape`, `cropShape_snoc`
* half = part of full ........ `half_is_part_of_full`, `contWedge_half_is_part_of_full`, `rfshape_eq_crop`
* negation symmetry .......... `freq_neg_symm`, `shifted_grid_is_freqIndex`, `radialMask_neg_symm`, `bandpass_neg_symm`,
                               `whiten_reflect_symm`, `contWedge_neg_symm_offNyquist`
                               (+ `contWedge_nyquist_current_defect`); stacks (`batch_dimension`):
                               `whitenShiftAxes_mem`, `whitenShiftAxes_none`
                               (+ `whitenShiftAxesOld_current_defect_first/last`)
* range ...................... `discrete_in_01`, `bandpass_discrete_in_01`, `contWedge_in_01`
* zero frequency ............. `dc_kept_lowpass`, `dc_removed_highpass`
* composition = product ...... `compose_eq_product`, `product_perm`
* statelessness .............. `call_state_unchanged`, `call_effective`, `runCalls_copy`,
                               `history_independent` (+ `callLeaky_current_defect`)

The same clauses for the decision logic of the individual filters:

* generic radial masks ........ `radialMask_eq_ax`, `radialMaskAx_shape/getD/half_is_part_of_full/neg_symm`; the
                               non-astigmatic `CTF` of one image (`radialMaskOne_shape`,
                               `radialMaskOne_half_is_part_of_full`, `radialMaskOne_neg_symm`: even in every
                               frequency component); `CTF` layout: `ctfPlan_single`, `ctfPlan_mismatch`, `ctfPlan_stack`
* whitening bins .............. `nBins_le_maxBins`, `nBins_le_requested`, `maxBins_pos`, `maxBins_covers_axes`,
                               `bin_unique` (each voxel in exactly one radial average, or none beyond the last bin),
                               `binsArr_shape/getD`, `binOfVoxel_eq_bins`, `binOfVoxel_neg_symm`, `binOfVoxel_dc`;
                               `order=None` mask: `whitenNone_shape/getD/value_mem/reflect_symm`
* per-tilt (step) wedge ....... `planeShape_odd`, `planeShape_crop_start`, `planeRow_lt`, `transpose2_getD`,
                               `tilePlane_shape/getD/const_off_axes`, `stepVolume_getD`
* tail of WedgeReconstructed .. `wedgeTail_shape`, `wedgeTail_half_is_part_of_full`, `wedgeTail_getD`,
                               `wedgeTail_in_01`, `wedgeTail_weighted_values`, `wedgeTail_neg_symm`,
                               `stepWedge_neg_symm_off_axes`; `wedgeTail_dc`, `wedgeTail_dc_kept` (zero frequency = centre of the
                               centred volume), `contWedge_eq_tail` (the fused continuous-wedge model
                               `contWedge` is the tail applied to `continuous_wedge`), `contWedge_dc_kept`
* tilt-series `Wedge` ......... `wedgeWeightFunc_isSome`, `tiltShape_length`, `wedgeStackShape_eq`,
                               `tiltPlaneZero_shape/values/neg_symm`, `tiltPlaneZero_eq_fn`,
                               `tiltPlaneFn_shape/values/neg_symm` (any radial weighting: relion, grigorieff)
* pass band is a radial band .. `discreteVal_one_iff`, `discrete_band`, `discrete_lowpass_ball` (`le` transitive)
* zero frequency, Gaussian .... `dc_kept_gaussian_lowpass`, `dc_removed_gaussian_highpass`; hard edge closed form
                               `bandpass_discrete_getD`
* tilted planes ............... `linForm_neg`, `tiltedRadial_neg`, `tiltedPlane_shape`, `tiltedPlane_neg_symm_offNyquist`
                               (any rotation matrix and radial weighting; `LinLaws`: negation laws up to the sign of zero)
* range (exact rationals) ..... `wedgeTail_weighted_range_rat`, `fmin_le_rat`, `tiltPlaneFn_range_rat`, `tiltedPlane_range_rat`,
                               `relion_bound_rat`, `grigorieff_exponent_rat`, `cut_range_rat`
* reconstruction filters ...... `recFilterKind_isSome`, `recFilterRadial_shape/getD/neg_symm/centre`,
                               `recFilterRamp_shape/getD/const_along_opening`, `recFilterRamp_le_one_rat`
* stacks, weights, index lemmas `binShape_length`, `stepWeightsFromCos_iff`; `axesOne_cons`, `ks_neg`, `tiltK_neg`, `srcIdx_zeros`, `shiftSrc_zero`
* `Wedge.__call__` angles ..... `wedgeCallPlan_no_override`, `wedgeCallPlan_raises_iff` (+ `wedgeCallPlan_override_current_defect`)
* metadata through `Compose` .. `compose_keeps_unemitted_key`, `compose_overrides_emitted_key`, `rrf_never_emitted`,
                               `shape_emitted_iff`, `multFlag_iff`, `readsSirf_iff`; `bandpass_after_wedge`, `whiten_after_wedge`
                               (a filter that follows a reconstructed wedge returns its stand-alone half-spectrum mask)
* per-axis index facts ........ `negPos_involutive`, `negPos_zero`, `negPos_fixed_iff`, `freqIndex_range`, `freqIndex_injective`,
                               `freqIndex_half_natAbs`, `halfLen_bounds`, `fourierShape_length`
* algebra of the product ...... `product_ones_identity`, `product_append`, `product_symm`
-/
namespace Pm.C12

theorem cropShape_snoc (init : List Nat) (n : Nat) : cropShape (init ++ [n]) = init ++ [n / 2 + 1] := by
  induction init with
  | nil => rfl
  | cons a as ih =>
    have hne : (as ++ [n]).isEmpty = false := by cases as <;> rfl
    simp only [List.cons_append, cropShape, hne, Bool.false_eq_true, if_false, ih]

section
variable {α : Type} (o : Ops α)

theorem radialMask_eq_ax (shape : List Nat) (sirf rrf : Bool) (val : α → α) :
    radialMask o shape sirf rrf val = radialMaskAx o shape (axesHalf shape sirf) (rrf && !sirf) val := rfl

theorem radialMaskAx_shape (shape : List Nat) (axs : List Ax) (crop : Bool) (val : α → α) :
    (radialMaskAx o shape axs crop val).shape = if crop then cropShape shape else shape := by
  cases crop <;> rfl

theorem radialMaskAx_getD (shape : List Nat) (axs : List Ax) (val : α → α) (idx : List Nat) (d : α)
    (hn : axs.map Ax.n = shape) (h : inShape shape idx = true) :
    (radialMaskAx o shape axs false val).getD idx d = val (radial o axs (srcIdx axs idx)) :=
  centredMask_getD o _ d hn h

theorem radialMaskAx_half_is_part_of_full (shape : List Nat) (axs : List Ax) (val : α → α) (idx : List Nat) (d : α)
    (h : inShape (cropShape shape) idx = true) :
    (radialMaskAx o shape axs true val).getD idx d = (radialMaskAx o shape axs false val).getD idx o.zero :=
  centredMask_half o shape axs _ idx d h

theorem radialMaskAx_neg_symm (L : SignLaws o) (shape : List Nat) (axs : List Ax) (val : α → α)
    (flags : List Bool) (idx : List Nat) (d : α) (hn : axs.map Ax.n = shape)
    (h : inShape shape idx = true) (hf : flagsOk axs flags = true) :
    (radialMaskAx o shape axs false val).getD (negIdx flags shape idx) d =
      (radialMaskAx o shape axs false val).getD idx d := by
  rw [radialMaskAx_getD o shape axs val _ d hn (inShape_negIdx hn h hf), radialMaskAx_getD o shape axs val idx d hn h,
    radial_neg o L hn h hf]

/-- every radial mask has exactly the full shape, or the half-spectrum shape when that was asked
for (`return_real_fourier` and the given shape is a real-space shape) -/
theorem radialMask_shape (shape : List Nat) (sirf rrf : Bool) (val : α → α) :
    (radialMask o shape sirf rrf val).shape = if rrf && !sirf then cropShape shape else shape :=
  radialMaskAx_shape o shape _ _ val

theorem bandpass_shape_full (a : BPArgs α) (h : a.rrf = false) : (bandpass o a).shape = a.shape := by
  unfold bandpass; rw [radialMask_shape, h]; rfl

theorem bandpass_shape_half (a : BPArgs α) (h : a.rrf = true) (h2 : a.sirf = false) :
    (bandpass o a).shape = cropShape a.shape := by
  unfold bandpass; rw [radialMask_shape, h, h2]; rfl

/-- a half-spectrum shape handed in as such is returned unchanged -/
theorem bandpass_shape_rfshape (a : BPArgs α) (h : a.sirf = true) : (bandpass o a).shape = a.shape := by
  unfold bandpass; rw [radialMask_shape, h, Bool.not_true, Bool.and_false]; rfl

/-- the whitening filter always lives on the half-spectrum shape -/
theorem whiten_shape (spec : Array α) (shape : List Nat) (sirf : Bool) :
    (whiten o spec shape sirf).shape = fourierShape shape sirf := by
  unfold whiten; rw [radialMask_shape]; rfl

theorem contWedge_shape (a : WArgs α) :
    (contWedge o a).shape = if a.rrf then cropShape a.shape else a.shape := by
  unfold contWedge; cases a.rrf <;> rfl

theorem radialMask_getD (shape : List Nat) (sirf rrf : Bool) (val : α → α) (idx : List Nat) (d : α)
    (hr : (rrf && !sirf) = false) (h : inShape shape idx = true) :
    (radialMask o shape sirf rrf val).getD idx d =
      val (radial o (axesHalf shape sirf) (srcIdx (axesHalf shape sirf) idx)) := by
  rw [radialMask_eq_ax, hr]
  exact radialMaskAx_getD o shape _ val idx d (axesHalf_n shape sirf) h

/-- the half-spectrum result is the corresponding part of the full one -/
theorem half_is_part_of_full (shape : List Nat) (val : α → α) (idx : List Nat) (d : α)
    (h : inShape (cropShape shape) idx = true) :
    (radialMask o shape false true val).getD idx d = (radialMask o shape false false val).getD idx o.zero :=
  radialMaskAx_half_is_part_of_full o shape _ val idx d h

theorem contWedge_half_is_part_of_full (a : WArgs α) (idx : List Nat) (d : α)
    (h : inShape (cropShape a.shape) idx = true) :
    (contWedge o { a with rrf := true }).getD idx d = (contWedge o { a with rrf := false }).getD idx o.zero :=
  -- `wedgeCentred` does not look at `rrf`
  centredMask_half o a.shape (axesOne a.shape) (wedgeCentred o a) idx d h

/-- per axis, for every `n` and every position (including the Nyquist term of an even axis):
`|f((-k) mod n)| = |f(k)|` -/
theorem freq_neg_symm (n j : Nat) (hj : j < n) :
    (freqIndex n (negPos n j)).natAbs = (freqIndex n j).natAbs := by
  rcases freqIndex_negPos n j hj with h | h
  · rw [h]
  · rw [h, Int.natAbs_neg]

/-- the position read by `shift_fourier` holds the signed frequency index -/
theorem shifted_grid_is_freqIndex (n j : Nat) (hj : j < n) :
    (⟨n, false, n / 2⟩ : Ax).k ((⟨n, false, n / 2⟩ : Ax).src j) = freqIndex n j :=
  k_src _ j rfl

/-- a radial mask is invariant under negating the frequency on any set of (two-sided) axes -/
theorem radialMask_neg_symm (L : SignLaws o) (shape : List Nat) (sirf rrf : Bool) (val : α → α)
    (flags : List Bool) (idx : List Nat) (d : α)
    (hr : (rrf && !sirf) = false) (h : inShape shape idx = true)
    (hf : flagsOk (axesHalf shape sirf) flags = true) :
    (radialMask o shape sirf rrf val).getD (negIdx flags shape idx) d =
      (radialMask o shape sirf rrf val).getD idx d := by
  rw [radialMask_eq_ax, hr]
  exact radialMaskAx_neg_symm o L shape _ val flags idx d (axesHalf_n shape sirf) h hf

/-- band-pass filters (hard or Gaussian edge) are symmetric under frequency negation -/
theorem bandpass_neg_symm (L : SignLaws o) (a : BPArgs α) (idx : List Nat) (d : α)
    (hrrf : a.rrf = false) (hsirf : a.sirf = false) (h : inShape a.shape idx = true) :
    (bandpass o a).getD (negIdx (a.shape.map (fun _ => true)) a.shape idx) d = (bandpass o a).getD idx d := by
  unfold bandpass
  refine radialMask_neg_symm o L _ _ _ _ _ _ _ (by rw [hrrf]; rfl) h ?_
  rw [hsirf]; exact flagsOk_all_true a.shape

/-- the whitening filter (half-spectrum array) is symmetric under negation on every leading axis -/
theorem whiten_reflect_symm (L : SignLaws o) (spec : Array α) (shape : List Nat) (sirf : Bool)
    (flags : List Bool) (idx : List Nat) (d : α)
    (h : inShape (fourierShape shape sirf) idx = true)
    (hf : flagsOk (axesHalf (fourierShape shape sirf) true) flags = true) :
    (whiten o spec shape sirf).getD (negIdx flags (fourierShape shape sirf) idx) d =
      (whiten o spec shape sirf).getD idx d := by
  unfold whiten
  exact radialMask_neg_symm o L _ _ _ _ _ _ _ rfl h hf

/-! ### the axes un-shifted at the end of `LinearWhiteningFilter.__call__` (with and without a batch axis) -/

/-- the repaired code un-shifts exactly the two-sided axes of the mask: every axis but its last -/
theorem whitenShiftAxes_mem (nd : Nat) (batch : Option Nat) (i : Nat) :
    i ∈ whitenShiftAxes nd batch ↔ i + 1 < maskRank nd batch :=
  List.mem_range.trans Nat.lt_sub_iff_add_lt

example : whitenShiftAxes 3 (some 0) = [0] ∧ whitenShiftAxes 4 (some 0) = [0, 1] ∧ whitenShiftAxes 3 none = [0, 1] := by decide +kernel

/-- without a batch axis the old and the repaired axes coincide (the repair changes nothing there) -/
theorem whitenShiftAxes_none (nd : Nat) : whitenShiftAxesOld nd none = whitenShiftAxes nd none :=
  List.filter_eq_self.mpr fun i _ => decide_eq_true (Option.some_ne_none i)

/-- before the repair a stack (`batch_dimension = 0`) left the first two-sided axis of the mask centred … -/
theorem whitenShiftAxesOld_current_defect_first (nd : Nat) : 0 ∉ whitenShiftAxesOld nd (some 0) :=
  fun h => of_decide_eq_true (List.mem_filter.mp h).2 rfl

/-- … and un-shifted its one-sided last axis instead (`nd ≥ 3`: a stack of at least 2-D transforms) -/
theorem whitenShiftAxesOld_current_defect_last (nd : Nat) (h : 3 ≤ nd) :
    maskRank nd (some 0) - 1 ∈ whitenShiftAxesOld nd (some 0) := by
  unfold whitenShiftAxesOld maskRank
  simp only [List.mem_filter, List.mem_range, decide_eq_true_eq]
  refine ⟨by omega, ?_⟩
  intro hc
  have := Option.some.inj hc
  omega

example : whitenShiftAxesOld 3 (some 0) = [1] ∧ whitenShiftAxes 3 (some 0) = [0] := by decide +kernel

/-! ## a half-spectrum shape passed in as such gives the crop of the full mask -/

/-- what `Compose` relies on: a filter called with the half-spectrum shape and
`shape_is_real_fourier=True` (as emitted by a preceding wedge) equals the half-spectrum crop of the
filter for the real-space shape -/
theorem rfshape_eq_crop (L : SignLaws o) (shape : List Nat) (val : α → α) (idx : List Nat) (d : α)
    (hpos : ∀ n ∈ shape, 1 ≤ n) (h : inShape (cropShape shape) idx = true) :
    (radialMask o (cropShape shape) true false val).getD idx d =
      (radialMask o shape false true val).getD idx d := by
  rw [half_is_part_of_full o shape val idx d h,
    radialMask_getD o shape false false val idx o.zero rfl (inShape_of_crop shape idx hpos h),
    radialMask_getD o (cropShape shape) true false val idx d rfl h]
  unfold radial radial2
  rw [terms_rfshape o L shape idx h]

theorem discrete_in_01 (hi lo : Option α) (r : α) :
    discreteVal o hi lo r = o.zero ∨ discreteVal o hi lo r = o.one := by
  unfold discreteVal; exact ite_in_pair _ _ _

/-- every voxel of a hard-edged band-pass filter is 0 or 1 -/
theorem bandpass_discrete_in_01 (a : BPArgs α) (hg : a.gaussian = false) (idx : List Nat) (d : α)
    (hr : (a.rrf && !a.sirf) = false) (h : inShape a.shape idx = true) :
    (bandpass o a).getD idx d = o.zero ∨ (bandpass o a).getD idx d = o.one := by
  unfold bandpass
  rw [radialMask_getD o _ _ _ _ idx d hr h, bandpassVal_discrete o a hg]
  exact discrete_in_01 o _ _ _

theorem contWedge_in_01 (a : WArgs α) (idx : List Nat) :
    wedgeCentred o a idx = o.zero ∨ wedgeCentred o a idx = o.one := by
  unfold wedgeCentred
  exact ite_in_pair _ _ _

theorem bandpass_dc (Z : ZeroLaws o) (a : BPArgs α) (d : α) (hr : (a.rrf && !a.sirf) = false)
    (hpos : ∀ n ∈ a.shape, 2 ≤ n) :
    (bandpass o a).getD (a.shape.map (fun _ => 0)) d = bandpassVal o a o.zero := by
  unfold bandpass
  rw [radialMask_getD o _ _ _ _ _ d hr (inShape_zeros a.shape (fun n hn => Nat.le_of_succ_le (hpos n hn))),
    radial_dc o Z a.shape a.sirf hpos]

/-- a hard low-pass (no high-pass) with a non-negative cut-off keeps the zero frequency -/
theorem dc_kept_lowpass (Z : ZeroLaws o) (a : BPArgs α) (d : α) (hg : a.gaussian = false)
    (hr : (a.rrf && !a.sirf) = false) (hpos : ∀ n ∈ a.shape, 2 ≤ n) (hhp : a.highpass = none)
    (hcut : ∀ c, a.lowpass.map (cutOf o a.srs) = some c → o.le o.zero c = true) :
    (bandpass o a).getD (a.shape.map (fun _ => 0)) d = o.one := by
  rw [bandpass_dc o Z a d hr hpos, bandpassVal_discrete o a hg, hhp]
  unfold discreteVal
  cases hl : a.lowpass.map (cutOf o a.srs) with
  | none => rfl
  | some c => show (if (o.le o.zero c && true) = true then o.one else o.zero) = o.one; rw [hcut c hl]; rfl

/-- a hard high-pass whose cut-off is positive removes the zero frequency -/
theorem dc_removed_highpass (Z : ZeroLaws o) (a : BPArgs α) (d : α) (hg : a.gaussian = false)
    (hr : (a.rrf && !a.sirf) = false) (hpos : ∀ n ∈ a.shape, 2 ≤ n) (c : α)
    (hhp : a.highpass.map (cutOf o a.srs) = some c) (hcut : o.le c o.zero = false) :
    (bandpass o a).getD (a.shape.map (fun _ => 0)) d = o.zero := by
  rw [bandpass_dc o Z a d hr hpos, bandpassVal_discrete o a hg, hhp]
  unfold discreteVal
  show (if (_ && o.le c o.zero) = true then o.one else o.zero) = o.zero
  rw [hcut, Bool.and_false]; rfl

end

section
variable {α : Type} (o : Ops α)

theorem axesOne_cons (n : Nat) (ns : List Nat) : axesOne (n :: ns) = ⟨n, false, n⟩ :: axesOne ns := rfl

theorem contWedge_getD (a : WArgs α) (idx : List Nat) (d : α) (hrrf : a.rrf = false)
    (h : inShape a.shape idx = true) :
    (contWedge o a).getD idx d = wedgeCentred o a (srcIdx (axesOne a.shape) idx) := by
  show (centredMask o a.shape (axesOne a.shape) a.rrf (wedgeCentred o a)).getD idx d = _
  rw [hrrf]
  exact centredMask_getD o _ d (axesOne_n a.shape) h

/-- the continuous wedge is symmetric under frequency negation at every frequency whose
opening-axis and tilt-axis components are not the Nyquist term of an even extent (there the signed
ratio `k_tilt / k_opening` is well defined up to the common sign) -/
theorem contWedge_neg_symm_offNyquist (L : SignLaws o) (a : WArgs α) (idx : List Nat) (d : α)
    (hrrf : a.rrf = false) (h : inShape a.shape idx = true)
    (hto : a.tilt < a.shape.length) (hop : a.opening < a.shape.length)
    (hnt : 2 * idx.getD a.tilt 0 ≠ a.shape.getD a.tilt 0)
    (hno : 2 * idx.getD a.opening 0 ≠ a.shape.getD a.opening 0) :
    (contWedge o a).getD (negIdx (a.shape.map (fun _ => true)) a.shape idx) d = (contWedge o a).getD idx d := by
  have hn := axesOne_n a.shape
  have hf := flagsOk_one_all_true a.shape
  rw [contWedge_getD o a _ d hrrf (inShape_negIdx hn h hf), contWedge_getD o a idx d hrrf h]
  unfold wedgeCentred
  simp only
  rw [radial_neg o L hn h hf, axesOne_k_getD_neg _ _ _ h _ hto hnt, axesOne_k_getD_neg _ _ _ h _ hop hno, wedgeVal_neg o L]

end

/-- today's continuous wedge is *not* symmetric on the Nyquist row of an even extent when the two
tilt limits differ and no frequency cut-off ≤ Nyquist removes that row (exact arithmetic, 4×4,
start = tan(90°-45°) = 1, stop = -1/2): position (2,1) and its negative (2,3) disagree -/
theorem contWedge_nyquist_current_defect :
    let a : WArgs Rat := ⟨[4, 4], 1, -1/2, 100, 0, 1, none, false⟩
    (contWedge ratOps a).getD [2, 1] 7 ≠ (contWedge ratOps a).getD (negIdx [true, true] [4, 4] [2, 1]) 7 := by
  decide +kernel

/-- `__call__` leaves the object's attributes untouched -/
theorem call_state_unchanged (cfg kw : Kw) : (callCopy cfg kw).1 = cfg := rfl

/-- the effective arguments are the constructor's, overridden by the call's (last one wins) -/
theorem call_effective (cfg kw : Kw) (k : String) :
    kwLookup k (callCopy cfg kw).2 = (kwLookup k kw.reverse).orElse (fun _ => kwLookup k cfg) := by
  show kwLookup k (kwUpdate cfg kw) = _
  induction kw generalizing cfg with
  | nil => rfl
  | cons p r ih =>
    obtain ⟨a, b⟩ := p
    show kwLookup k (kwUpdate (kwSet a b cfg) r) = _
    rw [ih, kwLookup_kwSet, List.reverse_cons, kwLookup_append]
    cases kwLookup k r.reverse
    · show (if a = k then some b else kwLookup k cfg) = (if a = k then some b else none).orElse _
      split <;> rfl
    · rfl

/-- any history of calls: the state never changes and every call sees `ctor ∪ its own kwargs` only -/
theorem runCalls_copy (cfg : Kw) (hist : List Kw) :
    runCalls callCopy cfg hist = (cfg, hist.map (kwUpdate cfg)) := by
  induction hist with
  | nil => rfl
  | cons kw rest ih => simp [runCalls, callCopy, ih]

/-- the result of a call (any function `F` of the effective arguments) after an arbitrary history
equals the result of the same call on a fresh object -/
theorem history_independent {β : Type} (F : Kw → β) (cfg : Kw) (hist : List Kw) (kw : Kw) :
    ((runCalls callCopy cfg (hist ++ [kw])).2.map F).getLast? = some (F (callCopy cfg kw).2) := by
  rw [runCalls_copy]
  simp only [callCopy, List.map_append, List.map_cons, List.map_nil, List.getLast?_append, List.getLast?_singleton,
    Option.some_or]

/-- the pre-fix `BandPassFilter.__call__` (`vars(self).update(kwargs)`) violates it: after a call
with `return_real_fourier=True` the next call without it still sees `True` -/
theorem callLeaky_current_defect :
    let cfg : Kw := [("lowpass", "4"), ("return_real_fourier", "False")]
    let hist : List Kw := [[("shape", "(8, 8)"), ("return_real_fourier", "True")], [("shape", "(8, 8)")]]
    (runCalls callLeaky cfg hist).1 ≠ cfg ∧
    (runCalls callLeaky cfg hist).2.getLast? ≠ some (callCopy cfg [("shape", "(8, 8)")]).2 := by
  decide +kernel

section
variable {α : Type} [CommMonoid α]

/-- a composition of multiplicative filters (each returning its own mask, whatever keyword
arguments `Compose` forwards to it) is, voxel by voxel, the product of the parts -/
theorem compose_eq_product (n : Nat) (ts : List (Transform α)) (parts : List (List α)) (kw : Kw)
    (dkw : Option (List α)) (hne : ts ≠ [])
    (h : List.Forall₂ (fun t p => ∀ kw d, (t kw d).data = some p ∧ (t kw d).mult = true) ts parts)
    (hlen : ∀ p ∈ parts, p.length = n) :
    ∃ r out, compose (· * ·) ts kw dkw = some r ∧ r.data = some out ∧ out.length = n ∧
      ∀ i, i < n → out.getD i 1 = (parts.map (fun p => p.getD i 1)).prod := by
  cases h with
  | nil => exact absurd rfl hne
  | @cons t p ts' ps htp hrest =>
    obtain ⟨hl, hv⟩ := foldl_zipWith_mul n ps p (fun q hq => hlen q (List.mem_cons_of_mem _ hq)) (hlen p List.mem_cons_self)
    exact ⟨_, _, rfl, composeLoop_mult (· * ·) ts' ps hrest kw dkw _ p (htp kw dkw).1, hl,
      fun i hi => by rw [hv i hi, List.map_cons, List.prod_cons]⟩

/-- … and that product does not depend on the order of the filters -/
theorem product_perm (parts parts' : List (List α)) (hp : parts.Perm parts') (i : Nat) :
    (parts.map (fun p => p.getD i 1)).prod = (parts'.map (fun p => p.getD i 1)).prod :=
  (hp.map _).prod_eq

end

example : freqIndex 8 4 = -4 ∧ freqIndex 8 5 = -3 ∧ freqIndex 7 3 = 3 ∧ freqIndex 7 4 = -3 := by decide +kernel
example : negPos 8 4 = 4 ∧ negPos 8 0 = 0 ∧ negPos 7 3 = 4 := by decide +kernel
example : (List.range 6).map (shiftSrc 6) = [3, 4, 5, 0, 1, 2] ∧ (List.range 5).map (shiftSrc 5) = [2, 3, 4, 0, 1] := by decide +kernel
example : cropShape [6, 7, 8] = [6, 7, 5] ∧ cropShape [8, 7] = [8, 4] ∧ fourierShape [8, 5] true = [8, 5] := by decide +kernel
example : SignLaws ratOps ∧ ZeroLaws ratOps := ⟨ratOps_signLaws, ratOps_zeroLaws⟩
example : flagsOk (axesHalf [4, 3] true) [true, false] = true ∧ flagsOk (axesHalf [4, 3] true) [true, true] = false := by decide +kernel

/-- a 4×4 hard low-pass at cut-off 1/2 (lowpass = 4 voxels, sampling rate 1), evaluated exactly
(`ratOps.sqrt` is the identity, so the pass region is `r² ≤ 1/2`) -/
def exBP : BPArgs Rat := ⟨[4, 4], some 4, none, [1], false, false, false⟩
example : (bandpass ratOps exBP).toList = [1, 1, 0, 1, 1, 1, 0, 1, 0, 0, 0, 0, 1, 1, 0, 1] := by decide +kernel
example : (bandpass ratOps { exBP with rrf := true }).toList = [1, 1, 0, 1, 1, 0, 0, 0, 0, 1, 1, 0] := by decide +kernel
example : (bandpass ratOps { exBP with shape := [4, 3], sirf := true }).toList = [1, 1, 0, 1, 1, 0, 0, 0, 0, 1, 1, 0] := by
  decide +kernel
example : (bandpass ratOps { exBP with lowpass := none, highpass := some 8 }).getD [0, 0] 7 = 0 := by decide +kernel
example : ∀ c, exBP.lowpass.map (cutOf ratOps exBP.srs) = some c → ratOps.le ratOps.zero c = true := by
  intro c h
  rw [show exBP.lowpass.map (cutOf ratOps exBP.srs) = some (1 / 2) by decide +kernel] at h
  cases h; decide +kernel
example : (contWedge ratOps ⟨[4, 4], 1, -1/2, 100, 0, 1, some (1/4), false⟩).toList =
    [1, 1, 1, 1, 0, 1, 0, 1, 0, 0, 0, 0, 0, 1, 0, 1] := by decide +kernel
example : runCalls callCopy [("a", "1")] [[("a", "2"), ("b", "3")], [("c", "4")]] =
    ([("a", "1")], [[("a", "2"), ("b", "3")], [("a", "1"), ("c", "4")]]) := by decide +kernel
example : (compose (· * ·) [fun _ _ => ⟨some [2, 3], true, []⟩, fun _ _ => ⟨some [5, 7], true, [("shape", "x")]⟩]
    [] none).bind (·.data) = some [10, 21] := by decide +kernel


section
variable {α : Type} (o : Ops α)

/-- `CTF` of one untilted, non-astigmatic image (any function of the spatial frequency on the
`sampling_rate = 1` grid): shape asked for -/
theorem radialMaskOne_shape (shape : List Nat) (rrf : Bool) (val : α → α) :
    (radialMaskOne o shape rrf val).shape = if rrf then cropShape shape else shape :=
  radialMaskAx_shape o shape _ rrf val

theorem radialMaskOne_half_is_part_of_full (shape : List Nat) (val : α → α) (idx : List Nat) (d : α)
    (h : inShape (cropShape shape) idx = true) :
    (radialMaskOne o shape true val).getD idx d = (radialMaskOne o shape false val).getD idx o.zero :=
  radialMaskAx_half_is_part_of_full o shape _ val idx d h

/-- … even in every frequency component: invariant under negating the frequency on any subset of axes -/
theorem radialMaskOne_neg_symm (L : SignLaws o) (shape : List Nat) (val : α → α) (flags : List Bool)
    (idx : List Nat) (d : α) (h : inShape shape idx = true) (hf : flagsOk (axesOne shape) flags = true) :
    (radialMaskOne o shape false val).getD (negIdx flags shape idx) d = (radialMaskOne o shape false val).getD idx d :=
  radialMaskAx_neg_symm o L shape _ val flags idx d (axesOne_n shape) h hf

end

theorem nBins_le_maxBins (s : List Nat) (req : Option Nat) : nBins s req ≤ maxBins s := by
  unfold nBins; cases req with
  | none => exact Nat.le_refl _
  | some n => exact Nat.min_le_right _ _

theorem nBins_le_requested (s : List Nat) (n : Nat) : nBins s (some n) ≤ n := Nat.min_le_left _ _

theorem maxBins_pos (s : List Nat) : 1 ≤ maxBins s :=
  Nat.le_trans (Nat.le_add_left 1 _) (Nat.le_max_left _ _)

/-- there is a bin for the Nyquist index of every leading axis and for every index of the last axis -/
theorem maxBins_covers_axes (s : List Nat) :
    (∀ n ∈ s.dropLast, n / 2 + 1 ≤ maxBins s) ∧ s.getLastD 0 ≤ maxBins s := by
  unfold maxBins
  exact ⟨fun n hn => Nat.le_trans (Nat.succ_le_succ (Nat.div_le_div_right ((foldl_max_ge s.dropLast 0).2 n hn)))
    (Nat.le_max_left _ _), Nat.le_max_right _ _⟩

/-- every voxel is counted in exactly one radial average, or in none when its label lies beyond the
last bin (the implicit low-pass of `ndimage.mean(..., index=arange(n_bins))`) -/
theorem bin_unique (b nb : Nat) : (List.range nb).count b = if b < nb then 1 else 0 := by
  split
  · rename_i h
    exact List.count_eq_one_of_mem List.nodup_range (List.mem_range.mpr h)
  · rename_i h
    exact List.count_eq_zero_of_not_mem (by simpa using h)

section
variable {α : Type} (o : Ops α)

theorem binsArr_shape (s : List Nat) (nb : Nat) : (binsArr o s nb).shape = s := rfl

theorem binsArr_getD (s : List Nat) (nb : Nat) (idx : List Nat) (d : Nat) (h : inShape s idx = true) :
    (binsArr o s nb).getD idx d = binCentred o s nb idx := Arr.getD_ofFn _ _ _ _ h

/-- the label of a voxel of `data_rfft` is the entry of `bins` at its `fftshift`-ed position -/
theorem binOfVoxel_eq_bins (s : List Nat) (nb : Nat) (idx : List Nat) (d : Nat) (h : inShape s idx = true) :
    binOfVoxel o s nb idx = (binsArr o s nb).getD (srcIdx (axesHalf s true) idx) d := by
  rw [binsArr_getD o s nb _ d (inShape_srcIdx (axesHalf_n s true) h)]; rfl

/-- bins are symmetric under frequency negation on the two-sided (leading) axes: a voxel and its
mirror image contribute to the same radial average -/
theorem binOfVoxel_neg_symm (L : SignLaws o) (s : List Nat) (nb : Nat) (flags : List Bool) (idx : List Nat)
    (h : inShape s idx = true) (hf : flagsOk (axesHalf s true) flags = true) :
    binOfVoxel o s nb (negIdx flags s idx) = binOfVoxel o s nb idx := by
  unfold binOfVoxel binCentred
  rw [radial_neg o L (axesHalf_n s true) h hf]

/-- the zero frequency is labelled 0 (`floor(0 * (n_bins - 1) + 0.5) = 0`) -/
theorem binOfVoxel_dc (Z : ZeroLaws o) (s : List Nat) (nb : Nat) (hpos : ∀ n ∈ s, 2 ≤ n)
    (hfl : o.floorNat (o.add (o.mul o.zero (o.ofNat (nb - 1))) (half o)) = 0) :
    binOfVoxel o s nb (s.map (fun _ => 0)) = 0 := by
  unfold binOfVoxel binCentred binOf
  rw [radial_dc o Z s true hpos]; exact hfl

/-! ### `order=None`: the mask is the radial average of the voxel's own bin -/

theorem whitenNone_shape (spec : Array α) (s : List Nat) (nb : Nat) : (whitenNone o spec s nb).shape = s := by
  unfold whitenNone; rw [radialMask_shape]; rfl

theorem whitenNone_getD (spec : Array α) (s : List Nat) (nb : Nat) (idx : List Nat) (d : α)
    (h : inShape s idx = true) :
    (whitenNone o spec s nb).getD idx d =
      if binOfVoxel o s nb idx < spec.size then spec.getD (binOfVoxel o s nb idx) o.zero else o.zero := by
  unfold whitenNone
  rw [radialMask_getD o s true false _ idx d rfl h]
  rfl

/-- every voxel of the mask is one of the radial averages, or zero beyond the last bin -/
theorem whitenNone_value_mem (spec : Array α) (s : List Nat) (nb : Nat) (idx : List Nat) (d : α)
    (h : inShape s idx = true) :
    (whitenNone o spec s nb).getD idx d = o.zero ∨
      ∃ b, b < spec.size ∧ (whitenNone o spec s nb).getD idx d = spec.getD b o.zero := by
  rw [whitenNone_getD o spec s nb idx d h]
  by_cases hb : binOfVoxel o s nb idx < spec.size
  · exact Or.inr ⟨_, hb, if_pos hb⟩
  · exact Or.inl (if_neg hb)

theorem whitenNone_reflect_symm (L : SignLaws o) (spec : Array α) (s : List Nat) (nb : Nat)
    (flags : List Bool) (idx : List Nat) (d : α) (h : inShape s idx = true)
    (hf : flagsOk (axesHalf s true) flags = true) :
    (whitenNone o spec s nb).getD (negIdx flags s idx) d = (whitenNone o spec s nb).getD idx d := by
  unfold whitenNone
  exact radialMask_neg_symm o L _ _ _ _ _ _ _ rfl h hf

end

example : maxBins [9, 5] = 5 ∧ maxBins [6, 8, 3] = 5 ∧ nBins [9, 5] (some 3) = 3 ∧ nBins [9, 5] (some 1000) = 5 ∧ nBins [9, 5] none = 5 := by decide +kernel
example : (List.range 5).count 3 = 1 ∧ (List.range 5).count 7 = 0 := by decide +kernel
example : (binsArr ratOps [4, 3] 3).toList = [2, 3, 4, 1, 1, 3, 0, 1, 2, 1, 1, 3] := by decide +kernel
example : (allIdx [4, 3]).map (binOfVoxel ratOps [4, 3] 3) = [0, 1, 2, 1, 1, 3, 2, 3, 4, 1, 1, 3] := by decide +kernel
example : ratOps.floorNat (ratOps.add (ratOps.mul ratOps.zero (ratOps.ofNat (3 - 1))) (half ratOps)) = 0 := by decide +kernel
example : (whitenNone ratOps #[1, 1/2, 1/4] [4, 3] 3).toList = [1, 1/2, 1/4, 1/2, 1/2, 0, 1/4, 0, 0, 1/2, 1/2, 0] := by decide +kernel


/-- the rotated plane always has an odd tilt extent … -/
theorem planeShape_odd (s : List Nat) (op t : Nat) : (planeShape s op t).getD 1 0 % 2 = 1 :=
  (planePad_odd (s.getD t 0)).1

/-- … so `centered` crops nothing at the front (`_center_slice` start offsets are 0 on both axes) -/
theorem planeShape_crop_start (s : List Nat) (op t : Nat) :
    ((planeShape s op t).getD 0 0 - s.getD op 0) / 2 = 0 ∧ ((planeShape s op t).getD 1 0 - s.getD t 0) / 2 = 0 :=
  ⟨by show (s.getD op 0 - s.getD op 0) / 2 = 0; rw [Nat.sub_self], (planePad_odd (s.getD t 0)).2⟩

theorem planeRow_lt (s : List Nat) (op t : Nat) (h : 0 < s.getD op 0) :
    planeRow s op < (planeShape s op t).getD 0 0 :=
  Nat.div_lt_self h (by decide)

section
variable {α : Type} (o : Ops α)

theorem transpose2_getD (p : Arr α) (m n a b : Nat) (d : α) (hp : p.shape = [m, n]) :
    (transpose2 p d).getD [a, b] d = p.getD [b, a] d := by
  unfold transpose2
  rw [hp]
  show (Arr.ofFn [n, m] _).getD [a, b] d = _
  cases h : inShape [n, m] [a, b]
  · -- outside the transposed shape both sides are the default
    rw [Arr.getD_ofFn_out _ _ _ _ h]
    unfold Arr.getD
    rw [hp, ← inShape_reverse2 n m a b, h]; rfl
  · rw [Arr.getD_ofFn _ _ _ _ h]; rfl

theorem tilePlane_shape (p : Arr α) (s : List Nat) (op t : Nat) (d : α) : (tilePlane p s op t d).shape = s := by
  unfold tilePlane; rfl

/-- `moveaxis` / `reshape` / `tile` of `step_wedge`: the voxel `idx` of the volume is the plane at
`(idx[opening], idx[tilt])`, whichever of the two axes comes first -/
theorem tilePlane_getD (p : Arr α) (s : List Nat) (op t m n : Nat) (d d' : α) (idx : List Nat)
    (hp : p.shape = [m, n]) (h : inShape s idx = true) :
    (tilePlane p s op t d).getD idx d' = p.getD [idx.getD op 0, idx.getD t 0] d := by
  unfold tilePlane
  rw [Arr.getD_ofFn _ _ _ _ h]
  by_cases hto : t < op
  · rw [if_pos hto, Nat.min_eq_right (Nat.le_of_lt hto), Nat.max_eq_left (Nat.le_of_lt hto)]
    exact transpose2_getD p m n _ _ d hp
  · rw [if_neg hto, Nat.min_eq_left (Nat.le_of_not_lt hto), Nat.max_eq_right (Nat.le_of_not_lt hto)]

/-- a per-tilt wedge volume is constant along the axes that are neither opening nor tilt axis -/
theorem tilePlane_const_off_axes (p : Arr α) (s : List Nat) (op t m n : Nat) (d d' : α) (idx idx' : List Nat)
    (hp : p.shape = [m, n]) (h : inShape s idx = true) (h' : inShape s idx' = true)
    (ho : idx.getD op 0 = idx'.getD op 0) (ht : idx.getD t 0 = idx'.getD t 0) :
    (tilePlane p s op t d).getD idx d' = (tilePlane p s op t d).getD idx' d' := by
  rw [tilePlane_getD p s op t m n d d' idx hp h, tilePlane_getD p s op t m n d d' idx' hp h', ho, ht]

/-- what `step_wedge` returns, voxel by voxel: the accumulated plane, clipped to the largest weight -/
theorem stepVolume_getD (plane : Arr α) (s : List Nat) (op t : Nat) (wmax d' : α) (idx : List Nat)
    (hp : plane.shape = planeShape s op t) (h : inShape s idx = true)
    (hio : idx.getD op 0 < s.getD op 0) (hit : idx.getD t 0 < s.getD t 0) :
    (stepVolume o plane s op t wmax).getD idx d' =
      fmin o (plane.getD [idx.getD op 0, idx.getD t 0] o.zero) wmax := by
  unfold stepVolume
  rw [tilePlane_getD _ s op t (s.getD op 0) (s.getD t 0) o.zero d' idx rfl h]
  unfold cropPlane
  rw [Arr.getD_ofFn _ _ _ _ (inShape_cons.mpr ⟨hio, inShape_cons.mpr ⟨hit, rfl⟩⟩), hp,
    (planeShape_crop_start s op t).1, (planeShape_crop_start s op t).2]
  rfl

theorem wedgeTail_shape (vol : Arr α) (a : WTail α) :
    (wedgeTail o vol a).shape = if a.rrf then cropShape a.shape else a.shape := by
  unfold wedgeTail; cases a.rrf <;> rfl

theorem wedgeTail_half_is_part_of_full (vol : Arr α) (a : WTail α) (idx : List Nat) (d : α)
    (h : inShape (cropShape a.shape) idx = true) :
    (wedgeTail o vol { a with rrf := true }).getD idx d = (wedgeTail o vol { a with rrf := false }).getD idx o.zero :=
  -- `tailCentred` does not look at `rrf`
  centredMask_half o a.shape (axesOne a.shape) (tailCentred o vol a) idx d h

theorem wedgeTail_getD (vol : Arr α) (a : WTail α) (idx : List Nat) (d : α) (hrrf : a.rrf = false)
    (h : inShape a.shape idx = true) :
    (wedgeTail o vol a).getD idx d = tailCentred o vol a (srcIdx (axesOne a.shape) idx) := by
  show (centredMask o a.shape (axesOne a.shape) a.rrf (tailCentred o vol a)).getD idx d = _
  rw [hrrf]
  exact centredMask_getD o _ d (axesOne_n a.shape) h

/-- an unweighted wedge (step or continuous) is 0/1-valued -/
theorem wedgeTail_in_01 (vol : Arr α) (a : WTail α) (hw : a.weightWedge = false) (idx : List Nat) :
    tailCentred o vol a idx = o.zero ∨ tailCentred o vol a idx = o.one := by
  unfold tailCentred
  rw [hw, if_neg Bool.false_ne_true]
  exact ite_in_pair _ _ _

/-- a weighted wedge voxel is the volume's value, kept (`· * 1`) or removed (`· * 0`) by the cut-off -/
theorem wedgeTail_weighted_values (vol : Arr α) (a : WTail α) (hw : a.weightWedge = true) (idx : List Nat) :
    tailCentred o vol a idx = vol.getD idx o.zero ∨
    tailCentred o vol a idx = o.mul (vol.getD idx o.zero) o.one ∨
    tailCentred o vol a idx = o.mul (vol.getD idx o.zero) o.zero := by
  unfold tailCentred
  rw [hw, if_pos rfl]
  cases a.cutoff with
  | none => exact Or.inl rfl
  | some c => exact Or.inr (mul_cut_cases o _ _)

/-- the tail keeps whatever negation symmetry the centred volume has (the cut-off is radial) -/
theorem wedgeTail_neg_symm (L : SignLaws o) (vol : Arr α) (a : WTail α) (flags : List Bool) (idx : List Nat) (d : α)
    (hrrf : a.rrf = false) (h : inShape a.shape idx = true) (hf : flagsOk (axesOne a.shape) flags = true)
    (hvol : vol.getD (srcIdx (axesOne a.shape) (negIdx flags a.shape idx)) o.zero =
            vol.getD (srcIdx (axesOne a.shape) idx) o.zero) :
    (wedgeTail o vol a).getD (negIdx flags a.shape idx) d = (wedgeTail o vol a).getD idx d := by
  have hn := axesOne_n a.shape
  rw [wedgeTail_getD o vol a _ d hrrf (inShape_negIdx hn h hf), wedgeTail_getD o vol a idx d hrrf h]
  unfold tailCentred
  rw [hvol, radial_neg o L hn h hf]

/-- a per-tilt (step) wedge, weighted or not, with or without cut-off, is symmetric under frequency
negation on every axis other than the opening and the tilt axis (3-D: the remaining axis) -/
theorem stepWedge_neg_symm_off_axes (L : SignLaws o) (p : Arr α) (a : WTail α) (op t m n : Nat)
    (flags : List Bool) (idx : List Nat) (d : α) (hp : p.shape = [m, n])
    (hrrf : a.rrf = false) (h : inShape a.shape idx = true) (hf : flagsOk (axesOne a.shape) flags = true)
    (hfo : flags.getD op true = false) (hft : flags.getD t true = false) :
    (wedgeTail o (tilePlane p a.shape op t o.zero) a).getD (negIdx flags a.shape idx) d =
      (wedgeTail o (tilePlane p a.shape op t o.zero) a).getD idx d := by
  refine wedgeTail_neg_symm o L _ a flags idx d hrrf h hf ?_
  have hn := axesOne_n a.shape
  have e := srcIdx_negIdx_getD (axesOne a.shape) flags idx (hn.symm ▸ h) hf
  rw [hn] at e
  rw [tilePlane_getD p a.shape op t m n o.zero o.zero _ hp (inShape_srcIdx hn (inShape_negIdx hn h hf)),
    tilePlane_getD p a.shape op t m n o.zero o.zero _ hp (inShape_srcIdx hn h), e op hfo, e t hft]

/-- the continuous wedge keeps the zero frequency: there the opening-axis index is 0, the ratio is
the "infinite" stand-in `tan(90°) + 1`, which lies above the start limit; the cut-off is non-negative -/
theorem contWedge_dc_kept (Z : ZeroLaws o) (a : WArgs α) (d : α) (hrrf : a.rrf = false)
    (hpos : ∀ n ∈ a.shape, 1 ≤ n) (hop : a.opening < a.shape.length)
    (hbig : o.le a.start a.big = true) (hcut : ∀ c, a.cutoff = some c → o.le o.zero c = true) :
    (contWedge o a).getD (a.shape.map (fun _ => 0)) d = o.one := by
  have hin := inShape_zeros a.shape hpos
  rw [contWedge_getD o a _ d hrrf hin]
  unfold wedgeCentred
  simp only
  have ko := axesOne_k_getD ⟨1, false, 1⟩ a.shape _ hin a.opening hop
  rw [getD_map_of_lt _ _ _ _ hop, freqIndex_zero _ (hpos _ (getD_mem a.shape a.opening 0 hop))] at ko
  rw [ko, radial_dc_one o Z a.shape hpos, wedgeVal_zero o _ _ _ _ hbig]
  cases hc : a.cutoff with
  | none => rfl
  | some c => show (if (true && o.le o.zero c) = true then o.one else o.zero) = o.one; rw [hcut c hc]; rfl

/-- the fused model of the continuous wedge is the general tail applied to `continuous_wedge` -/
theorem contWedge_eq_tail (T : TailLaws o) (a : WArgs α) :
    contWedge o a = wedgeTail o (contVolume o a) ⟨a.shape, a.cutoff, false, a.rrf⟩ := by
  unfold contWedge wedgeTail
  simp only
  have : Arr.ofFn a.shape (wedgeCentred o a) =
      Arr.ofFn a.shape (tailCentred o (contVolume o a) ⟨a.shape, a.cutoff, false, a.rrf⟩) := by
    apply Arr.ofFn_congr
    intro idx h
    unfold wedgeCentred tailCentred contVolume
    rw [Arr.getD_ofFn _ _ _ _ h]
    cases a.cutoff with
    | none =>
      show (if (wedgeVal o _ _ _ _ _ && true) = true then o.one else o.zero) = _
      rw [Bool.and_true]; exact (threshold_01 o T _).symm
    | some c => exact (tail_threshold o T _ _).symm
  rw [this]

/-! ## tilt-series `Wedge`

Planes of untilted images under any radial weighting (`weight_relion`, `weight_grigorieff`); `weight_angle` is the
constant weighting. -/

theorem tiltShape_length (s : List Nat) (op : Nat) (h : op < s.length) : (tiltShape s op).length = s.length - 1 := by
  unfold tiltShape; rw [List.length_eraseIdx, if_pos h]

theorem wedgeStackShape_eq (s : List Nat) (op n : Nat) : wedgeStackShape s op n = n :: s.eraseIdx op := rfl

theorem tiltPlaneZero_eq_fn (ts : List Nat) (w : α) (c : Option α) :
    tiltPlaneZero o ts w c = tiltPlaneFn o ts (fun _ => w) c := by
  unfold tiltPlaneZero tiltPlaneFn
  apply Arr.ofFn_congr
  intro idx _
  cases c <;> rfl

theorem tiltPlaneFn_shape (ts : List Nat) (val : α → α) (c : Option α) : (tiltPlaneFn o ts val c).shape = ts := rfl

/-- a plane of `weight_relion` / `weight_grigorieff` (any radial weighting) holds the weighting of the
voxel's frequency, kept or removed by the cut-off -/
theorem tiltPlaneFn_values (ts : List Nat) (val : α → α) (c : Option α) (idx : List Nat) (d : α)
    (h : inShape ts idx = true) :
    let v := val (radial o (axesOne ts) idx)
    (tiltPlaneFn o ts val c).getD idx d = v ∨ (tiltPlaneFn o ts val c).getD idx d = o.mul v o.one ∨
      (tiltPlaneFn o ts val c).getD idx d = o.mul v o.zero := by
  unfold tiltPlaneFn
  rw [Arr.getD_ofFn _ _ _ _ h]
  cases c with
  | none => exact Or.inl rfl
  | some c => exact Or.inr (mul_cut_cases o _ _)

/-- … and is symmetric under frequency negation (read through the `fftshift` position of a DC-first index) -/
theorem tiltPlaneFn_neg_symm (L : SignLaws o) (ts : List Nat) (val : α → α) (c : Option α) (flags : List Bool)
    (idx : List Nat) (d : α) (h : inShape ts idx = true) (hf : flagsOk (axesOne ts) flags = true) :
    (tiltPlaneFn o ts val c).getD (srcIdx (axesOne ts) (negIdx flags ts idx)) d =
      (tiltPlaneFn o ts val c).getD (srcIdx (axesOne ts) idx) d := by
  have hn := axesOne_n ts
  unfold tiltPlaneFn
  rw [Arr.getD_ofFn _ _ _ _ (inShape_srcIdx hn (inShape_negIdx hn h hf)), Arr.getD_ofFn _ _ _ _ (inShape_srcIdx hn h)]
  simp only [radial_neg o L hn h hf]

theorem tiltPlaneZero_shape (ts : List Nat) (w : α) (c : Option α) : (tiltPlaneZero o ts w c).shape = ts := rfl

/-- a `weight_angle` plane holds the tilt's weight, kept or removed by the cut-off -/
theorem tiltPlaneZero_values (ts : List Nat) (w : α) (c : Option α) (idx : List Nat) (d : α)
    (h : inShape ts idx = true) :
    (tiltPlaneZero o ts w c).getD idx d = w ∨ (tiltPlaneZero o ts w c).getD idx d = o.mul w o.one ∨
      (tiltPlaneZero o ts w c).getD idx d = o.mul w o.zero := by
  rw [tiltPlaneZero_eq_fn]
  exact tiltPlaneFn_values o ts (fun _ => w) c idx d h

/-- the plane of an untilted image (centred layout, read through the `fftshift` position of a
DC-first index) is symmetric under frequency negation -/
theorem tiltPlaneZero_neg_symm (L : SignLaws o) (ts : List Nat) (w : α) (c : Option α) (flags : List Bool)
    (idx : List Nat) (d : α) (h : inShape ts idx = true) (hf : flagsOk (axesOne ts) flags = true) :
    (tiltPlaneZero o ts w c).getD (srcIdx (axesOne ts) (negIdx flags ts idx)) d =
      (tiltPlaneZero o ts w c).getD (srcIdx (axesOne ts) idx) d := by
  rw [tiltPlaneZero_eq_fn]
  exact tiltPlaneFn_neg_symm o L ts (fun _ => w) c flags idx d h hf

end

/-- exactly the four documented weight types are accepted -/
theorem wedgeWeightFunc_isSome (wt : Option String) :
    (wedgeWeightFunc wt).isSome = (wt == none || wt == some "angle" || wt == some "relion" || wt == some "grigorieff") := by
  unfold wedgeWeightFunc
  split
  · rfl
  · decide +kernel
  · decide +kernel
  · decide +kernel
  · simp_all

/-- one image: the full or the half spectrum as asked, DC first -/
theorem ctfPlan_single (shape : List Nat) (nSelf : Nat) (rrf : Bool) :
    ctfPlan shape none 1 nSelf 1 rrf = ⟨if rrf then cropShape shape else shape, true, rrf, none⟩ := by
  simp [ctfPlan]

/-- angles that do not match the defoci: the call's `return_real_fourier` and axes are ignored -/
theorem ctfPlan_mismatch (shape : List Nat) (op : Option Nat) (nA nSelf nD : Nat) (rrf : Bool) (h : nA ≠ nD) :
    ctfPlan shape op nA nSelf nD rrf = ctfPlan shape none nSelf nSelf nSelf false := by
  simp [ctfPlan, h]

/-- a tilt stack: one centred plane per tilt, never cropped -/
theorem ctfPlan_stack (shape : List Nat) (oa n nSelf : Nat) (rrf : Bool) (h : n ≠ 1) :
    ctfPlan shape (some oa) n nSelf n rrf = ⟨n :: tiltShape shape oa, false, false, some oa⟩ := by
  simp [ctfPlan, h]

example : ctfPlan [6, 7] none 1 1 1 true = ⟨[6, 4], true, true, none⟩ ∧
    ctfPlan [6, 7, 8] (some 1) 3 3 3 true = ⟨[3, 6, 8], false, false, some 1⟩ ∧
    ctfPlan [6, 7, 8] (some 1) 3 1 1 true = ⟨[6, 7, 8], true, false, none⟩ := by decide +kernel
example : wedgeWeightFunc (some "relion") = some "weight_relion" ∧ wedgeWeightFunc (some "Angle") = none := by decide +kernel
example : wedgeStackShape [5, 6, 7] 1 4 = [4, 5, 7] ∧ tiltShape [5, 6, 7] 2 = [5, 6] := by decide +kernel
example : TailLaws ratOps := ratOps_tailLaws


/-! ## what every filter class hands back to `Compose` -/

/-- `kwargs.update(meta)`: a key the previous filter did not return reaches the next filter with the
caller's value -/
theorem compose_keeps_unemitted_key (kw info : Kw) (k : String) (h : k ∉ info.map Prod.fst) :
    kwLookup k (kwUpdate kw info) = kwLookup k kw := by
  have := call_effective kw info k
  simp only [callCopy] at this
  rw [this, kwLookup_none_of_not_mem k info.reverse (by rwa [List.map_reverse, List.mem_reverse])]
  rfl

/-- … and a key it did return reaches it with the previous filter's value, whatever the caller said -/
theorem compose_overrides_emitted_key (kw info : Kw) (k v : String) (h : kwLookup k info.reverse = some v) :
    kwLookup k (kwUpdate kw info) = some v := by
  have := call_effective kw info k
  simp only [callCopy] at this
  rw [this, h]; rfl

/-- no filter hands `return_real_fourier` (nor `data_rfft`, `batch_dimension`) on: every member of a
composition sees the caller's value -/
theorem rrf_never_emitted (c : Cls) :
    "return_real_fourier" ∉ emits c ∧ "data_rfft" ∉ emits c ∧ "batch_dimension" ∉ emits c :=
  (by decide +kernel : ∀ c ∈ allCls,
    "return_real_fourier" ∉ emits c ∧ "data_rfft" ∉ emits c ∧ "batch_dimension" ∉ emits c) c (mem_allCls c)

/-- only the reconstructed wedge and the tilt reconstruction change the `shape` /
`shape_is_real_fourier` seen by later filters -/
theorem shape_emitted_iff (c : Cls) :
    ("shape" ∈ emits c ↔ c = .wedgeRec ∨ c = .reconstruct) ∧
    ("shape_is_real_fourier" ∈ emits c ↔ c = .wedgeRec ∨ c = .reconstruct) :=
  (by decide +kernel : ∀ c ∈ allCls, ("shape" ∈ emits c ↔ c = .wedgeRec ∨ c = .reconstruct) ∧
    ("shape_is_real_fourier" ∈ emits c ↔ c = .wedgeRec ∨ c = .reconstruct)) c (mem_allCls c)

/-- every class but the tilt reconstruction is multiplicative, and says so -/
theorem multFlag_iff (c : Cls) :
    (multFlag c = true ↔ c ≠ .reconstruct) ∧ "is_multiplicative_filter" ∈ emits c :=
  (by decide +kernel : ∀ c ∈ allCls,
    (multFlag c = true ↔ c ≠ .reconstruct) ∧ "is_multiplicative_filter" ∈ emits c) c (mem_allCls c)

/-- the filters that may follow a reconstructed wedge in a composition (they honour the half-spectrum
shape it hands on; see `rfshape_eq_crop`) -/
theorem readsSirf_iff (c : Cls) : readsSirf c = true ↔ c = .bandpass ∨ c = .whitening :=
  (by decide +kernel : ∀ c ∈ allCls, readsSirf c = true ↔ c = .bandpass ∨ c = .whitening) c (mem_allCls c)

example : kwLookup "shape" (kwUpdate [("shape", "(8, 8)"), ("return_real_fourier", "True")]
    [("shape", "(8, 5)"), ("shape_is_real_fourier", "True")]) = some "(8, 5)" ∧
  kwLookup "return_real_fourier" (kwUpdate [("shape", "(8, 8)"), ("return_real_fourier", "True")]
    [("shape", "(8, 5)"), ("shape_is_real_fourier", "True")]) = some "True" := by decide +kernel


example : (tiltPlaneFn ratOps [3, 4] (relionVal ratOps (-1) 1) (some (1/4))).toList =
    [0, 20736/21361, 81/82, 20736/21361, 16/17, 256/257, 1, 256/257, 0, 20736/21361, 81/82, 20736/21361] := by decide +kernel


/-- accumulated rotated planes of a 3×4 per-tilt wedge (opening axis 0, tilt axis 1: tilt extent padded to 5),
one value above the largest weight 2 -/
def exPlane : Arr Rat := ⟨[3, 5], #[0, 0, 1/2, 0, 0,  1, 1, 3, 1, 1,  0, 0, 1/2, 0, 0]⟩

example : planeShape [6, 7, 8] 0 2 = [6, 9] ∧ planeShape [6, 7, 8] 2 1 = [8, 7] ∧ planeRow [6, 7, 8] 0 = 3 := by decide +kernel
example : exPlane.shape = planeShape [3, 4] 0 1 ∧ exPlane.shape = planeShape [4, 3] 1 0 := by decide +kernel
example : (stepVolume ratOps exPlane [3, 4] 0 1 2).toList = [0, 0, 1/2, 0, 1, 1, 2, 1, 0, 0, 1/2, 0] := by decide +kernel
-- opening axis after the tilt axis: `moveaxis`
example : (stepVolume ratOps exPlane [4, 3] 1 0 2).toList = [0, 1, 0, 0, 1, 0, 1/2, 2, 1/2, 0, 1, 0] := by decide +kernel
-- 3-D: tiled along the remaining axis
example : (stepVolume ratOps exPlane [3, 2, 4] 0 2 2).toList =
    [0, 0, 1/2, 0, 0, 0, 1/2, 0, 1, 1, 2, 1, 1, 1, 2, 1, 0, 0, 1/2, 0, 0, 0, 1/2, 0] := by decide +kernel
example : (wedgeTail ratOps (stepVolume ratOps exPlane [3, 4] 0 1 2) ⟨[3, 4], some (1/4), false, false⟩).toList =
    [1, 1, 1, 1, 1, 0, 0, 0, 1, 0, 0, 0] := by decide +kernel
example : (wedgeTail ratOps (stepVolume ratOps exPlane [3, 4] 0 1 2) ⟨[3, 4], some (1/4), true, true⟩).toList =
    [2, 1, 1, 1/2, 0, 0, 1/2, 0, 0] := by decide +kernel
example : flagsOk (axesOne [3, 2, 4]) [false, true, false] = true ∧ [false, true, false].getD 0 true = false ∧
    [false, true, false].getD 2 true = false := by decide +kernel
example : (radialMaskOne ratOps [4, 3] false (fun r => 1 - r)).toList =
    [1, 8/9, 8/9, 15/16, 119/144, 119/144, 3/4, 23/36, 23/36, 15/16, 119/144, 119/144] := by decide +kernel
example : (radialMaskOne ratOps [4, 3] true (fun r => 1 - r)).toList = [1, 8/9, 15/16, 119/144, 3/4, 23/36, 15/16, 119/144] := by
  decide +kernel
/-- a 4×4 continuous wedge (start 1, stop -1/2, opening axis 0, tilt axis 1) with a cut-off at 1/4 -/
def exW : WArgs Rat := ⟨[4, 4], 1, -1/2, 100, 0, 1, some (1/4), false⟩
example : ratOps.le exW.start exW.big = true ∧ (∀ c, exW.cutoff = some c → ratOps.le ratOps.zero c = true) := by
  refine ⟨by decide +kernel, ?_⟩
  intro c h
  cases h; decide +kernel
example : (contWedge ratOps exW).getD [0, 0] 7 = 1 := by decide +kernel
example : (wedgeTail ratOps (contVolume ratOps exW) ⟨[4, 4], some (1/4), false, false⟩).toList =
    [1, 1, 1, 1, 0, 1, 0, 1, 0, 0, 0, 0, 0, 1, 0, 1] := by decide +kernel
example : (tiltPlaneZero ratOps [3, 4] (7/10) (some (1/8))).toList = [0, 0, 7/10, 0, 0, 7/10, 7/10, 7/10, 0, 0, 7/10, 0] := by
  decide +kernel
example : tiltShape [5, 6, 7] 1 = [5, 7] ∧ 1 < [5, 6, 7].length := by decide +kernel
example : emits .bandpass = ["sampling_rate", "is_multiplicative_filter"] ∧ multFlag .reconstruct = false := ⟨rfl, rfl⟩


section
variable {α : Type} (o : Ops α)

/-- closed form of a hard-edged voxel: passed iff its radial frequency lies between the cut-offs -/
theorem bandpass_discrete_getD (a : BPArgs α) (hg : a.gaussian = false) (idx : List Nat) (d : α)
    (hr : (a.rrf && !a.sirf) = false) (h : inShape a.shape idx = true) :
    (bandpass o a).getD idx d =
      discreteVal o (a.lowpass.map (cutOf o a.srs)) (a.highpass.map (cutOf o a.srs))
        (radial o (axesHalf a.shape a.sirf) (srcIdx (axesHalf a.shape a.sirf) idx)) := by
  unfold bandpass
  rw [radialMask_getD o _ _ _ _ idx d hr h, bandpassVal_discrete o a hg]

/-- a Gaussian low-pass keeps the zero frequency: `exp(-0 / den) = 1` there -/
theorem dc_kept_gaussian_lowpass (Z : ZeroLaws o) (a : BPArgs α) (d : α) (hg : a.gaussian = true)
    (hr : (a.rrf && !a.sirf) = false) (hpos : ∀ n ∈ a.shape, 2 ≤ n) (hhp : a.highpass = none)
    (hexp : ∀ l, a.lowpass = some l →
      o.exp (o.div (o.neg (o.mul o.zero o.zero)) (gaussDen o (gaussUpper o a) l)) = o.one)
    (h11 : o.mul o.one o.one = o.one) :
    (bandpass o a).getD (a.shape.map (fun _ => 0)) d = o.one := by
  rw [bandpass_dc o Z a d hr hpos, bandpassVal_gaussian o a hg, hhp]
  unfold gaussVal
  cases hl : a.lowpass with
  | none => exact h11
  | some l => show o.mul (o.exp _) o.one = o.one; rw [hexp l hl]; exact h11

/-- a Gaussian high-pass removes the zero frequency: `1 - exp(-0 / den) = 0` there -/
theorem dc_removed_gaussian_highpass (Z : ZeroLaws o) (a : BPArgs α) (d : α) (hg : a.gaussian = true)
    (hr : (a.rrf && !a.sirf) = false) (hpos : ∀ n ∈ a.shape, 2 ≤ n) (c : α) (hhp : a.highpass = some c)
    (hexp : ∀ l, a.lowpass = some l ∨ l = c →
      o.exp (o.div (o.neg (o.mul o.zero o.zero)) (gaussDen o (gaussUpper o a) l)) = o.one)
    (hsub : o.sub o.one o.one = o.zero) (h10 : o.mul o.one o.zero = o.zero) :
    (bandpass o a).getD (a.shape.map (fun _ => 0)) d = o.zero := by
  rw [bandpass_dc o Z a d hr hpos, bandpassVal_gaussian o a hg, hhp]
  unfold gaussVal
  show o.mul _ (o.sub o.one (o.exp _)) = o.zero
  rw [hexp c (Or.inr rfl), hsub]
  cases hl : a.lowpass with
  | none => exact h10
  | some l => show o.mul (o.exp _) o.zero = o.zero; rw [hexp l (Or.inl hl)]; exact h10

end

/-- Gaussian low-pass 4×4, lowpass = 4 voxels at sampling rate 1 (exact stand-in `exp x = 1/(1-x)`): the
hypotheses of `dc_kept_gaussian_lowpass` hold and the zero frequency is kept; with a high-pass it is removed -/
def exBG : BPArgs Rat := ⟨[4, 4], some 4, none, [1], true, false, false⟩
example : ∀ l, exBG.lowpass = some l →
    ratOps.exp (ratOps.div (ratOps.neg (ratOps.mul ratOps.zero ratOps.zero)) (gaussDen ratOps (gaussUpper ratOps exBG) l)) = ratOps.one := by
  intro l h
  cases h; decide +kernel
example : (bandpass ratOps exBG).getD [0, 0] 7 = 1 ∧ (bandpass ratOps { exBG with highpass := some 8 }).getD [0, 0] 7 = 0 := by
  decide +kernel
example : ratOps.sub ratOps.one ratOps.one = ratOps.zero ∧ ratOps.mul ratOps.one ratOps.zero = ratOps.zero ∧
    ratOps.mul ratOps.one ratOps.one = ratOps.one := by decide +kernel


/-! ## tilted images (`frequency_grid_at_angle`, angle ≠ 0) -/

/-- centred grid values read at the negated DC-first index: exactly negated off the Nyquist terms -/
theorem ks_neg : ∀ (ts idx : List Nat), inShape ts idx = true → offNyquist ts idx = true →
    List.zipWith (fun (n i : Nat) => (i : Int) - ((n / 2 : Nat) : Int)) ts
        (srcIdx (axesOne ts) (negIdx (ts.map (fun _ => true)) ts idx)) =
      (List.zipWith (fun (n i : Nat) => (i : Int) - ((n / 2 : Nat) : Int)) ts (srcIdx (axesOne ts) idx)).map (fun x => -x) := by
  refine inShape_rec (fun _ => rfl) (fun n ns i is hi _ ih hny => ?_)
  have hny' : decide (2 * i ≠ n) = true ∧ offNyquist ns is = true := Bool.and_eq_true_iff.mp hny
  exact List.cons_eq_cons.mpr ⟨k_shiftSrc_negPos n i hi (of_decide_eq_true hny'.1), ih hny'.2⟩

theorem tiltK_neg (ts : List Nat) (op : Nat) (idx : List Nat) (h : inShape ts idx = true)
    (hny : offNyquist ts idx = true) :
    tiltK ts op (srcIdx (axesOne ts) (negIdx (ts.map (fun _ => true)) ts idx)) =
      (tiltK ts op (srcIdx (axesOne ts) idx)).map (fun x => -x) := by
  unfold tiltK
  simp only [ks_neg ts idx h hny, List.map_append, List.map_cons, List.map_take, List.map_drop, Int.neg_zero]


section
variable {α : Type} (o : Ops α)

theorem linForm_neg {E : α → α → Prop} (N : LinLaws o E) (row : List α) (k : List Int) :
    E (linForm o row (k.map (fun x => -x))) (o.neg (linForm o row k)) :=
  foldl_linForm_neg o N row k _ _ N.zero

theorem tiltedRadial_neg {E : α → α → Prop} (N : LinLaws o E) (R : List (List α)) (shape : List Nat) (k : List Int) :
    tiltedRadial o R shape (k.map (fun x => -x)) = tiltedRadial o R shape k := by
  unfold tiltedRadial
  simp only
  congr 2
  induction R generalizing shape with
  | nil => rfl
  | cons row rows ih =>
    cases shape with
    | nil => rfl
    | cons n ns =>
      simp only [List.zipWith_cons_cons, List.map_cons, ih ns]
      rw [N.sq_div _ _ _ (linForm_neg o N row k)]

theorem tiltedPlane_shape (R : List (List α)) (shape : List Nat) (op : Nat) (val : α → α) (c : Option α) :
    (tiltedPlane o R shape op val c).shape = tiltShape shape op := rfl

/-- the plane of a tilted image (any rotation matrix, any radial weighting - `weight_angle`,
`weight_relion`, `weight_grigorieff`, the cut-off mask of `Wedge.__call__`, the frequency grid of a tilt-stack
`CTF`), read DC first, is symmetric under frequency negation at every frequency that has no Nyquist component
of an even extent -/
theorem tiltedPlane_neg_symm_offNyquist {E : α → α → Prop} (N : LinLaws o E) (R : List (List α)) (shape : List Nat)
    (op : Nat) (val : α → α) (c : Option α) (idx : List Nat) (d : α)
    (h : inShape (tiltShape shape op) idx = true) (hny : offNyquist (tiltShape shape op) idx = true) :
    (tiltedPlane o R shape op val c).getD
        (srcIdx (axesOne (tiltShape shape op)) (negIdx ((tiltShape shape op).map (fun _ => true)) (tiltShape shape op) idx)) d =
      (tiltedPlane o R shape op val c).getD (srcIdx (axesOne (tiltShape shape op)) idx) d := by
  have hn := axesOne_n (tiltShape shape op)
  unfold tiltedPlane
  rw [Arr.getD_ofFn _ _ _ _ (inShape_srcIdx hn (inShape_negIdx hn h (flagsOk_one_all_true _))),
    Arr.getD_ofFn _ _ _ _ (inShape_srcIdx hn h)]
  simp only [tiltK_neg _ op idx h hny, tiltedRadial_neg o N]

end

example : LinLaws ratOps Eq := ratOps_linLaws
example : offNyquist [4, 5] [1, 2] = true ∧ offNyquist [4, 5] [2, 2] = false := by decide +kernel
example : tiltK [4, 5] 1 [3, 0] = [1, 0, -2] ∧ tiltK [4, 5] 0 [3, 0] = [0, 1, -2] := by decide +kernel

/-- a rotation by the angle with cos 3/5, sin 4/5 about the last axis of a 4×3×4 volume opened along axis 1 -/
def exR : List (List Rat) := [[3/5, -4/5, 0], [4/5, 3/5, 0], [0, 0, 1]]
example : (tiltedPlane ratOps exR [4, 3, 4] 1 (fun r => r) none).toList =
    [281/450, 1573/3600, 337/900, 1573/3600, 1237/3600, 281/1800, 337/3600, 281/1800, 1/4, 1/16, 0, 1/16,
     1237/3600, 281/1800, 337/3600, 281/1800] := by decide +kernel
example : (tiltedPlane ratOps exR [4, 3, 4] 1 (fun _ => 7/10) (some (1/10))).toList =
    [0, 0, 0, 0, 0, 0, 7/10, 0, 0, 7/10, 7/10, 7/10, 0, 0, 7/10, 0] := by decide +kernel
example : inShape (tiltShape [4, 3, 4] 1) [1, 3] = true ∧ offNyquist (tiltShape [4, 3, 4] 1) [1, 3] = true := by decide +kernel


/-- the zero frequency sits at the centre `n // 2` of the centred volume -/
theorem srcIdx_zeros : ∀ (s : List Nat), (∀ n ∈ s, 1 ≤ n) →
    srcIdx (axesOne s) (s.map (fun _ => 0)) = s.map (fun n => n / 2)
  | [], _ => rfl
  | n :: ns, h => List.cons_eq_cons.mpr
      ⟨shiftSrc_zero n (h n List.mem_cons_self), srcIdx_zeros ns fun m hm => h m (List.mem_cons_of_mem _ hm)⟩

section
variable {α : Type} (o : Ops α)

/-- zero frequency of any wedge (step or continuous): the centre value of the centred volume, multiplied by 1 when
a non-negative cut-off is present, thresholded unless weighted -/
theorem wedgeTail_dc (Z : ZeroLaws o) (vol : Arr α) (a : WTail α) (d : α) (hrrf : a.rrf = false)
    (hpos : ∀ n ∈ a.shape, 1 ≤ n) (hcut : ∀ c, a.cutoff = some c → o.le o.zero c = true) :
    (wedgeTail o vol a).getD (a.shape.map (fun _ => 0)) d =
      (let v := vol.getD (a.shape.map (fun n => n / 2)) o.zero
       let v := match a.cutoff with | none => v | some _ => o.mul v o.one
       if a.weightWedge then v else (if o.lt o.zero v then o.one else o.zero)) := by
  rw [wedgeTail_getD o vol a _ d hrrf (inShape_zeros a.shape hpos)]
  unfold tailCentred
  rw [radial_dc_one o Z a.shape hpos, srcIdx_zeros a.shape hpos]
  cases hc : a.cutoff with
  | none => rfl
  | some c => simp only [hcut c hc, if_true]

/-- an unweighted wedge whose centred volume is positive at the centre keeps the zero frequency -/
theorem wedgeTail_dc_kept (Z : ZeroLaws o) (vol : Arr α) (a : WTail α) (d : α) (hrrf : a.rrf = false)
    (hw : a.weightWedge = false) (hpos : ∀ n ∈ a.shape, 1 ≤ n) (hcut : ∀ c, a.cutoff = some c → o.le o.zero c = true)
    (hv : o.lt o.zero (vol.getD (a.shape.map (fun n => n / 2)) o.zero) = true)
    (hv1 : o.lt o.zero (o.mul (vol.getD (a.shape.map (fun n => n / 2)) o.zero) o.one) = true) :
    (wedgeTail o vol a).getD (a.shape.map (fun _ => 0)) d = o.one := by
  rw [wedgeTail_dc o Z vol a d hrrf hpos hcut]
  simp only [hw, Bool.false_eq_true, if_false]
  cases a.cutoff with
  | none => simp only [hv, if_true]
  | some c => simp only [hv1, if_true]

end

example : (wedgeTail ratOps (stepVolume ratOps exPlane [3, 4] 0 1 2) ⟨[3, 4], some (1/4), false, false⟩).getD [0, 0] 7 = 1 ∧
    (stepVolume ratOps exPlane [3, 4] 0 1 2).getD [1, 2] 0 = 2 ∧ ratOps.lt ratOps.zero 2 = true := by decide +kernel


/-! ## range under exact arithmetic (rational scalars), given the range of the profile / of the planes -/

/-- a weighted wedge stays within the range `[0, W]` of its centred volume (`W` = largest weight, by the `fmin`) -/
theorem wedgeTail_weighted_range_rat (vol : Arr Rat) (a : WTail Rat) (W : Rat) (hW : 0 ≤ W) (hw : a.weightWedge = true)
    (hvol : ∀ idx, 0 ≤ vol.getD idx 0 ∧ vol.getD idx 0 ≤ W) (idx : List Nat) :
    0 ≤ tailCentred ratOps vol a idx ∧ tailCentred ratOps vol a idx ≤ W := by
  unfold tailCentred
  simp only [hw, if_true]
  cases a.cutoff with
  | none => exact hvol idx
  | some c => exact cut_range_rat _ 0 W _ (le_refl 0) hW (hvol idx)

/-- the clip of `step_wedge` bounds the volume by the largest weight -/
theorem fmin_le_rat (x w : Rat) : fmin ratOps x w ≤ w := by
  show (if decide (x ≤ w) = true then x else w) ≤ w
  split
  · exact of_decide_eq_true ‹_›
  · exact le_refl w

/-- planes of untilted and tilted images stay within the range `[lo, hi] ∋ 0` of the radial weighting
(`weight_angle`: `[0, w]`; relion: `[0, 1]` for `|angle| ≤ 90°`; grigorieff: `[0, 1]`) -/
theorem tiltPlaneFn_range_rat (ts : List Nat) (val : Rat → Rat) (c : Option Rat) (lo hi : Rat) (hlo : lo ≤ 0) (hhi : 0 ≤ hi)
    (hval : ∀ r, lo ≤ val r ∧ val r ≤ hi) (idx : List Nat) (d : Rat) (h : inShape ts idx = true) :
    lo ≤ (tiltPlaneFn ratOps ts val c).getD idx d ∧ (tiltPlaneFn ratOps ts val c).getD idx d ≤ hi := by
  unfold tiltPlaneFn
  rw [Arr.getD_ofFn _ _ _ _ h]
  cases c with
  | none => exact hval _
  | some c => exact cut_range_rat _ lo hi _ hlo hhi (hval _)

theorem tiltedPlane_range_rat (R : List (List Rat)) (shape : List Nat) (op : Nat) (val : Rat → Rat) (c : Option Rat)
    (lo hi : Rat) (hlo : lo ≤ 0) (hhi : 0 ≤ hi) (hval : ∀ r, lo ≤ val r ∧ val r ≤ hi) (idx : List Nat) (d : Rat)
    (h : inShape (tiltShape shape op) idx = true) :
    lo ≤ (tiltedPlane ratOps R shape op val c).getD idx d ∧ (tiltedPlane ratOps R shape op val c).getD idx d ≤ hi := by
  unfold tiltedPlane
  rw [Arr.getD_ofFn _ _ _ _ h]
  cases c with
  | none => exact hval _
  | some c => exact cut_range_rat _ lo hi _ hlo hhi (hval _)

/-- relion weighting: `exp(·) ∈ [0, 1]` times `cos(angle) ∈ [-1, 1]` lies in `[-1, 1]`, in `[0, 1]` for `|angle| ≤ 90°` -/
theorem relion_bound_rat (e c : Rat) (he : 0 ≤ e ∧ e ≤ 1) (hc : -1 ≤ c ∧ c ≤ 1) :
    -1 ≤ ratOps.mul e c ∧ ratOps.mul e c ≤ 1 ∧ (0 ≤ c → 0 ≤ ratOps.mul e c) := by
  show -1 ≤ e * c ∧ e * c ≤ 1 ∧ (0 ≤ c → 0 ≤ e * c)
  refine ⟨?_, ?_, fun h => mul_nonneg he.1 h⟩
  · calc (-1 : Rat) ≤ -e := neg_le_neg he.2
      _ = e * -1 := (mul_neg_one e).symm
      _ ≤ e * c := mul_le_mul_of_nonneg_left hc.1 he.1
  · calc e * c ≤ e * 1 := mul_le_mul_of_nonneg_left hc.2 he.1
      _ = e := mul_one e
      _ ≤ 1 := he.2

/-- grigorieff weighting: for a non-negative dose `w` and `amplitude * f^power + offset > 0` the exponent is `≤ 0` -/
theorem grigorieff_exponent_rat (w q : Rat) (hw : 0 ≤ w) (hq : 0 < q) :
    ratOps.div w (ratOps.mul (ratOps.neg (ratOps.ofNat 2)) q) ≤ 0 := by
  show w / ((-((2 : Nat) : Rat)) * q) ≤ 0
  exact div_nonpos_of_nonneg_of_nonpos hw
    (mul_nonpos_of_nonpos_of_nonneg (neg_nonpos.mpr (Nat.cast_nonneg 2)) hq.le)

example : (∀ r : Rat, (0 : Rat) ≤ (fun _ => (7 : Rat) / 10) r ∧ (fun _ => (7 : Rat) / 10) r ≤ 7 / 10) := by
  intro r; constructor <;> norm_num
example : fmin ratOps 3 2 = 2 ∧ fmin ratOps (1/2) 2 = 1/2 := by decide +kernel


/-- exactly the six documented names are accepted, in any letter case -/
theorem recFilterKind_isSome (s : String) :
    (recFilterKind s).isSome = decide (s.toLower ∈ ["ram-lak", "ramp-cont", "ramp", "shepp-logan", "cosine", "hamming"]) := by
  show (if s.toLower ∈ ["ram-lak", "ramp-cont", "ramp", "shepp-logan", "cosine", "hamming"] then some s.toLower else none).isSome = _
  split
  · exact (decide_eq_true ‹_›).symm
  · exact (decide_eq_false ‹_›).symm

section
variable {α : Type} (o : Ops α)

theorem recFilterRadial_shape (ps : List Nat) (val : α → α) : (recFilterRadial o ps val).shape = ps := rfl

/-- entry `(i, j)` of the plane-shaped filter: `val` of the radial grid of the transposed shape at `(j, i)` -/
theorem recFilterRadial_getD (m n i j : Nat) (val : α → α) (d : α) (h : inShape [m, n] [i, j] = true) :
    (recFilterRadial o [m, n] val).getD [i, j] d = val (radial o (axesHalf [n, m] false) [j, i]) := by
  unfold recFilterRadial
  rw [Arr.getD_ofFn _ _ _ _ h]; rfl

theorem recFilterRadial_getD_rev (m n : Nat) (val : α → α) (d : α) {l : List Nat} (h : inShape [n, m] l = true) :
    (recFilterRadial o [m, n] val).getD l.reverse d = val (radial o (axesHalf [n, m] false) l) := by
  obtain ⟨a, b, rfl⟩ := List.length_eq_two.1 (inShape_length h)
  exact recFilterRadial_getD o m n b a val d ((inShape_reverse2 n m a b).symm.trans h)

/-- radial reconstruction filters are symmetric under frequency negation on both axes of the plane (read
through the `fftshift` position of a DC-first index of the transposed shape) -/
theorem recFilterRadial_neg_symm (L : SignLaws o) (m n : Nat) (val : α → α) (flags : List Bool) (idx : List Nat) (d : α)
    (h : inShape [n, m] idx = true) (hf : flagsOk (axesHalf [n, m] false) flags = true) :
    (recFilterRadial o [m, n] val).getD (srcIdx (axesHalf [n, m] false) (negIdx flags [n, m] idx)).reverse d =
      (recFilterRadial o [m, n] val).getD (srcIdx (axesHalf [n, m] false) idx).reverse d := by
  have hn := axesHalf_n [n, m] false
  rw [recFilterRadial_getD_rev o m n val d (inShape_srcIdx hn (inShape_negIdx hn h hf)),
    recFilterRadial_getD_rev o m n val d (inShape_srcIdx hn h), radial_neg o L hn h hf]

/-- at the centre of the plane (zero frequency) a radial reconstruction filter takes the value `val 0`:
`ram-lak`, `shepp-logan`, `cosine` and `hamming` (`f * g(f)`) remove the zero frequency of every projection -/
theorem recFilterRadial_centre (Z : ZeroLaws o) (m n : Nat) (val : α → α) (d : α) (hm : 2 ≤ m) (hn : 2 ≤ n) :
    (recFilterRadial o [m, n] val).getD [m / 2, n / 2] d = val o.zero := by
  have hpos : ∀ x ∈ [n, m], 2 ≤ x := List.forall_mem_cons.mpr ⟨hn, List.forall_mem_cons.mpr ⟨hm, fun _ h => nomatch h⟩⟩
  have := recFilterRadial_getD_rev o m n val d
    (inShape_srcIdx (axesHalf_n [n, m] false) (inShape_zeros [n, m] fun x hx => Nat.le_of_succ_le (hpos x hx)))
  -- the centre of the plane is where the shift puts the zero frequency
  rw [radial_dc o Z [n, m] false hpos] at this
  rw [← shiftSrc_zero m (Nat.lt_of_lt_of_le Nat.zero_lt_two hm), ← shiftSrc_zero n (Nat.lt_of_lt_of_le Nat.zero_lt_two hn)]
  exact this

theorem recFilterRamp_shape (ps : List Nat) (scale : α) : (recFilterRamp o ps scale).shape = ps := rfl

/-- the `ramp` filter depends on the tilt-axis position only and never exceeds 1 (`fmin(·, 1)`): every entry is the
scaled frequency, or 1 -/
theorem recFilterRamp_getD (m n i j : Nat) (scale : α) (d : α) (h : inShape [m, n] [i, j] = true) :
    (recFilterRamp o [m, n] scale).getD [i, j] d =
      (let v := o.mul (radial o (axesOne [n]) [j]) scale
       if o.le v o.one then v else o.one) := by
  unfold recFilterRamp
  rw [Arr.getD_ofFn _ _ _ _ h]; rfl

theorem recFilterRamp_const_along_opening (m n i i' j : Nat) (scale : α) (d : α)
    (h : inShape [m, n] [i, j] = true) (h' : inShape [m, n] [i', j] = true) :
    (recFilterRamp o [m, n] scale).getD [i, j] d = (recFilterRamp o [m, n] scale).getD [i', j] d := by
  rw [recFilterRamp_getD o m n i j scale d h, recFilterRamp_getD o m n i' j scale d h']

end

theorem recFilterRamp_le_one_rat (m n i j : Nat) (scale d : Rat) (h : inShape [m, n] [i, j] = true) :
    (recFilterRamp ratOps [m, n] scale).getD [i, j] d ≤ 1 := by
  rw [recFilterRamp_getD ratOps m n i j scale d h]
  simp only
  split
  · rename_i hle
    exact of_decide_eq_true hle
  · exact le_refl _

example : recFilterKind "Ram-Lak" = some "ram-lak" ∧ recFilterKind "HAMMING" = some "hamming" ∧ recFilterKind "hann" = none := by
  decide +kernel
example : (recFilterRadial ratOps [3, 5] (fun r => r)).toList = [2, 5/4, 1, 5/4, 2, 1, 1/4, 0, 1/4, 1, 2, 5/4, 1, 5/4, 2] := by
  decide +kernel
example : (recFilterRamp ratOps [2, 5] 10).toList = [1, 2/5, 0, 2/5, 1, 1, 2/5, 0, 2/5, 1] := by decide +kernel
example : flagsOk (axesHalf [5, 3] false) [true, true] = true ∧ inShape [5, 3] [4, 1] = true := by decide +kernel


/-! ## a band-pass / whitening filter that follows a reconstructed wedge in a composition -/

section
variable {α : Type} (o : Ops α)

/-- `Compose((wedge, band-pass))(shape=s, return_real_fourier=True)`: the band-pass filter sees the caller's
`return_real_fourier` (`rrf_never_emitted`) but the wedge's `shape = cropShape s`, `shape_is_real_fourier = True`
(`shape_emitted_iff`, `compose_overrides_emitted_key`); what it then returns is, voxel by voxel, its stand-alone
half-spectrum mask for `s` - so the composition is the product of the parts (`compose_eq_product`) -/
theorem bandpass_after_wedge (L : SignLaws o) (a : BPArgs α) (idx : List Nat) (d : α)
    (hpos : ∀ n ∈ a.shape, 1 ≤ n) (h : inShape (cropShape a.shape) idx = true) :
    (bandpass o { a with shape := cropShape a.shape, sirf := true, rrf := true }).getD idx d =
      (bandpass o { a with sirf := false, rrf := true }).getD idx d :=
  -- `bandpassVal` does not look at `shape`, `sirf`, `rrf`, and a shape flagged as half-spectrum is never cropped
  rfshape_eq_crop o L a.shape (bandpassVal o a) idx d hpos h

/-- the whitening filter after a wedge: it is called with the half-spectrum shape flagged as such and returns the
very same array as for the real-space shape -/
theorem whiten_after_wedge (spec : Array α) (s : List Nat) :
    whiten o spec (cropShape s) true = whiten o spec s false := by
  unfold whiten fourierShape
  simp

end

example : (bandpass ratOps { exBP with shape := cropShape exBP.shape, sirf := true, rrf := true }).toList =
    (bandpass ratOps { exBP with rrf := true }).toList := by decide +kernel


/-- the bins of a stack are those of one member: the batch axis is removed, the rank is `maskRank` -/
theorem binShape_length (s : List Nat) (b : Nat) (h : b < s.length) :
    (binShape s (some b)).length = maskRank s.length (some b) ∧ binShape s none = s := by
  unfold binShape maskRank
  simp [List.length_eraseIdx, h]

/-- with `weight_wedge=True` the caller's `weights` never reach `step_wedge` unless the (undocumented) keyword
`wedge_weights` is present -/
theorem stepWeightsFromCos_iff (ww g : Bool) : stepWeightsFromCos ww g = true ↔ ww = true ∧ g = false := by
  cases ww <;> cases g <;> decide

example : binShape [3, 9, 5] (some 0) = [9, 5] ∧ maskRank 3 (some 0) = 2 := by decide +kernel


example : (0 : Rat) ≤ 1/2 ∧ (1/2 : Rat) ≤ 1 ∧ (-1 : Rat) ≤ -1/3 ∧ (-1/3 : Rat) ≤ 1 ∧ ratOps.mul (1/2) (-1/3) = -1/6 := by
  decide +kernel
example : (0 : Rat) ≤ 1 ∧ (0 : Rat) < 3 ∧ ratOps.div 1 (ratOps.mul (ratOps.neg (ratOps.ofNat 2)) 3) = -1/6 := by decide +kernel

/-! ## the hard-edged pass band is a radial band -/

section
variable {α : Type} (o : Ops α)

theorem discreteVal_one_iff (hne : o.zero ≠ o.one) (hi lo : Option α) (r : α) :
    discreteVal o hi lo r = o.one ↔ (hi.all (fun h => o.le r h) && lo.all (fun l => o.le l r)) = true := by
  unfold discreteVal
  rw [ite_one_iff o hne]
  cases hi <;> cases lo <;> simp [Option.all]

/-- the passed frequencies of a hard-edged band-pass form a band: whatever lies (in the order `le` of the
scalars, assumed transitive - true of floats and of every ordered field) between two passed radial frequencies
is passed as well -/
theorem discrete_band (htrans : ∀ a b c : α, o.le a b = true → o.le b c = true → o.le a c = true)
    (hne : o.zero ≠ o.one) (hi lo : Option α) (r1 r r2 : α)
    (h1 : discreteVal o hi lo r1 = o.one) (h2 : discreteVal o hi lo r2 = o.one)
    (h1r : o.le r1 r = true) (hr2 : o.le r r2 = true) :
    discreteVal o hi lo r = o.one := by
  rw [discreteVal_one_iff o hne] at h1 h2 ⊢
  simp only [Bool.and_eq_true] at h1 h2 ⊢
  constructor
  · cases hi with
    | none => rfl
    | some h => exact htrans _ _ _ hr2 (by simpa [Option.all] using h2.1)
  · cases lo with
    | none => rfl
    | some l => exact htrans _ _ _ (by simpa [Option.all] using h1.2) h1r

/-- low-pass only: everything below a passed frequency is passed (a ball around the zero frequency) -/
theorem discrete_lowpass_ball (htrans : ∀ a b c : α, o.le a b = true → o.le b c = true → o.le a c = true)
    (hne : o.zero ≠ o.one) (hi : Option α) (r r2 : α) (h2 : discreteVal o hi none r2 = o.one) (hr2 : o.le r r2 = true) :
    discreteVal o hi none r = o.one := by
  rw [discreteVal_one_iff o hne] at h2 ⊢
  simp only [Option.all, Bool.and_true] at h2 ⊢
  cases hi with
  | none => rfl
  | some h => exact htrans _ _ _ hr2 h2

end

example : (∀ a b c : Rat, ratOps.le a b = true → ratOps.le b c = true → ratOps.le a c = true) ∧ ratOps.zero ≠ ratOps.one := by
  refine ⟨?_, by decide +kernel⟩
  intro a b c h1 h2
  have h1' : a ≤ b := of_decide_eq_true h1
  have h2' : b ≤ c := of_decide_eq_true h2
  exact decide_eq_true (le_trans h1' h2')
example : discreteVal ratOps (some (1/2)) (some (1/8)) (1/4) = 1 ∧ discreteVal ratOps (some (1/2)) (some (1/8)) (1/2) = 1 ∧
    discreteVal ratOps (some (1/2)) (some (1/8)) (3/8) = 1 := by decide +kernel


/-! ## `Wedge.__call__`: constructor's vs call's tilt angles -/

/-- without a call-time override of the angles nothing raises, the stack has one plane per tilt, the reported
angles describe it, and the cut-off (if any) is applied to every plane -/
theorem wedgeCallPlan_no_override (func : String) (n : Nat) (cutoff : Bool) :
    wedgeCallPlan func n n cutoff = ⟨false, n, n, List.replicate n cutoff⟩ := by
  unfold wedgeCallPlan
  have e : (if (func == "weight_angle") = true then n else n) = n := by split <;> rfl
  simp only [e, Nat.lt_irrefl, decide_false, Bool.and_false, Bool.or_self, Bool.false_eq_true, if_false]
  congr 1
  have : ∀ i ∈ List.range n, (cutoff && decide (i < n)) = cutoff := by
    intro i hi
    simp [List.mem_range.mp hi]
  rw [List.map_congr_left this, List.map_const', List.length_range]

/-- when it raises (`IndexError`): only `weight_angle` (`weight_type` `None` / `"angle"`) with more call angles than
weights, or a cut-off loop running over more constructor angles than there are planes -/
theorem wedgeCallPlan_raises_iff (func : String) (nSelf nCall : Nat) (cutoff : Bool) :
    (wedgeCallPlan func nSelf nCall cutoff).raises = true ↔
      (func = "weight_angle" ∧ (nSelf < nCall ∨ (cutoff = true ∧ nCall < nSelf))) := by
  unfold wedgeCallPlan
  by_cases hf : func = "weight_angle"
  · subst hf
    simp only [beq_self_eq_true, if_true, Bool.true_and, Bool.or_eq_true, decide_eq_true_eq, Bool.and_eq_true, true_and]
  · have hb : (func == "weight_angle") = false := by simpa using hf
    simp only [hb, Bool.false_eq_true, if_false, Bool.false_and, Bool.false_or, Nat.lt_irrefl, decide_false, Bool.and_false, hf,
      false_and]

/-- today's `weight_relion` / `weight_grigorieff` ignore call-time `angles`: the stack keeps one plane per
constructor angle while the returned dict reports the call's angles (2 planes, 3 reported angles) -/
theorem wedgeCallPlan_override_current_defect :
    wedgeCallPlan "weight_relion" 2 3 true = ⟨false, 2, 3, [true, true]⟩ ∧
    wedgeCallPlan "weight_angle" 2 3 false = ⟨true, 3, 3, []⟩ ∧
    wedgeCallPlan "weight_angle" 3 2 false = ⟨false, 2, 2, [false, false]⟩ := by decide +kernel

example : wedgeCallPlan "weight_grigorieff" 3 3 true = ⟨false, 3, 3, [true, true, true]⟩ := by decide +kernel


/-! ## per-axis index arithmetic; algebra of products -/

/-- frequency negation `(-j) mod n` is an involution on the positions of an axis -/
theorem negPos_involutive (n j : Nat) (hj : j < n) : negPos n (negPos n j) = j := by
  have h1 := negPos_cases n j hj
  have h2 := negPos_cases n _ (negPos_lt n j hj)
  omega

/-- the zero frequency is its own negation (so symmetric filters constrain nothing at DC) -/
theorem negPos_zero (n : Nat) : negPos n 0 = 0 := Nat.mod_self n

/-- the only self-conjugate positions of an axis are DC and, on an even axis, the Nyquist term -/
theorem negPos_fixed_iff (n j : Nat) (hj : j < n) : negPos n j = j ↔ (j = 0 ∨ 2 * j = n) := by
  have h1 := negPos_cases n j hj
  omega

/-- `fftfreq(n)*n` lies in `[-(n/2), (n-1)/2]`: even axes carry the Nyquist term as negative -/
theorem freqIndex_range (n j : Nat) (hj : j < n) :
    -((n / 2 : Nat) : Int) ≤ freqIndex n j ∧ freqIndex n j ≤ (((n - 1) / 2 : Nat) : Int) := by
  have h1 := freqIndex_cases n j hj
  omega

/-- distinct positions of an axis hold distinct signed frequencies (the grid is a bijection onto its range) -/
theorem freqIndex_injective (n i j : Nat) (hi : i < n) (hj : j < n) (h : freqIndex n i = freqIndex n j) : i = j := by
  have h1 := freqIndex_cases n i hi
  have h2 := freqIndex_cases n j hj
  omega

/-- on the retained half-spectrum (`j < n/2+1`) the frequency magnitude is the position itself -/
theorem freqIndex_half_natAbs (n j : Nat) (hj : j < n) (hh : j < halfLen n) : (freqIndex n j).natAbs = j := by
  unfold halfLen at hh
  have h1 := freqIndex_cases n j hj
  omega

/-- the half-spectrum never exceeds the full axis and keeps more than half of it (`n/2+1`) -/
theorem halfLen_bounds (n : Nat) (hn : 2 ≤ n) : halfLen n ≤ n ∧ n < 2 * halfLen n := by
  unfold halfLen; omega

/-- a shape that already is a half-spectrum shape is returned unchanged; otherwise its rank is kept -/
theorem fourierShape_length (shape : List Nat) (b : Bool) : (fourierShape shape b).length = shape.length := by
  unfold fourierShape
  split
  · rfl
  · exact cropShape_length shape

section
variable {α : Type} [CommMonoid α]

/-- composing with the all-ones filter is the identity (at every position, inside or outside the array) -/
theorem product_ones_identity (n : Nat) (parts : List (List α)) (i : Nat) :
    ((List.replicate n (1 : α) :: parts).map (fun p => p.getD i 1)).prod = (parts.map (fun p => p.getD i 1)).prod := by
  have h : (List.replicate n (1 : α)).getD i 1 = 1 := by
    simp only [List.getD_eq_getElem?_getD, List.getElem?_replicate]
    split <;> rfl
  rw [List.map_cons, List.prod_cons, h, one_mul]

/-- composition is associative: the product of two concatenated filter chains is the product of the chains' products -/
theorem product_append (ps qs : List (List α)) (i : Nat) :
    ((ps ++ qs).map (fun p => p.getD i 1)).prod =
      (ps.map (fun p => p.getD i 1)).prod * (qs.map (fun p => p.getD i 1)).prod := by
  rw [List.map_append, List.prod_append]

/-- composition of filters that are each symmetric under a position map `ν` (frequency negation) is symmetric -/
theorem product_symm (parts : List (List α)) (ν : Nat → Nat) (i : Nat)
    (h : ∀ p ∈ parts, p.getD (ν i) 1 = p.getD i 1) :
    (parts.map (fun p => p.getD (ν i) 1)).prod = (parts.map (fun p => p.getD i 1)).prod := by
  rw [List.map_congr_left h]

end

example : negPos 6 (negPos 6 2) = 2 ∧ negPos 6 3 = 3 ∧ freqIndex 6 3 = -3 ∧ halfLen 6 = 4 := by decide +kernel


end Pm.C12
