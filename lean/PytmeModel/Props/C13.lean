import PytmeModel.Model.C13
import PytmeModel.Proofs.Common
import PytmeModel.Proofs.DftRoundTrip
import PytmeModel.Proofs.C13Pad
import PytmeModel.Proofs.C13Fast
import PytmeModel.Proofs.C13Window
import PytmeModel.Proofs.C13Roll
import PytmeModel.Proofs.C13Post
import PytmeModel.Proofs.C13Dims
import PytmeModel.Model.C04
import PytmeModel.Model.C05
import PytmeModel.Props.C01
import PytmeModel.Proofs.C13TopK
import PytmeModel.Proofs.C13Misc
import Mathlib.Tactic.Ring

/-! # C13 — FFT shapes, padding and cropping helpers are exact for every shape -/
namespace Pm.C13

/-! ## planned transform shape ≥ linear-convolution shape; half-spectrum shape -/

/-- the planned length is never below the requested one -/
theorem le_nextFastLen (n : Nat) : n ≤ nextFastLen n := by
  unfold nextFastLen; split
  · omega
  · exact le_nextFastFrom _ _

/-- whatever the search returns inside its fuel is an FFTW-fast length -/
theorem nextFastFrom_fast_or_exhausted (f n : Nat) :
    isFast (nextFastFrom f n) = true ∨ nextFastFrom f n = n + f := by
  induction f generalizing n with
  | zero => right; simp [nextFastFrom]
  | succ f ih =>
    unfold nextFastFrom
    split
    · left; assumption
    · rcases ih (n + 1) with h | h
      · left; exact h
      · right; omega

/-- the linear convolution extent contains both operands -/
theorem convLen_ge (a b : Nat) (hb : 1 ≤ b) (ha : 1 ≤ a) : a ≤ convLen a b ∧ b ≤ convLen a b :=
  ⟨Nat.le_sub_one_of_lt (Nat.lt_add_of_pos_right hb), Nat.le_sub_one_of_lt (Nat.lt_add_of_pos_left ha)⟩

theorem le_map_nextFastLen : ∀ c : List Nat, List.Forall₂ (· ≤ ·) c (c.map nextFastLen)
  | [] => .nil
  | x :: xs => .cons (le_nextFastLen x) (le_map_nextFastLen xs)

/-- every axis of the planned (fast) shape is at least the linear-convolution extent -/
theorem fast_ge_conv (s1 s2 : List Nat) :
    List.Forall₂ (· ≤ ·) (convShape s1 s2) (fastShape s1 s2) :=
  le_map_nextFastLen _

theorem convShape_length (s1 s2 : List Nat) (h : s1.length = s2.length) :
    (convShape s1 s2).length = s1.length ∧ (fastShape s1 s2).length = s1.length := by
  simp [convShape, fastShape, h]

/-- Hermitian symmetry: every frequency `k < N` is stored in the half spectrum either directly
or as the conjugate of `N - k` — the half spectrum determines the full one. -/
theorem hermitian_half_determines (N k : Nat) (hk : k < N) :
    k < halfLen N ∨ (0 < N - k ∧ N - k < halfLen N) := by
  unfold halfLen; omega

/-- an odd and an even real length share the same half length: this is why the inverse
transform is built with an explicit real shape. -/
theorem half_ambiguous (h : Nat) (hh : 2 ≤ h) : halfLen (2 * h - 2) = h ∧ halfLen (2 * h - 1) = h := by
  unfold halfLen; omega

/-- and given the half length *and the parity* the real length is unique -/
theorem half_with_parity_unique (N M : Nat) (hl : halfLen N = halfLen M) (hp : N % 2 = M % 2) : N = M := by
  unfold halfLen at hl; omega

/-! ## `next_fast_len` is the *least* FFTW-fast length at or above the request -/

/-- the fast-length test is exactly "`2^a 3^b 5^c 7^d · r` with `r ∈ {1, 11, 13}`" (FFTW's efficiently handled sizes) -/
theorem isFast_iff (n : Nat) :
    isFast n = true ↔ ∃ a b c d r, (r = 1 ∨ r = 11 ∨ r = 13) ∧ n = 2 ^ a * 3 ^ b * 5 ^ c * 7 ^ d * r := by
  constructor
  · exact isFast_sound n
  · rintro ⟨a, b, c, d, r, hr, rfl⟩
    exact isFast_complete a b c d r hr
example : isFast 2340 = true ∧ isFast 143 = false ∧ isFast 17 = false := by decide +kernel

/-- **the planned length is fast** (the search never runs out of fuel: a power of two lies in `[n, 2n]`) — supersedes
`nextFastFrom_fast_or_exhausted`, which is kept as the inductive step -/
theorem nextFastLen_isFast (n : Nat) (hn : 1 ≤ n) : isFast (nextFastLen n) = true := by
  have h2 := nextFastLen_le_two_mul n
  unfold nextFastLen at h2 ⊢
  rw [if_neg (by omega)] at h2 ⊢
  -- the fuel `n + 1` cannot run out: that would put the result above `2n`
  rcases nextFastFrom_fast_or_exhausted (n + 1) n with h | h
  · exact h
  · omega
example : isFast (nextFastLen 17) = true ∧ isFast (nextFastLen 1025) = true := by decide +kernel

/-- **and it is the least one**: nothing in `[n, nextFastLen n)` is fast -/
theorem nextFastLen_least (n k : Nat) (h1 : n ≤ k) (h2 : k < nextFastLen n) : isFast k = false :=
  nextFastLen_minimal n k h1 h2
example : 17 ≤ 17 ∧ 17 < nextFastLen 17 ∧ isFast 17 = false := by decide +kernel

/-- the padding never doubles an axis: `n ≤ nextFastLen n ≤ 2n` -/
theorem nextFastLen_bounds (n : Nat) : n ≤ nextFastLen n ∧ nextFastLen n ≤ 2 * n :=
  ⟨le_nextFastLen n, nextFastLen_le_two_mul n⟩
example : nextFastLen 17 = 18 ∧ nextFastLen 1025 = 1029 ∧ nextFastLen 131 = 132 := by decide +kernel

/-- specification of `next_fast_len`: any `v ≥ n` that is fast and has nothing fast below it down to `n` is the result -/
theorem nextFastLen_unique (n v : Nat) (hn : 1 ≤ n) (h1 : n ≤ v) (hv : isFast v = true)
    (hmin : ∀ k, n ≤ k → k < v → isFast k = false) : nextFastLen n = v := by
  rcases Nat.lt_trichotomy (nextFastLen n) v with h | h | h
  · have := hmin _ (le_nextFastLen n) h
    rw [nextFastLen_isFast n hn] at this; cases this
  · exact h
  · have := nextFastLen_minimal n v h1 h
    rw [hv] at this; cases this
example : nextFastLen 17 = 18 := by
  refine nextFastLen_unique 17 18 (by decide) (by decide) (by decide) ?_
  intro k h1 h2
  have hk : k = 17 := by omega
  subst hk
  decide +kernel

/-! ## `topleft_pad` -/

theorem topleftPad_shape {α : Type} (a : Arr α) (shape : List Nat) (pad : α) :
    (topleftPad a shape pad).shape = shape := rfl

/-- corner padding keeps the data in the leading corner and fills the rest with the pad value
(an input larger than the target shape is cropped to its leading corner) -/
theorem topleftPad_spec {α : Type} (a : Arr α) (shape idx : List Nat) (pad d : α)
    (h : inShape shape idx = true) :
    (topleftPad a shape pad).getD idx d = if inShape a.shape idx then a.getD idx pad else pad := by
  unfold topleftPad
  rw [Arr.getD_ofFn _ _ _ _ h]

/-! ## `_center_slice`, `extract_center` -/

/-- the centre slice has exactly the requested extent and lies inside the array -/
theorem centerSlice_extent (cur new : Nat) (h : new ≤ cur) :
    0 ≤ centerStart cur new ∧ centerStop cur new ≤ cur ∧
    centerStop cur new - centerStart cur new = new := by
  rw [centerStop_eq cur new h, centerStart_eq cur new h]
  exact ⟨Int.natCast_nonneg _, Int.ofNat_le.mpr (half_diff_add_le cur new h), by rw [Nat.cast_add, Int.add_comm, Int.add_sub_cancel]⟩

/-- it is taken symmetrically about the centre: the margins differ by at most one voxel,
the extra one (odd difference) going to the far side -/
theorem centerSlice_symmetric (cur new : Nat) (h : new ≤ cur) :
    let left := centerStart cur new
    let right := (cur : Int) - centerStop cur new
    left ≤ right ∧ right ≤ left + 1 := by
  have hm := central_margins cur new h
  rw [centerStop_eq cur new h, centerStart_eq cur new h, ← Nat.cast_sub (half_diff_add_le cur new h)]
  exact ⟨Int.ofNat_le.mpr hm.1, Int.ofNat_le.mpr hm.2⟩

/-- `extract_center` (truncating) and `_center_slice` (flooring) agree when shrinking -/
theorem extractCenter_eq_centerSlice (cur new : Nat) (h : new ≤ cur) :
    extractStart cur new = centerStart cur new ∧ extractStop cur new = centerStop cur new := by
  unfold extractStop centerStop extractStart centerStart
  have : (0:Int) ≤ (cur:Int) - new := by omega
  rw [Int.tdiv_eq_ediv_of_nonneg this]; simp

/-! ## `apply_convolution_mode`: the crop of each mode, one axis -/

theorem convCrop_full (conv s1 s2 : Nat) : convCrop .full conv s1 s2 = some (0, conv) := rfl

/-- `same`: extent `s1`, starting `(s2-1)/2` into the full convolution -/
theorem convCrop_same (s1 s2 : Nat) (h1 : 1 ≤ s1) (h2 : 1 ≤ s2) :
    convCrop .same (convLen s1 s2) s1 s2 = some ((s2 - 1) / 2, s1) := by
  unfold convLen
  rw [convCrop_same_any _ s1 s2 (Nat.le_sub_one_of_lt (Nat.lt_add_of_pos_right h2)), Nat.add_sub_assoc h2,
    Nat.add_sub_cancel_left]

/-- `valid`: extent `s1 - s2 + s2 % 2`, taken centrally out of the full convolution -/
theorem convCrop_valid (s1 s2 : Nat) (h2 : 1 ≤ s2) (h : s2 ≤ s1) :
    convCrop .valid (convLen s1 s2) s1 s2 =
      some ((convLen s1 s2 - (s1 - s2 + s2 % 2)) / 2, s1 - s2 + s2 % 2) :=
  convCrop_valid_any _ s1 s2 h (validExt_le_convLen_linear s1 s2 h2 h)

/-- the `valid` window is central: margins differ by at most one -/
theorem convCrop_valid_centered (s1 s2 : Nat) (h2 : 1 ≤ s2) (h : s2 ≤ s1) :
    let ext := s1 - s2 + s2 % 2
    let lo := (convLen s1 s2 - ext) / 2
    let hiMargin := convLen s1 s2 - (lo + ext)
    lo ≤ hiMargin ∧ hiMargin ≤ lo + 1 :=
  central_margins (convLen s1 s2) (s1 - s2 + s2 % 2) (validExt_le_convLen_linear s1 s2 h2 h)

/-! ## `centered`, `centered_mask`: n-D boxes; an explicitly given convolution shape -/

/-- one axis of `centered`: when shrinking (or keeping) the extent the python slice is exactly
`[(c-n)/2, (c-n)/2 + n)` — also for `n = c` (no reduction at all) and `n = 0` -/
theorem centered_axis (c n : Nat) (h : n ≤ c) :
    pySlice c (centerStart c n) (centerStop c n) = ((c - n) / 2, (c - n) / 2 + n) :=
  pySlice_center c n h

/-- every axis of the n-D centre box has the requested extent, starting `(c-n)/2` in -/
theorem centeredBox_eq (cur new : List Nat) (h : List.Forall₂ (fun c n => n ≤ c) cur new) :
    centeredBox cur new = List.zipWith (fun c n => ((c - n) / 2, (c - n) / 2 + n)) cur new :=
  List.zipWith_congr _ _ _ _ (h.imp fun c n hcn => centered_axis c n hcn)

/-- the backend's `extract_center` (truncating) cuts the same n-D box as `centered` (flooring) -/
theorem extractBox_eq_centeredBox (cur new : List Nat) (h : List.Forall₂ (fun c n => n ≤ c) cur new) :
    extractBox cur new = centeredBox cur new :=
  List.zipWith_congr _ _ _ _ (h.imp fun c n hcn => by
    rw [(extractCenter_eq_centerSlice c n hcn).1, (extractCenter_eq_centerSlice c n hcn).2])

/-- `same` out of an explicitly given convolution extent `conv ≥ s1`: extent `s1`, central in `conv` -/
theorem convCrop_same_conv (conv s1 s2 : Nat) (h : s1 ≤ conv) :
    convCrop .same conv s1 s2 = some ((conv - s1) / 2, s1) :=
  convCrop_same_any conv s1 s2 h

/-- `valid` out of an explicitly given convolution extent -/
theorem convCrop_valid_conv (conv s1 s2 : Nat) (h : s2 ≤ s1) (hv : s1 - s2 + s2 % 2 ≤ conv) :
    convCrop .valid conv s1 s2 =
      some ((conv - (s1 - s2 + s2 % 2)) / 2, s1 - s2 + s2 % 2) :=
  convCrop_valid_any conv s1 s2 h hv

/-- any central window `[(conv-ext)/2, (conv-ext)/2+ext)` has margins that differ by at most one,
the extra voxel on the far side -/
theorem central_window_margins (conv ext : Nat) (h : ext ≤ conv) :
    let lo := (conv - ext) / 2
    let hiMargin := conv - (lo + ext)
    lo ≤ hiMargin ∧ hiMargin ≤ lo + 1 :=
  central_margins conv ext h

theorem inBox_cons (lo hi i : Nat) (bs : List (Nat × Nat)) (is : List Nat) :
    inBox ((lo, hi) :: bs) (i :: is) = true ↔ lo ≤ i ∧ i < hi ∧ inBox bs is = true := by
  simp [inBox, and_assoc]

/-- the masking form keeps the shape -/
theorem centeredMask_shape (a : Arr Int) (new : List Nat) : (centeredMask a new).shape = a.shape := rfl

/-- the masking form keeps the values inside the centre box and zeroes everything else -/
theorem centeredMask_spec (a : Arr Int) (new idx : List Nat) (h : inShape a.shape idx = true) :
    (centeredMask a new).getD idx 0 =
      if inBox (centeredBox a.shape new) idx then a.getD idx 0 else 0 := by
  unfold centeredMask
  rw [Arr.getD_ofFn _ _ _ _ h]

/-! ## `MatchingData._fourier_padding`: the four results, every branch, tied to the numbers C01 assumes -/

/-- the three shapes: `conv` is the linear-convolution shape of `max(target, template)` with the per-axis pad extent
(template extent with Fourier padding, 1 without, 1 on batch axes), `fast` its planned shape (never smaller),
`ft` the half-spectrum shape of `fast` -/
theorem fourierPadding_shapes (tg tp : List Nat) (bm : List Bool) (pad : Bool) :
    (fourierPadding tg tp bm pad).conv
        = convShape (List.zipWith max tg tp) (List.zipWith (fourierPadAxis pad) tp bm) ∧
    (fourierPadding tg tp bm pad).fast = (fourierPadding tg tp bm pad).conv.map nextFastLen ∧
    (fourierPadding tg tp bm pad).ft = fastFtShape (fourierPadding tg tp bm pad).fast ∧
    List.Forall₂ (· ≤ ·) (fourierPadding tg tp bm pad).conv (fourierPadding tg tp bm pad).fast := by
  exact ⟨rfl, rfl, rfl, le_map_nextFastLen _⟩
example : fourierPadding [5, 8] [7, 3] [false, false] true = ⟨[13, 10], [13, 10], [13, 6], [1, 0]⟩ := by decide +kernel

/-- without batch axes `conv_shape` is, axis by axis, the `convLen` of C01's frame analysis -/
theorem fourierPadding_conv_eq_C01 (tg tp : List Nat) (bm : List Bool) (pad : Bool) (h : NoBatch tg tp bm) :
    (fourierPadding tg tp bm pad).conv = List.zipWith (fun n m => Pm.C01.convLen n m pad) tg tp :=
  conv_eq_C01 pad tg tp bm h
example : NoBatch [5, 8] [7, 3] [false, false] := ⟨rfl, rfl, trivial⟩

/-- **`fourier_shift` is exactly the vector C01 assumes, for every pair of shapes** (template larger than the target on
any subset of axes included, with and without Fourier padding): the vector code with its global gate
`np.sum(shape_mask)`, true divisions and final truncation computes C01's per-axis `fourierShiftFull`. -/
theorem fourierPadding_shift_eq_C01 (tg tp : List Nat) (bm : List Bool) (pad : Bool) (h : NoBatch tg tp bm) :
    (fourierPadding tg tp bm pad).shift = Pm.C01.shiftsOfFull pad tg tp :=
  shifts_eq_C01 pad _ tg tp bm h (anyNeg_of_someLarger tg tp bm h)
example : (fourierPadding [5, 8, 4] [7, 3, 9] [false, false, false] false).shift = Pm.C01.shiftsOfFull false [5, 8, 4] [7, 3, 9] := by decide +kernel

/-- when the template fits on every axis this is `shiftsOf` (zeros with padding, `1 - m/2 - m%2` without) -/
theorem fourierPadding_shift_fits (tg tp : List Nat) (bm : List Bool) (pad : Bool) (h : NoBatch tg tp bm)
    (hf : Fits tg tp) : (fourierPadding tg tp bm pad).shift = Pm.C01.shiftsOf pad tp := by
  rw [fourierPadding_shift_eq_C01 tg tp bm pad h, shiftsOfFull_fits pad tg tp hf]
example : Fits [5, 8] [4, 3] := ⟨by decide, by decide, trivial⟩

/-- batch axes (and axes on which the template fits) are never corrected, whatever happens on the other axes -/
theorem fourierPadding_shift_batch (tg tp : List Nat) (bm : List Bool) (pad : Bool)
    (h : ∀ n m b, (n, m, b) ∈ tg.zip (tp.zip bm) → b = true ∨ m ≤ n) :
    (fourierPadding tg tp bm pad).shift = zip3With (fun _ m _ => baseShift pad m) tg tp bm :=
  shifts_any_batch pad _ tg tp bm h
example : (fourierPadding [5, 8] [7, 3] [true, false] false).shift = [-3, -1] := by decide +kernel

/-- one axis, any gate: a batch axis / an axis where the template fits keeps the uncorrected shift -/
theorem shiftAxis_uncorrected (pad g : Bool) (n m : Nat) (b : Bool) (h : b = true ∨ m ≤ n) :
    shiftAxis pad g n m b = baseShift pad m := by
  rcases h with rfl | h
  · exact shiftAxis_batch pad g n m
  · exact shiftAxis_fits pad g n m b h
example : shiftAxis false true 8 3 false = baseShift false 3 ∧ shiftAxis true true 2 9 true = baseShift true 9 := by decide +kernel

/-- `target_padding`: with `pad_target` the target grows by `m - m%2` per axis (nothing on batch axes, nothing without it),
and then the `valid` output of the padded target has the original target extent again -/
theorem targetPadding_spec (pad : Bool) (tp : List Nat) (bm : List Bool) :
    targetPadding pad tp bm = List.zipWith (fun m b => if pad ∧ b = false then m - m % 2 else 0) tp bm := by
  unfold targetPadding
  congr 1
  funext m b
  cases pad <;> cases b <;> simp
example : targetPadding true [7, 4, 5] [false, false, true] = [6, 4, 0] := by decide +kernel

theorem targetPadding_restores_valid (n m : Nat) (h : 1 ≤ m) :
    validLen (n + (m - m % 2)) m = n := by
  unfold validLen; omega
example : validLen (10 + (5 - 5 % 2)) 5 = 10 := by decide +kernel

/-! ## `_set_matching_dimension`: what `fourier_padding()` hands to `_fourier_padding` -/

/-- **no batch axes** (`MatchingData(target, template)` as constructed): the target's shape as it is, the template's shape
cut / filled with ones to the target's rank, and a batch mask of zeros — so `NoBatch` holds and every theorem about
`_fourier_padding` above applies to what `fourier_padding()` computes -/
theorem matchingDims_plain (ts ps : List Nat) :
    matchingDims ts ps [] [] = .ok ⟨ts, (List.range' 0 ts.length).map (fun j => ps.getD j 1),
      List.replicate ts.length false⟩ := by
  rw [matchingDims_of_loop rfl rfl rfl rfl (matchLoop_plain ts ps [] [] ts.length 0 0 0 _ (fun j _ _ => ⟨rfl, rfl⟩))]
  simp only [List.map_map, Function.comp_def, Nat.sub_zero, map_getD_range', map_const_range']
example : matchingDims [5, 8, 4] [7, 3] [] [] = .ok ⟨[5, 8, 4], [7, 3, 1], [false, false, false]⟩ := by decide +kernel

theorem matchingDims_plain_same_rank (ts ps : List Nat) (h : ps.length = ts.length) :
    matchingDims ts ps [] [] = .ok ⟨ts, ps, List.replicate ts.length false⟩ := by
  rw [matchingDims_plain, ← h, map_getD_range' 1 ps]
example : matchingDims [5, 8] [7, 3] [] [] = .ok ⟨[5, 8], [7, 3], [false, false]⟩ := by decide +kernel

example : matchLoop [9, 5] [3] [0] [] 2 0 0 0 0 = some [(9, 1, true), (5, 3, false)] := by decide +kernel

/-- **a stack of targets** (`target_dims = 0`, template of the measurement rank): the stack axis is flagged as batch axis
and gets template extent 1, the remaining axes keep both shapes in order -/
theorem matchingDims_target_stack (B : Nat) (ts ps : List Nat) (h : ps.length = ts.length) :
    matchingDims (B :: ts) ps [0] [] = .ok ⟨B :: ts, 1 :: ps, true :: List.replicate ts.length false⟩ := by
  rw [matchingDims_of_loop (by simp) rfl rfl (by rw [h]; exact Nat.sub_self _) (matchLoop_stack B ts ps)]
  simp only [List.map_cons, List.map_map, Function.comp_def, map_getD_cons_range', map_const_range']
  rw [← h, map_getD_pred_range']
example : matchingDims [9, 5, 8] [3, 4] [0] [] = .ok ⟨[9, 5, 8], [1, 3, 4], [true, false, false]⟩ := by decide +kernel

example : matchLoop [5] [9, 3] [] [0] 2 0 0 0 0 = some [(1, 9, true), (5, 3, false)] := by decide +kernel

/-- **a stack of templates** (`template_dims = 0`, target of the measurement rank): a leading batch axis of target extent 1 -/
theorem matchingDims_template_stack (B : Nat) (ts ps : List Nat) (h : ps.length = ts.length) :
    matchingDims ts (B :: ps) [] [0] = .ok ⟨1 :: ts, B :: ps, true :: List.replicate ts.length false⟩ := by
  rw [matchingDims_of_loop rfl (by simp) rfl (by rw [List.length_cons, h]; exact Nat.sub_self _)
    (matchLoop_template_stack B ts ps)]
  simp only [List.map_cons, List.map_map, Function.comp_def, map_getD_pred_range', map_const_range']
  rw [← h, map_getD_cons_range']
example : matchingDims [5, 8] [9, 3, 4] [] [0] = .ok ⟨[1, 5, 8], [9, 3, 4], [true, false, false]⟩ := by decide +kernel

/-- **the object-level chain**: for a `MatchingData(target, template)` of equal ranks, what `fourier_padding(pad)` returns
(`_set_matching_dimension` → `_fourier_padding`) has C01's convolution shape and C01's shift vector -/
theorem object_fourier_padding (ts ps : List Nat) (h : ps.length = ts.length) (pad : Bool) (r : MatchDims)
    (hr : matchingDims ts ps [] [] = .ok r) :
    (fourierPadding r.target r.template r.batch pad).shift = Pm.C01.shiftsOfFull pad ts ps ∧
    (fourierPadding r.target r.template r.batch pad).conv = List.zipWith (fun n m => Pm.C01.convLen n m pad) ts ps := by
  rw [matchingDims_plain_same_rank ts ps h] at hr
  cases hr
  have hb := noBatch_replicate ts ps h.symm
  exact ⟨fourierPadding_shift_eq_C01 ts ps _ pad hb, fourierPadding_conv_eq_C01 ts ps _ pad hb⟩
example : matchingDims [5, 8] [7, 3] [] [] = .ok ⟨[5, 8], [7, 3], [false, false]⟩ := by decide +kernel

/-! ## roll by the Fourier shift, then crop: the window the analyzers report (ties to C01 and C05) -/

/-- the executable read position is C01's `rawIdx` -/
theorem postSrc_is_rawIdx (N : Nat) (shift : Int) (start t : Nat) :
    postSrc N shift start t = (Pm.C01.rawIdx N shift (start : Int) (t : Int)).toNat := by
  unfold postSrc rollSrc Pm.C01.rawIdx
  congr 2
  push_cast
  ring
example : postSrc 16 (-2) 0 14 = 0 := by decide +kernel

/-- and C05's `mapSrc` (where `MaxScoreOverRotations._postprocess` reads the value it reports) -/
theorem postSrc_is_mapSrc (ax : Pm.C05.Axis) (t : Nat) (h : 0 ≤ Pm.C05.cropStart ax) :
    Pm.C05.mapSrc ax t = postSrc ax.fast ax.shift (Pm.C05.cropStart ax).toNat t := by
  unfold Pm.C05.mapSrc postSrc
  congr 1
  omega
example : Pm.C05.mapSrc ⟨16, 16, 16, -2⟩ 14 = postSrc 16 (-2) 0 14 := by decide +kernel

/-- the three crop-start conventions in the code base — flooring (`_center_slice`, this model), C01's `cropStart`, and the
truncating `astype(int)` of the peak callers' `_postprocess` (C05) — are the same number whenever the output fits -/
theorem cropStart_conventions_agree (conv ext : Nat) (h : ext ≤ conv) (fast : Nat) (shift : Int) :
    centerStart conv ext = (((conv - ext) / 2 : Nat) : Int) ∧
    Pm.C01.cropStart conv ext = (((conv - ext) / 2 : Nat) : Int) ∧
    Pm.C05.cropStart ⟨fast, conv, (ext : Int), shift⟩ = (((conv - ext) / 2 : Nat) : Int) := by
  refine ⟨centerStart_eq conv ext h, centerStart_eq conv ext h, ?_⟩
  -- truncation and flooring agree on the non-negative difference
  show Int.tdiv ((conv : Int) - ext) 2 = _
  rw [Int.tdiv_eq_ediv_of_nonneg (Int.sub_nonneg.mpr (Int.ofNat_le.mpr h))]
  exact centerStart_eq conv ext h
example : centerStart 13 5 = 4 ∧ Pm.C01.cropStart 13 5 = 4 ∧ Pm.C05.cropStart ⟨13, 13, 5, 1⟩ = 4 := by decide +kernel

/-- **full Fourier padding, `same` crop, any pair of extents**: with the shift `_fourier_padding` returns and the crop
start `apply_convolution_mode` uses, output voxel `t` shows raw voxel `t + (m-1)/2` — the window C01 assumes -/
theorem postSrc_same_pad (g : Bool) (n m N t : Nat) (hm : 0 < m) (hn : 0 < n) (ht : t < n)
    (hN : max n m + m - 1 ≤ N) (hg : n < m → g = true) :
    postSrc N (shiftAxis true g n m false) ((max n m + m - 1 - n) / 2) t = t + (m - 1) / 2 :=
  window_same_pad g n m N t hm ht hN hg
example : postSrc 13 (shiftAxis true true 5 7 false) ((max 5 7 + 7 - 1 - 5) / 2) 4 = 4 + (7 - 1) / 2 := by decide +kernel

/-- without Fourier padding (template fits): the same window for every voxel whose window lies inside the target -/
theorem postSrc_same_nopad (g : Bool) (n m N t : Nat) (b : Bool) (hm : 0 < m) (hmn : m ≤ n) (hN : n ≤ N)
    (h0 : m / 2 ≤ t) (h1 : t + (m - 1) / 2 ≤ n - 1) :
    postSrc N (shiftAxis false g n m b) 0 t = t + (m - 1) / 2 :=
  window_same_nopad g n m N t b hm hmn hN h1
example : postSrc 8 (shiftAxis false false 8 3 false) 0 5 = 5 + (3 - 1) / 2 := by decide +kernel

/-- `valid` crop: output voxel `j` shows raw voxel `j + m/2 + (m-1)/2`, with and without padding -/
theorem postSrc_valid (pad g : Bool) (n m N j : Nat) (b : Bool) (hm : 0 < m) (hmn : m ≤ n)
    (hN : Pm.C01.convLen n m pad ≤ N) (hj : j < n - m + m % 2) :
    postSrc N (shiftAxis pad g n m b) ((Pm.C01.convLen n m pad - (n - m + m % 2)) / 2) j = j + m / 2 + (m - 1) / 2 :=
  window_valid pad g n m N j b hm hmn hN hj
example : postSrc 10 (shiftAxis true false 8 3 false) ((Pm.C01.convLen 8 3 true - (8 - 3 + 3 % 2)) / 2) 2 = 2 + 3 / 2 + (3 - 1) / 2 := by decide +kernel

/-- side conditions of C01's n-D frame lemma follow from positivity alone when the planned shape is the one
`_fourier_padding` returns -/
theorem sameFullOk_of_fourierPadding (ns ms : List Nat) (ts : List Int)
    (ht : List.Forall₂ (fun n t => (0 : Nat) < n ∧ 0 ≤ t ∧ t < (n : Int)) ns ts)
    (hm : List.Forall₂ (fun (_ : Nat) m => 0 < m) ns ms) :
    Pm.C01.SameFullOk ns ms ((List.zipWith (fun n m => Pm.C01.convLen n m true) ns ms).map nextFastLen) ts := by
  induction ht generalizing ms with
  | nil => cases hm; trivial
  | cons h _ ih =>
    cases hm with
    | cons hm hmr => exact ⟨⟨hm, h.1, le_nextFastLen _, h.2.1, h.2.2⟩, ih _ hmr⟩
example : List.Forall₂ (fun n t => (0 : Nat) < n ∧ 0 ≤ t ∧ t < (n : Int)) [5, 8] [4, 0] := by
  repeat constructor

/-- **n-D, full Fourier padding, every pair of shapes**: with the planned shape and the shift vector returned by
`_fourier_padding` and the `same` crop, the frame index the pipeline reads for a target voxel `t` is C01's `rawPos`
(`t + (m-1)/2` per axis) — the premise of C01's `implCorr_same_full`, now derived from the executable planner. -/
theorem fourierPadding_frame_same (tg tp : List Nat) (bm : List Bool) (t : List Int) (h : NoBatch tg tp bm)
    (ht : List.Forall₂ (fun n t => (0 : Nat) < n ∧ 0 ≤ t ∧ t < (n : Int)) tg t)
    (hm : List.Forall₂ (fun (_ : Nat) m => 0 < m) tg tp) :
    Pm.C01.frameIdx (fourierPadding tg tp bm true).fast (fourierPadding tg tp bm true).shift
      (Pm.C01.sameCrops true tg tp) t = Pm.C01.rawPos tp t := by
  have hs := fourierPadding_shift_eq_C01 tg tp bm true h
  have hf : (fourierPadding tg tp bm true).fast
      = (List.zipWith (fun n m => Pm.C01.convLen n m true) tg tp).map nextFastLen := by
    rw [(fourierPadding_shapes tg tp bm true).2.1, fourierPadding_conv_eq_C01 tg tp bm true h]
  rw [hs, hf]
  exact (Pm.C01.frame_same_full tg tp _ t (sameFullOk_of_fourierPadding tg tp t ht hm)).1
example : Pm.C01.frameIdx (fourierPadding [5, 8] [7, 3] [false, false] true).fast (fourierPadding [5, 8] [7, 3] [false, false] true).shift
    (Pm.C01.sameCrops true [5, 8] [7, 3]) [4, 0] = Pm.C01.rawPos [7, 3] [4, 0] := by decide +kernel

/-- array level: the post-processed map (roll, cut, crop) at `idx` is the raw map at the rolled, shifted index -/
theorem postMap_spec {α : Type} (a : Arr α) (shift : List Int) (mode : Mode) (conv s1 s2 : List Nat) (d : α)
    (boxes : List (Nat × Nat)) (hb : convCrops mode conv s1 s2 = some boxes) (idx : List Nat)
    (h1 : inShape (boxes.map (·.2)) idx = true)
    (h2 : inShape a.shape (List.zipWith (· + ·) (boxes.map (·.1)) idx) = true) :
    ∃ r, postMap a shift mode conv s1 s2 d = some r ∧
      r.getD idx d = a.getD (rollIdx a.shape shift (List.zipWith (· + ·) (boxes.map (·.1)) idx)) d := by
  refine ⟨_, by unfold postMap; rw [hb], ?_⟩
  rw [crop_spec _ _ _ _ _ h1, rollArr_spec _ _ _ _ h2]
example : (postMap (⟨[4], #[10, 11, 12, 13]⟩ : Arr Int) [-1] .same [4] [2] [3] 0).map (·.toList) = some [12, 13] := by decide +kernel

/-- per axis the rolled index is `postSrc` -/
theorem rollIdx_cons (N : Nat) (Ns : List Nat) (s : Int) (ss : List Int) (st t : Nat) (is : List Nat) :
    rollIdx (N :: Ns) (s :: ss) ((st + t) :: is) = postSrc N s st t :: rollIdx Ns ss is := rfl
example : rollIdx [7, 4] [2, -1] [1 + 3, 0 + 2] = [postSrc 7 2 1 3, postSrc 4 (-1) 0 2] := by decide +kernel

/-- n-D, template fits, with or without Fourier padding, `same` crop: the planner's shift and planned shape give
C01's `rawPos` (premise of C01's `implCorr_same`) -/
theorem fourierPadding_frame_same_fits (pad : Bool) (tg tp : List Nat) (bm : List Bool) (t : List Int)
    (h : NoBatch tg tp bm) (ht : FitsAt pad tg tp t) :
    Pm.C01.frameIdx (fourierPadding tg tp bm pad).fast (fourierPadding tg tp bm pad).shift
      (Pm.C01.sameCrops pad tg tp) t = Pm.C01.rawPos tp t := by
  rw [fourierPadding_shift_fits tg tp bm pad h (fitsAt_fits pad tg tp t ht),
    (fourierPadding_shapes tg tp bm pad).2.1, fourierPadding_conv_eq_C01 tg tp bm pad h]
  refine (Pm.C01.frame_same pad tg tp _ t ?_).1
  clear h
  fun_induction FitsAt pad tg tp t with
  | case1 => trivial
  | case2 n ns m ms t ts ih =>
    obtain ⟨⟨hm, hmn, h0, h1, hw⟩, hr⟩ := ht
    exact ⟨⟨hm, hmn, le_nextFastLen _, h0, h1, hw⟩, ih hr⟩
  | case3 => cases ht
example : FitsAt false [8, 5] [3, 2] [5, 1] := by
  refine ⟨⟨by decide, by decide, by decide, by decide, fun _ => by decide⟩, ⟨by decide, by decide, by decide, by decide, fun _ => by decide⟩, trivial⟩

/-- n-D, `valid` crop: output voxel `j` reads C01's `rawPos` of translation `validT j` (premise of `implCorr_valid`) -/
theorem fourierPadding_frame_valid (pad : Bool) (tg tp : List Nat) (bm : List Bool) (j : List Int)
    (h : NoBatch tg tp bm) (hj : ValidAt tg tp j) :
    Pm.C01.frameIdx (fourierPadding tg tp bm pad).fast (fourierPadding tg tp bm pad).shift
      (Pm.C01.validCrops pad tg tp) j = Pm.C01.rawPos tp (Pm.C01.validT tp j) := by
  rw [fourierPadding_shift_fits tg tp bm pad h (validAt_fits tg tp j hj),
    (fourierPadding_shapes tg tp bm pad).2.1, fourierPadding_conv_eq_C01 tg tp bm pad h]
  refine (Pm.C01.frame_valid pad tg tp _ j ?_).1
  clear h
  fun_induction ValidAt tg tp j with
  | case1 => trivial
  | case2 n ns m ms j js ih =>
    obtain ⟨⟨hm, hmn, h0, h1⟩, hr⟩ := hj
    exact ⟨⟨hm, hmn, le_nextFastLen _, h0, h1⟩, ih hr⟩
  | case3 => cases hj
example : ValidAt [8, 5] [3, 2] [5, 1] := by
  refine ⟨⟨by decide, by decide, by decide, by decide⟩, ⟨by decide, by decide, by decide, by decide⟩, trivial⟩

/-- **array level, every pair of shapes, full Fourier padding, `same` mode** — the executable pipeline
`roll(shift) → [:conv] → centre crop` applied to a raw map `a` with the shift vector computed by the vector code of
`_fourier_padding` (gate `g`): the result has the target's shape and its voxel `t` is the raw voxel
`t + (m-1)/2` on every axis (the template's centre voxel placed at `t`), whether or not the template is larger than the
target on some axes. -/
theorem postMap_same_pad {α : Type} (a : Arr α) (d : α) (g : Bool) (tg tp : List Nat) (bm : List Bool) (t : List Nat)
    (h : NoBatch tg tp bm) (hg : SomeLarger tg tp → g = true) (hok : SamePadOk tg tp a.shape t) :
    ∃ r, postMap a (zip3With (shiftAxis true g) tg tp bm) .same (padConv tg tp) tg tp d = some r ∧
      r.shape = tg ∧ r.getD t d = a.getD (List.zipWith (fun t m => t + (m - 1) / 2) t tp) d := by
  obtain ⟨hf, hb⟩ := same_pad_facts g tg tp bm a.shape t h hg hok
  exact axisFacts_read a d .same (padConv tg tp) tg tp hf hb
example : SamePadOk [5, 8] [7, 3] [13, 10] [4, 0] := by
  refine ⟨⟨by decide, by decide, by decide, by decide⟩, ⟨by decide, by decide, by decide, by decide⟩, trivial⟩

/-- … in particular for the planned shape and the shift vector `_fourier_padding` itself returns -/
theorem postMap_fourierPadding_same {α : Type} (a : Arr α) (d : α) (tg tp : List Nat) (bm : List Bool) (t : List Nat)
    (h : NoBatch tg tp bm) (hok : SamePadOk tg tp a.shape t) :
    ∃ r, postMap a (fourierPadding tg tp bm true).shift .same (padConv tg tp) tg tp d = some r ∧
      r.shape = tg ∧ r.getD t d = a.getD (List.zipWith (fun t m => t + (m - 1) / 2) t tp) d :=
  postMap_same_pad a d _ tg tp bm t h (anyNeg_of_someLarger tg tp bm h) hok
example : NoBatch [5, 8] [7, 3] [false, false] ∧ SamePadOk [5, 8] [7, 3] [13, 10] [4, 0] :=
  ⟨⟨rfl, rfl, trivial⟩, ⟨by decide, by decide, by decide, by decide⟩, ⟨by decide, by decide, by decide, by decide⟩, trivial⟩

/-- and `padConv` is the `conv_shape` it returns -/
theorem fourierPadding_conv_pad (tg tp : List Nat) (bm : List Bool) (h : NoBatch tg tp bm) :
    (fourierPadding tg tp bm true).conv = padConv tg tp :=
  fourierPadding_conv_eq_C01 tg tp bm true h
example : (postMap (Arr.ofFn [13] (fun i => (i.getD 0 0 : Nat))) (fourierPadding [5] [7] [false] true).shift .same
    (padConv [5] [7]) [5] [7] 0).map (·.toList) = some [3, 4, 5, 6, 7] := by decide +kernel

/-- **array level, `valid` mode, with or without Fourier padding, template fits (batch axes allowed)**: the result has
shape `n - m + m%2` per axis and its voxel `j` is the raw voxel `j + m/2 + (m-1)/2` — translation `j + m/2` in C01's frame -/
theorem postMap_valid {α : Type} (a : Arr α) (d : α) (pad g : Bool) (tg tp : List Nat) (bm : List Bool) (j : List Nat)
    (hok : ValidOkN pad tg tp bm a.shape j) :
    ∃ r, postMap a (zip3With (shiftAxis pad g) tg tp bm) .valid (convOf pad tg tp) tg tp d = some r ∧
      r.shape = validExts tg tp ∧
      r.getD j d = a.getD (List.zipWith (fun j m => j + m / 2 + (m - 1) / 2) j tp) d := by
  obtain ⟨hf, hb⟩ := valid_facts pad g hok
  exact axisFacts_read a d .valid (convOf pad tg tp) tg tp hf hb
example : ValidOkN true [8, 5] [3, 2] [false, false] [10, 6] [5, 1] :=
  .cons (by decide) (by decide) (by decide) (by decide) (.cons (by decide) (by decide) (by decide) (by decide) .nil)
example : (postMap (Arr.ofFn [10] (fun i => (i.getD 0 0 : Nat))) (fourierPadding [8] [3] [false] true).shift .valid
    (convOf true [8] [3]) [8] [3] 0).map (·.toList) = some [2, 3, 4, 5, 6, 7] := by decide +kernel

/-- **array level, `same` mode without Fourier padding, template fits**: the result has the target's shape and every voxel
whose window lies inside the target is the raw voxel `t + (m-1)/2` -/
theorem postMap_same_nopad {α : Type} (a : Arr α) (d : α) (g : Bool) (tg tp : List Nat) (bm : List Bool) (t : List Nat)
    (hok : SameNoPadOk tg tp bm a.shape t) :
    ∃ r, postMap a (zip3With (shiftAxis false g) tg tp bm) .same tg tg tp d = some r ∧
      r.shape = tg ∧ r.getD t d = a.getD (List.zipWith (fun t m => t + (m - 1) / 2) t tp) d := by
  obtain ⟨hf, hb⟩ := same_nopad_facts g hok
  exact axisFacts_read a d .same tg tg tp hf hb
example : SameNoPadOk [8, 5] [3, 2] [false, false] [8, 5] [5, 1] :=
  .cons (by decide) (by decide) (by decide) (by decide) (by decide)
    (.cons (by decide) (by decide) (by decide) (by decide) (by decide) .nil)

/-- the convolution shape used there is the one `_fourier_padding` returns -/
theorem fourierPadding_conv_convOf (tg tp : List Nat) (bm : List Bool) (pad : Bool) (h : NoBatch tg tp bm) :
    (fourierPadding tg tp bm pad).conv = convOf pad tg tp := fourierPadding_conv_eq_C01 tg tp bm pad h
example : (fourierPadding [5, 8] [7, 3] [false, false] false).conv = convOf false [5, 8] [7, 3] := by decide +kernel

/-- C04's model of the analyzer post-processing reads the same source index as this model (roll undone after the crop start is added) -/
theorem C04_postSrc_eq_rollIdx : ∀ (shape : List Nat) (shift : List Int) (starts idx : List Nat),
    Pm.C04.postSrc shape shift starts idx = rollIdx shape shift (List.zipWith (· + ·) starts idx)
  | [], _, _, _ => rfl
  | _ :: _, [], _, _ => rfl
  | _ :: _, _ :: _, [], _ => rfl
  | _ :: _, _ :: _, _ :: _, [] => rfl
  | n :: ns, s :: ss, st :: sts, i :: is => by
    have ih := C04_postSrc_eq_rollIdx ns ss sts is
    unfold rollIdx at ih ⊢
    simp only [Pm.C04.postSrc, List.zipWith_cons_cons, zip3With, ih, Nat.add_comm i st]
example : Pm.C04.postSrc [7, 4] [2, -1] [1, 0] [3, 2] = rollIdx [7, 4] [2, -1] [1 + 3, 0 + 2] := by decide +kernel

/-- … hence C04's post-processed array is this model's `crop ∘ roll`, voxel for voxel -/
theorem C04_postArr_eq (a : Arr Int) (shift : List Int) (starts exts idx : List Nat)
    (h1 : inShape exts idx = true) (h2 : inShape a.shape (List.zipWith (· + ·) starts idx) = true) :
    (Pm.C04.postArr a shift starts exts).getD idx 0 = (crop (rollArr a shift 0) starts exts 0).getD idx 0 := by
  unfold Pm.C04.postArr
  rw [Arr.getD_ofFn _ _ _ _ h1, crop_spec _ _ _ _ _ h1, rollArr_spec _ _ _ _ h2, C04_postSrc_eq_rollIdx]
example : (Pm.C04.postArr (⟨[5], #[1, 2, 3, 4, 5]⟩ : Arr Int) [1] [1] [3]).toList
    = (crop (rollArr (⟨[5], #[1, 2, 3, 4, 5]⟩ : Arr Int) [1] 0) [1] [3] 0).toList := by decide +kernel

/-- rolling by `s'` and then by `s` is rolling by `s + s'` (per axis, any signs, any size of the shifts) -/
theorem roll_compose (N : Nat) (s s' : Int) (i : Nat) (hN : 0 < N) :
    rollSrc N s (rollSrc N s' i) = rollSrc N (s + s') i := rollSrc_rollSrc N s s' i hN
example : rollSrc 7 (-2) (rollSrc 7 16 3) = rollSrc 7 14 3 := by decide +kernel

/-- n-D: the source index of two successive rolls is the source index of one roll by the summed shift vector;
a rolled index stays inside the array; rolling by zero reads the voxel itself -/
theorem rollIdx_compose (shape : List Nat) (s s' : List Int) (idx : List Nat) (h : inShape shape idx = true)
    (h1 : s.length = shape.length) (h2 : s'.length = shape.length) :
    rollIdx shape s (rollIdx shape s' idx) = rollIdx shape (List.zipWith (· + ·) s s') idx ∧
    inShape shape (rollIdx shape s idx) = true ∧
    rollIdx shape (shape.map fun _ => (0 : Int)) idx = idx :=
  ⟨rollIdx_rollIdx shape s s' idx h h1 h2, rollIdx_inShape shape s idx h h1, rollIdx_zero shape idx h⟩
example : rollIdx [4, 5] [1, -2] (rollIdx [4, 5] [-1, 2] [3, 0]) = [3, 0] := by decide +kernel

/-- array level: rolling back undoes the roll (`roll(roll(a, s), -s) = a`), voxel for voxel -/
theorem rollArr_inverse {α : Type} (a : Arr α) (s : List Int) (d : α) (idx : List Nat)
    (h : inShape a.shape idx = true) (hs : s.length = a.shape.length) :
    (rollArr (rollArr a s d) (s.map (- ·)) d).getD idx d = a.getD idx d := by
  have hl : (s.map (- ·)).length = a.shape.length := by simpa using hs
  have h' := rollIdx_inShape a.shape (s.map (- ·)) idx h hl
  rw [rollArr_spec (rollArr a s d) _ d idx h]
  show (rollArr a s d).getD (rollIdx a.shape (s.map (- ·)) idx) d = _
  rw [rollArr_spec a s d _ h', rollIdx_rollIdx a.shape s (s.map (- ·)) idx h hs hl, zipWith_add_neg s a.shape hs,
    rollIdx_zero a.shape idx h]
example : (rollArr (rollArr (⟨[5], #[1, 2, 3, 4, 5]⟩ : Arr Int) [2] 0) [-2] 0).toList = [1, 2, 3, 4, 5] := by decide +kernel

/-- `full` mode with a zero shift reads the raw map unchanged -/
theorem postSrc_full (N t : Nat) (h : t < N) : postSrc N 0 0 t = t := by
  unfold postSrc; rw [Nat.zero_add]; exact rollSrc_zero N t h
example : postSrc 10 0 0 7 = 7 := by decide +kernel

/-- closed form of the template-larger-than-target correction with full padding: the shift is the difference of the
`same` crop start in the enlarged convolution shape and the template's half width -/
theorem shiftAxis_larger_closed (n m : Nat) (h : n < m) :
    shiftAxis true true n m false = (((2 * m - 1 - n) / 2 : Nat) : Int) - (((m - 1) / 2 : Nat) : Int) := by
  rw [shiftAxis_larger_halves n m h]
  omega
example : shiftAxis true true 5 7 false = 1 ∧ shiftAxis true true 4 7 false = 1 ∧ shiftAxis true true 4 8 false = 2 := by decide +kernel

/-- all four results have one entry per axis -/
theorem fourierPadding_lengths (tg tp : List Nat) (bm : List Bool) (pad : Bool) (h : NoBatch tg tp bm) :
    (fourierPadding tg tp bm pad).conv.length = tg.length ∧ (fourierPadding tg tp bm pad).fast.length = tg.length ∧
    (fourierPadding tg tp bm pad).shift.length = tg.length := by
  obtain ⟨h1, h2⟩ := noBatch_lengths (shiftAxis pad ((zip3With shapeDiff tg tp bm).any (· < 0))) tg tp bm h
  have hc : (fourierPadding tg tp bm pad).conv.length = tg.length := by
    rw [fourierPadding_conv_eq_C01 tg tp bm pad h, List.length_zipWith, h1, Nat.min_self]
  exact ⟨hc, by rw [(fourierPadding_shapes tg tp bm pad).2.1, List.length_map, hc], h2⟩
example : (fourierPadding [5, 8, 4] [7, 3, 2] [false, false, false] true).shift.length = 3 := by decide +kernel

/-! ## `apply_convolution_mode`: the cropping form and the masking form agree on the kept box -/

theorem centeredBox_hit (cur new idx : List Nat) (h : List.Forall₂ (fun c n => n ≤ c) cur new)
    (hi : inShape new idx = true) :
    inBox (List.zipWith (fun c n => ((c - n) / 2, (c - n) / 2 + n)) cur new)
      (List.zipWith (· + ·) (List.zipWith (fun c n => (c - n) / 2) cur new) idx) = true ∧
    inShape cur (List.zipWith (· + ·) (List.zipWith (fun c n => (c - n) / 2) cur new) idx) = true := by
  induction h generalizing idx with
  | nil =>
    cases idx with
    | nil => exact ⟨rfl, rfl⟩
    | cons _ _ => cases hi
  | @cons c n cs ns hcn _ ih =>
    cases idx with
    | nil => cases hi
    | cons i is =>
      rw [inShape_cons] at hi
      obtain ⟨ih1, ih2⟩ := ih is hi.2
      simp only [List.zipWith_cons_cons]
      rw [inBox_cons, inShape_cons]
      have hlt := Nat.add_lt_add_left hi.1 ((c - n) / 2)
      exact ⟨⟨Nat.le_add_right _ _, hlt, ih1⟩, Nat.lt_of_lt_of_le hlt (half_diff_add_le c n hcn), ih2⟩
example : List.Forall₂ (fun c n => n ≤ c) [9, 6] [4, 6] ∧ inShape [4, 6] [3, 5] = true :=
  ⟨.cons (by decide) (.cons (by decide) .nil), by decide⟩

/-- **both forms of `apply_convolution_mode` agree**: inside the centre box the masking form (`mask_output=True`,
shape kept, rest zeroed) holds exactly the values the cropping form returns, voxel for voxel -/
theorem mask_agrees_crop (a : Arr Int) (new idx : List Nat) (h : List.Forall₂ (fun c n => n ≤ c) a.shape new)
    (hi : inShape new idx = true) :
    (centeredMask a new).getD (List.zipWith (· + ·) (List.zipWith (fun c n => (c - n) / 2) a.shape new) idx) 0
      = (crop a (List.zipWith (fun c n => (c - n) / 2) a.shape new) new 0).getD idx 0 := by
  obtain ⟨hb, hs⟩ := centeredBox_hit a.shape new idx h hi
  rw [centeredMask_spec a new _ hs, centeredBox_eq a.shape new h, hb, crop_spec _ _ _ _ _ hi]
  simp
example : (centeredMask (⟨[5], #[5,6,7,8,9]⟩ : Arr Int) [2]).getD [1 + 1] 0 = (crop (⟨[5], #[5,6,7,8,9]⟩ : Arr Int) [1] [2] 0).getD [1] 0 := by decide +kernel

example : List.zipWith (· + ·) ([5, 6, 7].map fun _ => 0) [2, 3] = [2, 3] := by decide +kernel

/-- the leading-corner cut to the convolution shape reads the array itself -/
theorem convCut_spec (a : Arr Int) (conv idx : List Nat) (h : inShape (List.zipWith min conv a.shape) idx = true) :
    (crop a (conv.map fun _ => 0) (List.zipWith min conv a.shape) 0).getD idx 0 = a.getD idx 0 := by
  rw [crop_spec _ _ _ _ _ h, zipWith_zero_add]
  have := inShape_length h
  rw [this, List.length_zipWith]
  omega
example : (crop (⟨[6], #[1, 2, 3, 4, 5, 6]⟩ : Arr Int) [0] [5] 0).getD [4] 0 = 5 := by decide +kernel

/-- **masking form, all three modes**: the result has the shape of the array cut to the convolution shape; `full` keeps
every value, `same` / `valid` keep the values inside the centre box of the mode and zero the rest -/
theorem convMask_spec (mode : Mode) (a : Arr Int) (conv s1 s2 idx : List Nat)
    (h : inShape (List.zipWith min conv a.shape) idx = true)
    (hv : mode = .valid → (List.zipWith validLen s1 s2).any (· < 0) = false) :
    ∃ r, convMask mode a conv s1 s2 = some r ∧ r.shape = List.zipWith min conv a.shape ∧
      r.getD idx 0 = match mode with
        | .full => a.getD idx 0
        | .same => if inBox (centeredBox (List.zipWith min conv a.shape) s1) idx then a.getD idx 0 else 0
        | .valid => if inBox (centeredBox (List.zipWith min conv a.shape)
            ((List.zipWith validLen s1 s2).map Int.toNat)) idx then a.getD idx 0 else 0 := by
  have hc := convCut_spec a conv idx h
  cases mode with
  | full => exact ⟨_, rfl, rfl, hc⟩
  | same =>
    refine ⟨_, rfl, rfl, ?_⟩
    rw [centeredMask_spec _ _ _ h, hc]; rfl
  | valid =>
    have hv' := hv rfl
    refine ⟨centeredMask (crop a (conv.map fun _ => 0) (List.zipWith min conv a.shape) 0)
      ((List.zipWith validLen s1 s2).map Int.toNat), ?_, rfl, ?_⟩
    · unfold convMask; simp [hv']
    · rw [centeredMask_spec _ _ _ h, hc]; rfl
example : (convMask .same (⟨[6], #[1, 2, 3, 4, 5, 6]⟩ : Arr Int) [5] [3] [3]).map (·.toList) = some [0, 2, 3, 4, 0] := by decide +kernel

/-! ## `topk_indices` -/

/-- accepted exactly when `k` does not exceed the number of elements (and there is an element) -/
theorem topkFlat_isSome (vals : List Int) (k : Nat) :
    (topkFlat vals k).isSome = true ↔ k ≤ vals.length ∧ 0 < vals.length := by
  unfold topkFlat
  by_cases h : vals.length < k ∨ vals.length = 0
  · rw [if_pos h]; simp only [Option.isSome_none, Bool.false_eq_true, false_iff]; omega
  · rw [if_neg h]; simp only [Option.isSome_some, true_iff]; omega
example : topkFlat [3, 1, 2] 4 = none ∧ (topkFlat [3, 1, 2] 3).isSome = true := by decide +kernel

/-- `k` positions are returned, all different, all inside the array -/
theorem topkFlat_positions (vals : List Int) (k : Nat) (fl : List Nat) (h : topkFlat vals k = some fl) :
    fl.length = k ∧ fl.Nodup ∧ ∀ i ∈ fl, i < vals.length := by
  obtain ⟨rfl, hk, _⟩ := topkFlat_eq vals k fl h
  refine ⟨by rw [List.length_map, topkPairs_length vals k hk], topkPairs_nodup vals k, ?_⟩
  intro i hi
  obtain ⟨p, hp, rfl⟩ := List.mem_map.mp hi
  have := topkPairs_mem vals k p hp
  exact (List.getElem?_eq_some_iff.mp this).1
example : topkFlat [3, 9, 9, 0] 2 = some [1, 2] := by
  simp [topkFlat, valIdx, geVal, List.mergeSort, List.zipIdx, List.MergeSort.Internal.splitInTwo]

/-- the values at the returned positions are in descending order (largest first) -/
theorem topkFlat_sorted (vals : List Int) (k : Nat) (fl : List Nat) (h : topkFlat vals k = some fl) :
    (fl.map fun i => vals.getD i 0).Pairwise (fun a b => b ≤ a) := by
  obtain ⟨rfl, _, _⟩ := topkFlat_eq vals k fl h
  rw [List.map_map, List.pairwise_map]
  refine (List.Pairwise.and_mem.mp (topkPairs_sorted vals k)).imp ?_
  rintro a b ⟨ha, hb, hab⟩
  simp only [Function.comp, topkPairs_getD vals k a ha, topkPairs_getD vals k b hb]
  exact hab
example : topkFlat [3, 1, 2] 3 = some [0, 2, 1] := by
  simp [topkFlat, valIdx, geVal, List.mergeSort, List.zipIdx, List.MergeSort.Internal.splitInTwo]

/-- **the `k` largest**: no position that was left out holds a value above any returned one (ties included) -/
theorem topkFlat_dominates (vals : List Int) (k : Nat) (fl : List Nat) (h : topkFlat vals k = some fl)
    (i : Nat) (hi : i ∈ fl) (j : Nat) (hj : j < vals.length) (hn : j ∉ fl) :
    vals.getD j 0 ≤ vals.getD i 0 := by
  obtain ⟨rfl, _, _⟩ := topkFlat_eq vals k fl h
  obtain ⟨p, hp, rfl⟩ := List.mem_map.mp hi
  have ej : vals[j]? = some vals[j] := List.getElem?_eq_getElem hj
  rw [topkPairs_getD vals k p hp, List.getD_eq_getElem?_getD, ej]
  exact topkPairs_dominates vals k p hp j vals[j] ej hn
example : topkFlat [3, 1, 2, 3] 2 = some [0, 3] := by
  simp [topkFlat, valIdx, geVal, List.mergeSort, List.zipIdx, List.MergeSort.Internal.splitInTwo]

/-- the n-D result lists, per axis, the unravelled coordinates of those flat positions -/
theorem topkIndices_spec (a : Arr Int) (k : Nat) (fl : List Nat) (h : topkFlat a.toList k = some fl) :
    topkIndices a k = some ((List.range a.shape.length).map fun ax => fl.map fun f => (unflat a.shape f).getD ax 0) := by
  unfold topkIndices; rw [h]; rfl
example : ∃ fl, topkFlat (⟨[2, 3], #[3, 1, 2, 9, 8, 0]⟩ : Arr Int).toList 2 = some fl :=
  Option.isSome_iff_exists.mp ((topkFlat_isSome _ _).mpr (by decide))

/-! ## `indices` -/

theorem indicesArr_spec (shape : List Nat) (a : Nat) (idx : List Nat) (d : Nat)
    (h : inShape (shape.length :: shape) (a :: idx) = true) :
    (indicesArr shape).getD (a :: idx) d = idx.getD a 0 := by
  unfold indicesArr
  rw [Arr.getD_ofFn _ _ _ _ h]
example : (indicesArr [2, 3]).toList = [0, 0, 0, 1, 1, 1, 0, 1, 2, 0, 1, 2] := by decide +kernel

/-! ## `center_of_mass` with integer weights: numerator and denominator of the rational coordinate -/

/-- per axis the result is (Σ w·x, Σ w) over the voxels that pass the cutoff -/
theorem centerOfMass_spec (a : Arr Int) (cut : Option Int) (ax : Nat) (h : ax < a.shape.length) :
    (centerOfMass a cut)[ax]? = some (wMoment cut (axisEntries a ax), wSum cut (axisEntries a ax)) := by
  unfold centerOfMass
  simp [List.getElem?_map, List.getElem?_range h]
example : centerOfMass (⟨[2, 2], #[1, 2, 3, 4]⟩ : Arr Int) none = [(7, 10), (6, 10)] := by decide +kernel

/-- cutoff semantics: voxels at or below the cutoff contribute nothing — same as leaving them out -/
theorem centerOfMass_cutoff (c : Int) (es : List (Nat × Int)) :
    wSum (some c) es = wSum none (es.filter fun e => decide (c < e.2)) ∧
    wMoment (some c) es = wMoment none (es.filter fun e => decide (c < e.2)) := by
  induction es with
  | nil => exact ⟨rfl, rfl⟩
  | cons e es ih =>
    obtain ⟨x, w⟩ := e
    by_cases h : c < w <;> simp [wSum, wMoment, keepW, h, ih.1, ih.2]
example : centerOfMass (⟨[2, 2], #[1, 2, 3, 4]⟩ : Arr Int) (some 2) = [(7, 7), (4, 7)] := by decide +kernel

/-- **translation covariance**: moving every point by `s` moves the centre of mass by `s`
(`num' / den' = num / den + s` as `num' = num + s · den`, `den' = den`) -/
theorem centerOfMass_translate (cut : Option Int) (s : Nat) (es : List (Nat × Int)) :
    wSum cut (shiftEntries s es) = wSum cut es ∧
    wMoment cut (shiftEntries s es) = wMoment cut es + (s : Int) * wSum cut es := by
  induction es with
  | nil => exact ⟨rfl, by simp [shiftEntries, wMoment, wSum]⟩
  | cons e es ih =>
    obtain ⟨x, w⟩ := e
    simp only [shiftEntries, List.map_cons, wMoment, wSum] at ih ⊢
    rw [ih.1, ih.2]
    exact ⟨rfl, by push_cast; ring⟩
example : wMoment none (shiftEntries 3 [(0, 2), (4, 1)]) = wMoment none [(0, 2), (4, 1)] + 3 * wSum none [(0, 2), (4, 1)] := by decide +kernel

/-- scale invariance: multiplying every weight by `q` multiplies numerator and denominator by `q` -/
theorem centerOfMass_scale (q : Int) (es : List (Nat × Int)) :
    wSum none (scaleEntries q es) = q * wSum none es ∧ wMoment none (scaleEntries q es) = q * wMoment none es := by
  induction es with
  | nil => exact ⟨(Int.mul_zero q).symm, (Int.mul_zero q).symm⟩
  | cons e es ih =>
    obtain ⟨x, w⟩ := e
    simp only [scaleEntries, List.map_cons, wMoment, wSum, keepW] at ih ⊢
    rw [ih.1, ih.2]
    exact ⟨by ring, by ring⟩
example : wMoment none (scaleEntries 3 [(0, 2), (4, 1)]) = 3 * wMoment none [(0, 2), (4, 1)] := by decide +kernel

/-- with a non-negative cutoff (the searches use `cutoff = 0`) the centre of mass lies between the smallest and the
largest coordinate: `lo · den ≤ num ≤ hi · den` -/
theorem centerOfMass_in_hull (c : Int) (hc : 0 ≤ c) (lo hi : Nat) (es : List (Nat × Int))
    (h : ∀ e ∈ es, lo ≤ e.1 ∧ e.1 ≤ hi) :
    (lo : Int) * wSum (some c) es ≤ wMoment (some c) es ∧ wMoment (some c) es ≤ (hi : Int) * wSum (some c) es :=
  wMoment_bounds (some c) lo hi es (fun e he => ⟨(h e he).1, (h e he).2, keepW_nonneg c e.2 hc⟩)
example : ∀ e ∈ [((0 : Nat), (2 : Int)), (4, 1)], 0 ≤ e.1 ∧ e.1 ≤ 4 := by decide +kernel

/-! ## `max_filter_coordinates` -/

/-- a voxel is reported exactly when it lies in the array and no voxel of its (border-clamped) window exceeds it -/
theorem mem_maxFilterCoordinates (a : Arr Int) (s : Nat) (idx : List Nat) :
    idx ∈ maxFilterCoordinates a s ↔
      inShape a.shape idx = true ∧ ∀ j ∈ windowIdx a.shape s idx, a.getD j 0 ≤ a.getD idx 0 := by
  unfold maxFilterCoordinates isPeak
  rw [List.mem_filter, mem_allIdx, List.all_eq_true]
  simp only [decide_eq_true_eq]
example : maxFilterCoordinates (⟨[6], #[1, 3, 2, 3, 0, 5]⟩ : Arr Int) 2 = [[0], [1], [3], [5]] := by decide +kernel

/-- a global maximum is always reported -/
theorem globalMax_reported (a : Arr Int) (s : Nat) (idx : List Nat) (h : inShape a.shape idx = true)
    (hmax : ∀ j, a.getD j 0 ≤ a.getD idx 0) : idx ∈ maxFilterCoordinates a s :=
  (mem_maxFilterCoordinates a s idx).mpr ⟨h, fun j _ => hmax j⟩
example : [5] ∈ maxFilterCoordinates (⟨[6], #[1, 3, 2, 3, 0, 5]⟩ : Arr Int) 4 := by decide +kernel

/-- the window of a voxel contains the voxel itself and stays inside the array (`mode="nearest"`):
a reported voxel holds the maximum of its window -/
theorem window_self_and_inside (shape idx : List Nat) (s : Nat) (hs : 0 < s) (h : inShape shape idx = true) :
    idx ∈ windowIdx shape s idx ∧ ∀ j ∈ windowIdx shape s idx, inShape shape j = true :=
  ⟨self_mem_windowIdx s hs shape idx h, fun j hj => windowIdx_inShape s shape idx j h hj⟩
example : windowIdx [6] 3 [0] = [[0], [0], [1]] ∧ windowIdx [6] 2 [5] = [[4], [5]] := by decide +kernel

/-- two voxels within Chebyshev distance `(s-1)/2` lie in each other's window, so **two reported voxels that close hold
the same score**: distinct reported scores are more than `(s-1)/2` apart -/
theorem reported_near_equal (a : Arr Int) (s : Nat) (hs : 0 < s) (p q : List Nat)
    (hp : p ∈ maxFilterCoordinates a s) (hq : q ∈ maxFilterCoordinates a s) (hn : Near ((s - 1) / 2) p q) :
    a.getD p 0 = a.getD q 0 := by
  obtain ⟨hp1, hp2⟩ := (mem_maxFilterCoordinates a s p).mp hp
  obtain ⟨hq1, hq2⟩ := (mem_maxFilterCoordinates a s q).mp hq
  have h1 := hp2 q (mem_windowIdx_of_near s hs a.shape p q hp1 hq1 hn)
  have h2 := hq2 p (mem_windowIdx_of_near s hs a.shape q p hq1 hp1 (near_symm _ p q hn))
  omega
example : Near ((3 - 1) / 2) [1, 4] [2, 3] := ⟨⟨by decide, by decide⟩, ⟨by decide, by decide⟩, trivial⟩

/-! ## `_rigid_transform_matrix` (integer part) -/

/-- **composition law**: the affine map the matrix stands for is "rotate about the centre, then translate":
`R⁻¹ x + (c - t - R⁻¹ c) = R⁻¹ (x - c) + c - t`, any dimension -/
theorem rigidApply_eq (rinv : List (List Int)) (c t x : List Int) (hx : x.length = c.length) :
    rigidApply rinv c t x
      = zip3With (fun v ci ti => v + ci - ti) (matVec rinv (List.zipWith (· - ·) x c)) c t := by
  unfold rigidApply rigidOffset matVec
  exact rigidApply_rows x c hx rinv t c
example : rigidApply [[0, 1], [-1, 0]] [3, 4] [1, 2] [5, 6] = [4, 0] := by decide +kernel

/-- the centre is a fixed point up to the translation: `x = c ↦ c - t` -/
theorem rigidApply_center (rinv : List (List Int)) (c t : List Int) :
    rigidApply rinv c t c = zip3With (fun v ci ti => v + ci - ti) (matVec rinv (List.zipWith (· - ·) c c)) c t :=
  rigidApply_eq rinv c t c rfl
example : rigidApply [[0, 1], [-1, 0]] [3, 4] [1, 2] [3, 4] = [2, 2] := by decide +kernel

/-- the homogeneous matrix the code multiplies together, 2-D: linear part `R⁻¹`, last column the offset -/
theorem rigidMatrix_2d (a b c d c0 c1 t0 t1 : Int) :
    rigidMatrix [[a, b], [c, d]] [c0, c1] [t0, t1]
      = [[a, b, -t0 + c0 - (a * c0 + b * c1)], [c, d, -t1 + c1 - (c * c0 + d * c1)], [0, 0, 1]] := by
  have hT : ∀ x y : Int, translM [x, y] = [[1, 0, x], [0, 1, y], [0, 0, 1]] := fun _ _ => rfl
  have hL : linM [[a, b], [c, d]] = [[a, b, 0], [c, d, 0], [0, 0, 1]] := rfl
  have hI : identM ([c0, c1].length + 1) = [[1, 0, 0], [0, 1, 0], [0, 0, 1]] := rfl
  have e : ∀ p q x y s u : Int, p * -x + q * -y + (s + -u) = -u + s - (p * x + q * y) := by
    intros; ring
  -- all five factors are homogeneous matrices of affine maps: multiply them out with `affMul_2d`
  unfold rigidMatrix
  simp only [List.map, hT, hL, hI, affMul_2d, Int.mul_zero, Int.zero_mul, Int.mul_one, Int.one_mul, Int.add_zero,
    Int.zero_add, e]
example : rigidMatrix [[0, 1], [-1, 0]] [3, 4] [1, 2] = [[0, 1, -2], [-1, 0, 5], [0, 0, 1]] := by decide +kernel

/-- … and 3-D -/
theorem rigidMatrix_3d' (a b c d e f g h i c0 c1 c2 t0 t1 t2 : Int) :
    rigidMatrix [[a, b, c], [d, e, f], [g, h, i]] [c0, c1, c2] [t0, t1, t2]
      = [[a, b, c, -t0 + c0 - (a * c0 + b * c1 + c * c2)], [d, e, f, -t1 + c1 - (d * c0 + e * c1 + f * c2)],
         [g, h, i, -t2 + c2 - (g * c0 + h * c1 + i * c2)], [0, 0, 0, 1]] := by
  have hT : ∀ x y z : Int, translM [x, y, z] = [[1, 0, 0, x], [0, 1, 0, y], [0, 0, 1, z], [0, 0, 0, 1]] :=
    fun _ _ _ => rfl
  have hL : linM [[a, b, c], [d, e, f], [g, h, i]] = [[a, b, c, 0], [d, e, f, 0], [g, h, i, 0], [0, 0, 0, 1]] := rfl
  have hI : identM ([c0, c1, c2].length + 1) = [[1, 0, 0, 0], [0, 1, 0, 0], [0, 0, 1, 0], [0, 0, 0, 1]] := rfl
  have e : ∀ p q r x y z s u : Int, p * -x + q * -y + r * -z + (s + -u) = -u + s - (p * x + q * y + r * z) := by
    intros; ring
  unfold rigidMatrix
  simp only [List.map, hT, hL, hI, affMul_3d, Int.mul_zero, Int.zero_mul, Int.mul_one, Int.one_mul, Int.add_zero,
    Int.zero_add, e]
example : rigidMatrix [[0, 1, 0], [-1, 0, 0], [0, 0, 1]] [3, 4, 5] [1, 2, 0] = [[0, 1, 0, -2], [-1, 0, 0, 5], [0, 0, 1, 0], [0, 0, 0, 1]] := by decide +kernel

/-- the last column of the matrix the code builds is the offset vector of the affine map (2-D and 3-D) -/
theorem rigidMatrix_offset_2d (a b c d c0 c1 t0 t1 : Int) :
    ((rigidMatrix [[a, b], [c, d]] [c0, c1] [t0, t1]).take 2).map (·.getD 2 0)
      = rigidOffset [[a, b], [c, d]] [c0, c1] [t0, t1] := by
  rw [rigidMatrix_2d]
  simp only [rigidOffset, matVec, dot, zip3With, List.map, List.take, List.getD_cons_succ, List.getD_cons_zero,
    Int.add_zero]
example : rigidOffset [[0, 1], [-1, 0]] [3, 4] [1, 2] = [-2, 5] := by decide +kernel

/-- composition law, 2-D: two rigid maps about the same centre compose to the rigid map with the product rotation and
translation `t + R₁⁻¹ u` -/
theorem rigidApply_compose_2d (a b c d e f g h c0 c1 t0 t1 u0 u1 x0 x1 : Int) :
    rigidApply [[a, b], [c, d]] [c0, c1] [t0, t1] (rigidApply [[e, f], [g, h]] [c0, c1] [u0, u1] [x0, x1])
      = rigidApply [[a * e + b * g, a * f + b * h], [c * e + d * g, c * f + d * h]] [c0, c1]
          [t0 + (a * u0 + b * u1), t1 + (c * u0 + d * u1)] [x0, x1] := by
  simp only [rigidApply, rigidOffset, matVec, dot, zip3With, List.map, List.zipWith, List.cons.injEq, and_true]
  constructor <;> ring
example : rigidApply [[0, 1], [-1, 0]] [3, 4] [1, 2] (rigidApply [[1, 1], [0, 1]] [3, 4] [2, 0] [5, 6]) = [4, 0] := by decide +kernel

theorem rigidApply_compose_3d (a b c d e f g h i a' b' c' d' e' f' g' h' i' c0 c1 c2 t0 t1 t2 u0 u1 u2 x0 x1 x2 : Int) :
    rigidApply [[a, b, c], [d, e, f], [g, h, i]] [c0, c1, c2] [t0, t1, t2]
        (rigidApply [[a', b', c'], [d', e', f'], [g', h', i']] [c0, c1, c2] [u0, u1, u2] [x0, x1, x2])
      = rigidApply [[a * a' + b * d' + c * g', a * b' + b * e' + c * h', a * c' + b * f' + c * i'],
                    [d * a' + e * d' + f * g', d * b' + e * e' + f * h', d * c' + e * f' + f * i'],
                    [g * a' + h * d' + i * g', g * b' + h * e' + i * h', g * c' + h * f' + i * i']] [c0, c1, c2]
          [t0 + (a * u0 + b * u1 + c * u2), t1 + (d * u0 + e * u1 + f * u2), t2 + (g * u0 + h * u1 + i * u2)] [x0, x1, x2] := by
  simp only [rigidApply, rigidOffset, matVec, dot, zip3With, List.map, List.zipWith, List.cons.injEq, and_true]
  refine ⟨?_, ?_, ?_⟩ <;> ring
example : rigidApply [[0, 1], [-1, 0]] [3, 4] [1, 2] (rigidApply [[0, 1], [-1, 0]] [3, 4] [0, 0] [5, 6]) = [0, 0] := by decide +kernel

/-! ## `build_fft`: shapes and axes of the two plans -/

/-- default call: the forward plan reads the planned real shape and writes its half spectrum, the inverse plan reads
that half spectrum and writes the planned real shape, both over all axes -/
theorem buildFft_default (fast : List Nat) :
    buildFft fast (fastFtShape fast) none
      = some ⟨fast, fastFtShape fast, List.range fast.length, fastFtShape fast, fast, List.range fast.length⟩ := by
  simp [buildFft]
example : buildFft [6, 7] [6, 4] none = some ⟨[6, 7], [6, 4], [0, 1], [6, 4], [6, 7], [0, 1]⟩ := by decide +kernel

/-- an explicit inverse shape is accepted exactly when its half spectrum is the complex buffer's shape -/
theorem buildFft_isSome (fast ft : List Nat) (inverse : Option (List Nat)) :
    (buildFft fast ft inverse).isSome = true ↔ fastFtShape (inverse.getD fast) = ft := by
  unfold buildFft
  simp only
  split <;> simp_all
example : (buildFft [6, 7] [6, 4] (some [6, 6])).isSome = true ∧ (buildFft [6, 7] [6, 4] (some [6, 8])).isSome = false := by decide +kernel

/-- the even and the odd real length that share a half spectrum are *both* accepted as inverse shape — the complex
buffer alone does not determine the real shape, which is why `build_fft` passes `s = inverse_fast_shape` explicitly -/
theorem buildFft_both_parities (init : List Nat) (h : Nat) (hh : 1 ≤ h) :
    (buildFft (init ++ [2 * h]) (init ++ [h + 1]) (some (init ++ [2 * h]))).isSome = true ∧
    (buildFft (init ++ [2 * h]) (init ++ [h + 1]) (some (init ++ [2 * h + 1]))).isSome = true := by
  rw [buildFft_isSome, buildFft_isSome]
  simp only [Option.getD_some, fastFtShape_snoc, Nat.mul_div_cancel_left h (by decide : 0 < 2),
    Nat.mul_add_div (by decide : 0 < 2) h 1]
  exact ⟨trivial, trivial⟩
example : (buildFft [6, 6] [6, 4] (some [6, 7])).map (·.invOut) = some [6, 7] ∧ buildFft [6, 6] [6, 4] (some [6, 8]) = none := by decide +kernel

/-! ## shared-memory hand-off as a (buffer, shape, item size) triple -/

/-- **round trip**: whatever the size of the block the OS hands out (`slack` extra bytes), reading
`prod(shape) · itemsize` bytes from its start returns the array's bytes -/
theorem fromShared_toShared (shape : List Nat) (itemsize : Nat) (bytes : List Nat) (slack : Nat)
    (h : bytes.length = prodL shape * itemsize) :
    fromShared (toShared shape itemsize bytes slack) = bytes := by
  unfold fromShared toShared
  simp only
  rw [← h, List.take_left']
  rfl
example : fromShared (toShared [2, 1] 2 [1, 2, 3, 4] 4092) = [1, 2, 3, 4] := by decide +kernel

/-- shape and item size travel unchanged -/
theorem toShared_meta (shape : List Nat) (itemsize : Nat) (bytes : List Nat) (slack : Nat) :
    (toShared shape itemsize bytes slack).shape = shape ∧ (toShared shape itemsize bytes slack).itemsize = itemsize ∧
    (toShared shape itemsize bytes slack).buf.length = bytes.length + slack := by
  simp [toShared]

/-! ## non-vacuity -/
example : nextFastLen 17 = 18 ∧ nextFastLen 23 = 24 ∧ nextFastLen 11 = 11 := by decide +kernel
example : convCrop .valid (convLen 10 4) 10 4 = some (3, 6) := by decide +kernel
example : convCrop .same (convLen 10 5) 10 5 = some (2, 10) := by decide +kernel
example : (topleftPad (⟨[2,2], #[1,2,3,4]⟩ : Arr Int) [3,3] 9).toList = [1,2,9,3,4,9,9,9,9] := by decide +kernel
example : centerStart 9 4 = 2 ∧ centerStop 9 4 = 6 := by decide +kernel
example : centeredBox [9, 6, 5] [4, 6, 2] = [(2, 6), (0, 6), (1, 3)] := by decide +kernel
example : convCrop .same 16 10 5 = some (3, 10) := by decide +kernel
example : (centeredMask (⟨[4], #[5,6,7,8]⟩ : Arr Int) [2]).toList = [0,6,7,0] := by decide +kernel

/-! ## symmetry, ordering of the mode extents, identity crops -/

/-- `compute_convolution_shapes`: the convolution shape is symmetric in its two arguments -/
theorem convShape_comm : ∀ (s1 s2 : List Nat), convShape s1 s2 = convShape s2 s1
  | [], [] => rfl
  | [], _ :: _ => rfl
  | _ :: _, [] => rfl
  | a :: as, b :: bs => by
    have ih := convShape_comm as bs
    simp only [convShape, List.zipWith_cons_cons] at ih ⊢
    rw [ih, convLen, convLen, Nat.add_comm]

/-- the planned (fast) shape has one entry per common axis -/
theorem fastShape_length (s1 s2 : List Nat) : (fastShape s1 s2).length = min s1.length s2.length := by
  simp [fastShape, convShape]

/-- the half spectrum is never empty, and never longer than the real axis once that has two samples -/
theorem halfLen_bounds (n : Nat) (h : 2 ≤ n) : 1 ≤ halfLen n ∧ halfLen n ≤ n := by
  unfold halfLen; omega

/-- a longer real axis never has a shorter half spectrum -/
theorem halfLen_mono (a b : Nat) (h : a ≤ b) : halfLen a ≤ halfLen b :=
  Nat.succ_le_succ (Nat.div_le_div_right h)

/-- crop extents are ordered `valid ≤ same ≤ full`; `valid` is never negative when the template fits and keeps at
least one sample when it is strictly smaller or odd (an even template of the target's size leaves none) -/
theorem mode_extents_ordered (s1 s2 : Nat) (h2 : 1 ≤ s2) (h : s2 ≤ s1) :
    0 ≤ validLen s1 s2 ∧ (s2 < s1 ∨ s2 % 2 = 1 → 1 ≤ validLen s1 s2) ∧ validLen s1 s2 ≤ (s1 : Int) ∧ s1 ≤ convLen s1 s2 := by
  unfold validLen convLen; omega

example : 1 ≤ validLen 10 4 ∧ validLen 10 4 ≤ (10 : Int) ∧ 10 ≤ convLen 10 4 ∧ validLen 4 4 = 0 := by decide +kernel

/-- `valid` extent in closed form: `s1 - s2 + 1` for an odd template, `s1 - s2` for an even one -/
theorem validLen_parity (s1 s2 : Nat) :
    (s2 % 2 = 1 → validLen s1 s2 = (s1 : Int) - s2 + 1) ∧ (s2 % 2 = 0 → validLen s1 s2 = (s1 : Int) - s2) := by
  unfold validLen; omega

/-- the centre slice of the full extent is the whole axis (start 0, stop `n`) -/
theorem centerSlice_self (n : Nat) : centerStart n n = 0 ∧ centerStop n n = n := by
  rw [centerStop_eq n n (Nat.le_refl n), centerStart_eq n n (Nat.le_refl n), Nat.sub_self]
  exact ⟨rfl, by rw [Nat.zero_div, Nat.zero_add]⟩

/-- centre of a centre: the two nested offsets add up to the direct offset, short by at most the one sample lost
when both differences are odd; exact when either difference is even -/
theorem centerStart_compose (c b a : Nat) (h1 : a ≤ b) (h2 : b ≤ c) :
    centerStart c b + centerStart b a ≤ centerStart c a ∧ centerStart c a ≤ centerStart c b + centerStart b a + 1 ∧
    ((c - b) % 2 = 0 ∨ (b - a) % 2 = 0 → centerStart c b + centerStart b a = centerStart c a) := by
  unfold centerStart; omega

example : centerStart 9 5 + centerStart 5 3 = centerStart 9 3 := by decide +kernel

/-- the margins left and right of the centre slice differ by at most one sample, the surplus on the right -/
theorem centerSlice_margins (cur new : Nat) (h : new ≤ cur) :
    0 ≤ centerStart cur new ∧ centerStart cur new ≤ (cur : Int) - centerStop cur new ∧
    (cur : Int) - centerStop cur new ≤ centerStart cur new + 1 :=
  ⟨(centerSlice_extent cur new h).1, centerSlice_symmetric cur new h⟩

/-! ## the transform pair the helpers plan for is an inverse pair (exact arithmetic, every shape) -/

/-- **Round trip of the planned transform, for every shape, parity and dimension.**  For the separable n-D DFT on a box
(primitive root of unity and invertible length per axis — ℂ), the un-normalised inverse transform of the transform
returns `|box| ·` the array at every voxel: what `irfftn(rfftn(x)) = x` means before rounding, for odd and even
extents alike.  (That pyFFTW computes this pair, and the half-spectrum storage of `rfftn`, are exercised by Leg B.) -/
theorem fft_roundtrip_nd {K : Type} [Field K] (Ns : List Nat) (ωs : List K) (hp : Pm.C01.RootsPrim Ns ωs)
    (F : List Int → K) (js : List Nat) (hjs : inShape Ns js = true) :
    Pm.C01.idftS Ns ωs (fun ks => Pm.C01.dftS Ns ωs F ks) js = Pm.C01.boxCard Ns * F (Pm.C01.natsToInts js) :=
  Pm.C01.idftS_dftS Ns ωs hp F js hjs

end Pm.C13
