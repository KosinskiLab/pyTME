import PytmeModel.Proofs.C14
import Mathlib.Tactic.Ring

/-! # C14 — tiling covers every voxel in bounds; schedules respect the limits -/
namespace Pm.C14

theorem cdiv_pos (N k : Nat) (hk : 0 < k) (hN : 0 < N) : 0 < cdiv N k :=
  Pm.cdiv_pos N k hk hN

theorem cdiv_le (N k : Nat) (hk : 0 < k) (hN : 0 < N) : cdiv N k ≤ N :=
  Pm.cdiv_le N k hk hN

theorem mul_cdiv_ge (N k : Nat) (hk : 0 < k) : N ≤ k * cdiv N k :=
  le_mul_cdiv N k hk

/-! ## `split_shape`, one axis -/

/-- every tile is non-empty, in bounds and of the common extent `ceil(N/k)` -/
theorem tile_in_bounds (N k j : Nat) (hk : 0 < k) (hN : 0 < N) :
    (tile N k j).1 < (tile N k j).2 ∧ (tile N k j).2 ≤ N ∧
    (tile N k j).2 - (tile N k j).1 = tileLen N k :=
  ⟨Nat.lt_add_of_pos_right (tileLen_pos N k hk hN), tile_snd N k j hk hN ▸ Nat.min_le_right _ _,
    Nat.add_sub_cancel_left _ _⟩

/-- the tiles cover the axis: every voxel lies in some tile `j < k` -/
theorem tiles_cover (N k x : Nat) (hk : 0 < k) (hx : x < N) :
    ∃ j, j < k ∧ (tile N k j).1 ≤ x ∧ x < (tile N k j).2 := by
  have hN : 0 < N := Nat.zero_lt_of_lt hx
  refine ⟨x / tileLen N k, ?_, ?_, ?_⟩
  · exact Nat.div_lt_of_lt_mul (Nat.lt_of_lt_of_le hx (Nat.mul_comm k _ ▸ le_mul_tileLen N k hk))
  · exact Nat.le_trans (Nat.min_le_left _ _) (Nat.div_mul_le_self x _)
  · rw [tile_snd N k _ hk hN, Nat.mul_comm]
    exact Nat.lt_min.mpr ⟨Nat.lt_mul_div_succ x (tileLen_pos N k hk hN), hx⟩

/-- the first tile starts at the origin of the axis -/
theorem tile_first (N k : Nat) : (tile N k 0).1 = 0 := by
  rw [tile, tileStart, Nat.zero_mul, Nat.zero_min]

/-- two tiles of one axis are either the same box or strictly ordered by their start -/
theorem tile_eq_or_ordered (N k j j' : Nat) (h : j ≤ j') :
    tile N k j = tile N k j' ∨ (tile N k j).1 < (tile N k j').1 := by
  rcases Nat.eq_or_lt_of_le (tileStart_mono N k j j' h) with e | e
  · left; unfold tile; rw [e]
  · right; exact e

/-- tiles on the regular grid start at `j·⌈N/k⌉`; every tile that would leave the axis is shifted back
and coincides with the last tile (these are the duplicates of an over-split axis) -/
theorem tile_regular_or_last (N k j : Nat) (hk : 0 < k) (hN : 0 < N) :
    (tile N k j).1 = j * tileLen N k ∨ tile N k j = tile N k (k - 1) := by
  rcases Nat.le_total (j * tileLen N k) (N - tileLen N k) with hc | hc
  · exact Or.inl (Nat.min_eq_left hc)
  · right
    unfold tile
    rw [tileStart_last N k hk, show tileStart N k j = _ from Nat.min_eq_right hc]

/-- tiles on the regular grid have strictly increasing starts (they are pairwise distinct) -/
theorem tileStart_strict_regular (N k j j' : Nat) (hk : 0 < k) (hN : 0 < N) (h : j < j')
    (hreg : j' * tileLen N k ≤ N - tileLen N k) : tileStart N k j < tileStart N k j' := by
  rw [show tileStart N k j' = _ from Nat.min_eq_left hreg]
  exact Nat.lt_of_le_of_lt (Nat.min_le_left _ _) (Nat.mul_lt_mul_of_pos_right h (tileLen_pos N k hk hN))

/-- consecutive tiles leave no gap: the next tile starts at or before the end of the current one -/
theorem tile_no_gap (N k j : Nat) : (tile N k (j + 1)).1 ≤ (tile N k j).2 := by
  show _ ≤ min _ _ + _
  rw [← Nat.add_min_add_right, ← Nat.succ_mul]
  exact min_le_min_left _ (Nat.le_add_right _ _)

/-- at least as many parts as voxels: the common tile extent is one voxel -/
theorem tileLen_of_ge (N k : Nat) (hN : 0 < N) (hk : N ≤ k) : tileLen N k = 1 := by
  rw [tileLen_eq N k (Nat.lt_of_lt_of_le hN hk) hN,
    Nat.div_eq_of_lt (Nat.lt_of_lt_of_le (Nat.sub_lt hN Nat.one_pos) hk)]

/-- … so every tile of such a split is a single voxel -/
theorem splitAxis_ge_single_voxel (N k : Nat) (hN : 0 < N) (hk : N ≤ k) (t : Nat × Nat)
    (ht : t ∈ splitAxis N k) : t.2 = t.1 + 1 ∧ t.1 < N := by
  obtain ⟨j, _, rfl⟩ := (mem_splitAxis N k t).mp ht
  have hb := tile_in_bounds N (max k 1) j (lt_max_of_lt_right Nat.one_pos) hN
  refine ⟨?_, Nat.lt_of_lt_of_le hb.1 hb.2.1⟩
  show _ + tileLen N (max k 1) = _
  rw [tileLen_of_ge N (max k 1) hN (Nat.le_trans hk (Nat.le_max_left k 1))]
  rfl

/-- the pinned tree's tile start leaves the axis (`N=5,k=4`: tile `[4,6)`) or yields a tile that is
empty after slicing (`N=10,k=7`: tile `[10,12)`) — the defect repaired by the `fix:` commit -/
theorem splitShape_old_defect :
    tileOld 5 4 2 = (4, 6) ∧ tileOld 10 7 5 = (10, 12) := by decide

/-- the old start was right whenever the regular tiles fit: `(k-1)·⌈N/k⌉ ≤ N - ⌈N/k⌉` -/
theorem tileStartOld_eq_of_fits (N k j : Nat) (hj : j < k)
    (hfit : (k - 1) * tileLen N k ≤ N - tileLen N k) :
    tileStartOld N k j = tileStart N k j := by
  unfold tileStartOld
  split
  · rename_i h
    exact (Nat.min_eq_left (Nat.le_trans (Nat.mul_le_mul_right _ (Nat.le_of_lt h)) hfit)).symm
  · rw [show j = k - 1 by omega, tileStart_last N k (Nat.zero_lt_of_lt hj)]

/-! ## `split_shape` with `equal_shape=False`: a partition of the axis -/

theorem tileU_first (N k : Nat) : (tileU N k 0).1 = 0 := by
  rw [tileU_fst, Nat.zero_mul]

theorem tileU_last (N k : Nat) : (tileU N k (k - 1)).2 = N :=
  tileU_snd_of_ge N k _ (Nat.lt_irrefl _)

/-- consecutive tiles are adjacent (no gap, no overlap) -/
theorem tileU_adjacent (N k j : Nat) (hj : j + 1 < k) : (tileU N k j).2 = (tileU N k (j + 1)).1 := by
  rw [tileU_snd_of_lt N k j (Nat.lt_sub_of_add_lt hj), tileU_fst]

/-- for `k ≤ N` every tile is non-empty and in bounds -/
theorem tileU_nonempty (N k j : Nat) (hk : 0 < k) (hkN : k ≤ N) (hj : j < k) :
    (tileU N k j).1 < (tileU N k j).2 ∧ (tileU N k j).2 ≤ N := by
  have hL : 0 < N / k := Nat.div_pos hkN hk
  have hkL : k * (N / k) ≤ N := Nat.mul_div_le N k
  rw [tileU_fst]
  by_cases h : j < k - 1
  · rw [tileU_snd_of_lt N k j h]
    exact ⟨Nat.mul_lt_mul_of_pos_right (Nat.lt_succ_self j) hL,
      Nat.le_trans (Nat.mul_le_mul_right _ hj) hkL⟩
  · rw [tileU_snd_of_ge N k j h]
    exact ⟨Nat.lt_of_lt_of_le (Nat.mul_lt_mul_of_pos_right hj hL) hkL, Nat.le_refl _⟩

/-- the tiles cover the axis -/
theorem tilesU_cover (N k x : Nat) (hk : 0 < k) (hkN : k ≤ N) (hx : x < N) :
    ∃ j, j < k ∧ (tileU N k j).1 ≤ x ∧ x < (tileU N k j).2 := by
  by_cases hc : x / (N / k) < k - 1
  · refine ⟨x / (N / k), Nat.lt_of_lt_of_le hc (Nat.sub_le k 1), ?_, ?_⟩
    · rw [tileU_fst]; exact Nat.div_mul_le_self x _
    · rw [tileU_snd_of_lt N k _ hc, Nat.mul_comm]
      exact Nat.lt_mul_div_succ x (Nat.div_pos hkN hk)
  · refine ⟨k - 1, Nat.sub_lt hk Nat.one_pos, ?_, ?_⟩
    · rw [tileU_fst]
      exact Nat.le_trans (Nat.mul_le_mul_right _ (Nat.le_of_not_lt hc)) (Nat.div_mul_le_self x _)
    · rw [tileU_last]; exact hx

/-! ## `split_shape`, n-D -/

/-- number of tiles = product of the per-axis part counts -/
theorem splitShape_length (shape splits : List Nat) (h : shape.length = splits.length) :
    (splitShape shape splits).length = prodL (splits.map (max · 1)) := by
  rw [splitShape, length_productL, ← List.map_uncurry_zip_eq_zipWith, List.map_map]
  conv_rhs => rw [← List.map_snd_zip (Nat.le_of_eq h.symm), List.map_map]
  congr 1
  exact List.map_congr_left fun Nk _ => splitAxis_length Nk.1 Nk.2

/-- every tile of the split is a box that is non-empty, in bounds and of the common extent, per axis -/
theorem splitShape_tiles_ok (shape splits : List Nat) (h : shape.length = splits.length)
    (hpos : ∀ n ∈ shape, 0 < n) (t : List (Nat × Nat)) (ht : t ∈ splitShape shape splits) :
    List.Forall₂ (fun (r : Nat × Nat) (Nk : Nat × Nat) =>
      r.1 < r.2 ∧ r.2 ≤ Nk.1 ∧ r.2 - r.1 = tileLen Nk.1 (max Nk.2 1)) t (List.zip shape splits) := by
  obtain ⟨hl, hall⟩ := List.forall₂_iff_zip.mp ((mem_splitShape shape splits t).mp ht)
  refine List.forall₂_iff_zip.mpr ⟨hl, fun hm => ?_⟩
  obtain ⟨j, _, rfl⟩ := (mem_splitAxis _ _ _).mp (hall hm)
  exact tile_in_bounds _ _ j (lt_max_of_lt_right Nat.one_pos)
    (hpos _ (List.of_mem_zip (List.of_mem_zip hm).2).1)

/-- the union of the tiles is the whole shape: every in-shape voxel lies in some tile -/
theorem splitShape_covers (shape splits idx : List Nat) (h : shape.length = splits.length)
    (hidx : inShape shape idx = true) :
    ∃ t ∈ splitShape shape splits,
      List.Forall₂ (fun (r : Nat × Nat) (i : Nat) => r.1 ≤ i ∧ i < r.2) t idx := by
  unfold splitShape
  induction shape generalizing splits idx with
  | nil =>
    cases idx with
    | nil =>
      cases splits with
      | nil => exact ⟨[], List.mem_singleton.mpr rfl, List.Forall₂.nil⟩
      | cons => cases h
    | cons => cases hidx
  | cons s ss ih =>
    cases idx with
    | nil => cases hidx
    | cons i is =>
      cases splits with
      | nil => cases h
      | cons k ks =>
        obtain ⟨hi, hr⟩ := inShape_cons.mp hidx
        obtain ⟨t, ht, hcov⟩ := ih ks is (Nat.succ.inj h) hr
        obtain ⟨j, hj, hlo, hhi⟩ :=
          tiles_cover s (max k 1) i (lt_max_of_lt_right Nat.one_pos) hi
        refine ⟨tile s (max k 1) j :: t, ?_, List.Forall₂.cons ⟨hlo, hhi⟩ hcov⟩
        rw [List.zipWith_cons_cons, mem_productL]
        exact List.Forall₂.cons ((mem_splitAxis s k _).mpr ⟨j, hj, rfl⟩) ((mem_productL _ _).mp ht)

/-- voxel count of every tile of the n-D split = product of the per-axis extents `⌈N/k⌉` -/
theorem splitShape_tile_volume (shape splits : List Nat) (h : shape.length = splits.length)
    (hpos : ∀ n ∈ shape, 0 < n) (t : List (Nat × Nat)) (ht : t ∈ splitShape shape splits) :
    prodL (t.map (fun r => r.2 - r.1)) =
      prodL (List.zipWith (fun N k => tileLen N (max k 1)) shape splits) := by
  have hok := splitShape_tiles_ok shape splits h hpos t ht
  rw [← List.map_uncurry_zip_eq_zipWith]
  congr 1
  rw [← List.forall₂_eq_eq_eq, List.forall₂_map_left_iff, List.forall₂_map_right_iff]
  exact hok.imp fun _ _ h => h.2.2

/-- reassembly in n dimensions (offset clause): every voxel of the shape is `offset + j` for some tile
of the split and an in-tile index `j` -/
theorem splitShape_reassemble (shape splits idx : List Nat) (h : shape.length = splits.length)
    (hidx : inShape shape idx = true) :
    ∃ t ∈ splitShape shape splits, ∃ js : List Nat,
      List.Forall₂ (fun (r : Nat × Nat) (j : Nat) => j < r.2 - r.1) t js ∧
      List.zipWith (fun (r : Nat × Nat) (j : Nat) => r.1 + j) t js = idx := by
  obtain ⟨t, ht, hc⟩ := splitShape_covers shape splits idx h hidx
  refine ⟨t, ht, ?_⟩
  clear ht hidx h
  -- in-tile index of a covered voxel: its distance from the start of the box
  induction hc with
  | nil => exact ⟨[], List.Forall₂.nil, rfl⟩
  | @cons r i rs is h _ ih =>
    obtain ⟨js, h1, h2⟩ := ih
    refine ⟨(i - r.1) :: js, List.Forall₂.cons (Nat.sub_lt_sub_right h.1 h.2) h1, ?_⟩
    rw [List.zipWith_cons_cons, h2, Nat.add_sub_cancel' h.1]

/-- one part along every axis: the only tile is the whole shape -/
theorem splitShape_unsplit (shape : List Nat) :
    splitShape shape (List.replicate shape.length 1) = [shape.map (fun n => (0, n))] := by
  unfold splitShape
  induction shape with
  | nil => rfl
  | cons s ss ih =>
    rw [List.length_cons, List.replicate_succ, List.zipWith_cons_cons, productL, ih,
      (splitAxis_one s).1]
    rfl

/-! ## tile extraction with margin (`subset_array`) -/

/-- the bookkeeping of `subset_array` in linear form -/
theorem tileAxis_fields (N start stop p : Nat) (h1 : start ≤ stop) (h2 : stop ≤ N) :
    let t := tileAxis N start stop p
    let left := (p + p % 2) / 2
    t.arrStart + t.dl = start ∧ t.arrStop = stop + t.dr ∧ t.padLo + t.dl = left ∧ t.padHi + t.dr = left ∧
    (t.dl = start ∨ t.dl = left) ∧ t.dl ≤ start ∧ t.dl ≤ left ∧
    (t.dr = N - stop ∨ t.dr = left) ∧ t.dr ≤ N - stop ∧ t.dr ≤ left :=
  ⟨Nat.sub_add_cancel (Nat.min_le_left _ _), rfl, Nat.sub_add_cancel (Nat.min_le_right _ _),
    Nat.sub_add_cancel (Nat.min_le_right _ _), min_choice _ _, Nat.min_le_left _ _, Nat.min_le_right _ _,
    min_choice _ _, Nat.min_le_left _ _, Nat.min_le_right _ _⟩

/-- the tile has the addressed extent plus the requested margin on both sides -/
theorem tileAxis_extent (N start stop p : Nat) (h1 : start ≤ stop) (h2 : stop ≤ N) :
    (tileAxis N start stop p).extent = (stop - start) + 2 * ((p + p % 2) / 2) := by
  obtain ⟨f1, f2, f3, f4, -⟩ := tileAxis_fields N start stop p h1 h2
  unfold TileAxis.extent
  generalize tileAxis N start stop p = t at *
  generalize (p + p % 2) / 2 = left at *
  omega

/-- addressed voxels and real neighbours: wherever the virtual position `start - left + q` lies
inside the volume the tile holds exactly that voxel -/
theorem tileAxis_src_real (N start stop p q : Nat) (h1 : start < stop) (h2 : stop ≤ N)
    (pos : Int) (hpos : pos = (start : Int) - ((p + p % 2) / 2 : Nat) + q)
    (hin : 0 ≤ pos ∧ pos < N) (hq : q < (tileAxis N start stop p).extent) :
    ((tileAxis N start stop p).src q : Int) = pos := by
  rw [tileAxis_extent N start stop p h1.le h2] at hq
  rw [tileAxis_src_pos N start stop p q pos hpos]
  have hA := tileAxis_arrStart_eq N start stop p
  have hB := tileAxis_arrStop_eq N start stop p h2
  generalize tileAxis N start stop p = t at *
  generalize (p + p % 2) / 2 = left at *
  have h : (t.arrStart : Int) ≤ pos ∧ pos < t.arrStop := by omega
  clear hA hB hq hpos hin
  rw [reflect_mid _ _ (by omega) (by omega)]
  omega

/-- mirrored data beyond the low volume edge: position `-d` (for `d` up to the extracted extent − 1)
holds voxel `d` -/
theorem tileAxis_src_mirror_lo (N start stop p q : Nat) (h1 : start < stop) (h2 : stop ≤ N)
    (pos : Int) (hpos : pos = (start : Int) - ((p + p % 2) / 2 : Nat) + q)
    (hlo : pos < 0)
    (hfar : -pos ≤ ((tileAxis N start stop p).arrStop : Int) - (tileAxis N start stop p).arrStart - 1) :
    ((tileAxis N start stop p).src q : Int) = -pos := by
  rw [tileAxis_src_pos N start stop p q pos hpos]
  have hA := tileAxis_arrStart_eq N start stop p
  generalize tileAxis N start stop p = t at *
  generalize (p + p % 2) / 2 = left at *
  have h0 : t.arrStart = 0 := by omega
  rw [h0] at hfar ⊢
  rw [Nat.sub_zero, Nat.cast_zero, sub_zero, zero_add, reflect_lo _ _ hlo (by omega)]

/-- mirrored data beyond the high volume edge: position `N-1+d` holds voxel `N-1-d` -/
theorem tileAxis_src_mirror_hi (N start stop p q : Nat) (h1 : start < stop) (h2 : stop ≤ N)
    (pos : Int) (hpos : pos = (start : Int) - ((p + p % 2) / 2 : Nat) + q)
    (hhi : (N : Int) ≤ pos) (hq : q < (tileAxis N start stop p).extent)
    (hfar : pos - ((N : Int) - 1) ≤ ((tileAxis N start stop p).arrStop : Int) - (tileAxis N start stop p).arrStart - 1) :
    ((tileAxis N start stop p).src q : Int) = 2 * ((N : Int) - 1) - pos := by
  rw [tileAxis_extent N start stop p h1.le h2] at hq
  rw [tileAxis_src_pos N start stop p q pos hpos]
  rw [tileAxis_arrStop_eq N start stop p h2] at hfar ⊢
  generalize (p + p % 2) / 2 = left at *
  rw [Nat.min_eq_left (show N ≤ stop + left by omega)] at hfar ⊢
  clear hq hpos
  generalize (tileAxis N start stop p).arrStart = A at *
  -- `hfar` leaves at least two extracted voxels
  obtain ⟨n, rfl⟩ : ∃ n, N = A + (n + 2) := ⟨N - A - 2, by omega⟩
  rw [Nat.add_sub_cancel_left, reflect_hi _ _ (by omega) (by omega) (Nat.le_add_left _ _)]
  omega

/-- whatever the margin (also larger than the remaining data) the tile only reads voxels of the
extracted range, hence of the volume -/
theorem tileAxis_src_in_volume (N start stop p q : Nat) (h1 : start < stop) (h2 : stop ≤ N) :
    (tileAxis N start stop p).arrStart ≤ (tileAxis N start stop p).src q ∧
    (tileAxis N start stop p).src q < (tileAxis N start stop p).arrStop ∧
    (tileAxis N start stop p).arrStop ≤ N :=
  have hB := tileAxis_arrStop_eq N start stop p h2
  have hlt : (tileAxis N start stop p).arrStart < (tileAxis N start stop p).arrStop := by
    rw [tileAxis_arrStart_eq, hB]
    generalize (p + p % 2) / 2 = left
    omega
  ⟨Nat.le_add_right _ _, Nat.add_lt_of_lt_sub' (reflect_lt _ _ (Nat.sub_pos_of_lt hlt)),
    hB ▸ Nat.min_le_left _ _⟩

/-- real neighbours where they exist: a tile whose margin fits inside the volume mirrors nothing and
extracts exactly `[start - left, stop + left)` -/
theorem tileAxis_interior (N start stop p : Nat) (h1 : start ≤ stop) (h2 : stop ≤ N)
    (hlo : (p + p % 2) / 2 ≤ start) (hhi : stop + (p + p % 2) / 2 ≤ N) :
    let t := tileAxis N start stop p
    t.padLo = 0 ∧ t.padHi = 0 ∧ t.arrStart = start - (p + p % 2) / 2 ∧
    t.arrStop = stop + (p + p % 2) / 2 :=
  ⟨(tileAxis_padLo_eq ..).trans (Nat.sub_eq_zero_of_le hlo),
    (tileAxis_padHi_eq ..).trans (Nat.sub_eq_zero_of_le (Nat.le_sub_of_add_le' hhi)),
    tileAxis_arrStart_eq .., (tileAxis_arrStop_eq _ _ _ _ h2).trans (Nat.min_eq_right hhi)⟩

/-- mirrored voxels appear only at a volume edge: a low pad means the extraction starts at voxel 0,
a high pad means it ends at voxel `N` -/
theorem tileAxis_pad_only_at_edge (N start stop p : Nat) (h1 : start ≤ stop) (h2 : stop ≤ N) :
    let t := tileAxis N start stop p
    (0 < t.padLo → t.arrStart = 0) ∧ (0 < t.padHi → t.arrStop = N) := by
  intro t
  constructor
  · intro h
    rw [tileAxis_padLo_eq] at h
    exact (tileAxis_arrStart_eq ..).trans (Nat.sub_eq_zero_of_le (Nat.lt_of_sub_pos h).le)
  · intro h
    rw [tileAxis_padHi_eq] at h
    refine (tileAxis_arrStop_eq _ _ _ _ h2).trans (Nat.min_eq_left ?_)
    exact Nat.le_of_lt ((Nat.sub_lt_iff_lt_add' h2).mp (Nat.lt_of_sub_pos h))

/-- without margin the tile is the addressed range itself: position `q` holds voxel `start + q` -/
theorem tileAxis_no_margin (N start stop q : Nat) (h1 : start < stop) (h2 : stop ≤ N)
    (hq : q < stop - start) :
    (tileAxis N start stop 0).extent = stop - start ∧ (tileAxis N start stop 0).src q = start + q := by
  have he : (tileAxis N start stop 0).extent = stop - start := tileAxis_extent N start stop 0 h1.le h2
  have hs := tileAxis_src_real N start stop 0 q h1 h2 ((start + q : Nat) : Int) (by simp)
    ⟨Int.natCast_nonneg _, by omega⟩ (he ▸ hq)
  exact ⟨he, Int.ofNat_inj.mp hs⟩

/-- all padded tiles of one axis have the same extent `⌈N/k⌉ + 2·margin` (needed for `equal_shape`:
one FFT plan serves every tile) -/
theorem splitAxis_padded_extent (N k p : Nat) (hN : 0 < N) (t : Nat × Nat) (ht : t ∈ splitAxis N k) :
    (tileAxis N t.1 t.2 p).extent = tileLen N (max k 1) + 2 * ((p + p % 2) / 2) := by
  obtain ⟨j, _, rfl⟩ := (mem_splitAxis N k t).mp ht
  have hb := tile_in_bounds N (max k 1) j (by omega) hN
  rw [tileAxis_extent N _ _ p (by omega) hb.2.1, hb.2.2]

/-- the margin requested by `target_padding` is even and at most the template extent -/
theorem targetPadding_even_le (m : Nat) : targetPadding m % 2 = 0 ∧ targetPadding m ≤ m ∧
    m ≤ targetPadding m + 1 := by
  unfold targetPadding; omega

/-- no margin along a batch axis; elsewhere the margin of the template extent -/
theorem targetPaddingB_spec (m : Nat) (b : Bool) :
    targetPaddingB m b = if b then 0 else m - m % 2 := by
  unfold targetPaddingB targetPadding; rfl

/-- the tile's offset (its un-padded start) places its scores back at the right position:
with margin `left = (m - m%2)/2` on both sides and a `valid` crop of the padded tile's linear
convolution, score index `j` is the translation `start + j` of the full volume
(`vs` = start of the valid crop, `(m-1)/2` = start of the zero-translation in the convolution). -/
theorem tile_offset_places_scores (nt m start j left np conv ext vs : Nat) (hm : 0 < m) (hnt : 0 < nt)
    (hleft : left = (targetPadding m + targetPadding m % 2) / 2)
    (hnp : np = nt + 2 * left)               -- padded tile extent
    (hconv : conv = np + m - 1)
    (hext : ext = np - m + m % 2)            -- valid extent
    (hvs : vs = (conv - ext) / 2) :          -- start of the valid crop
    ext = nt ∧ ((start : Int) - left) + ((j + vs : Nat) - ((m - 1) / 2 : Nat)) = start + j := by
  have h0 := targetPadding_mod_two m
  have h2 : 2 * left = m - m % 2 := by
    rw [hleft, h0, Nat.add_zero, Nat.mul_div_cancel' (Nat.dvd_of_mod_eq_zero h0)]
    rfl
  subst hnp hconv hext hvs
  rw [validExtent_padded nt m left hnt h2, validStart_padded nt m left hm]
  refine ⟨rfl, ?_⟩
  push_cast; ring

/-! ## `estimate_ram_usage` -/

/-- `estimate_ram_usage` fails exactly for an unregistered score -/
theorem estimateRam_none_iff (s1 s2 : List Nat) (method : String) (nc : Nat) (an be : Option String)
    (fb cb : Nat) : estimateRam s1 s2 method nc an be fb cb = none ↔ lookupMem method = none := by
  unfold estimateRam
  cases lookupMem method <;> simp

/-- the per-class usage grows with the number of cores (`base + per_fork · ncores`) -/
theorem usage_mono_cores (c : MemCoef) (real cplx fb cb n n' : Nat) (h : n ≤ n') :
    usage c real cplx fb cb n ≤ usage c real cplx fb cb n' := by
  unfold usage
  exact Nat.add_le_add_left (Nat.mul_le_mul_left _ h) _

/-- … and so does the whole estimate: more inner cores never lower the estimated memory -/
theorem estimateRam_mono_cores (s1 s2 : List Nat) (method : String) (n n' : Nat) (an be : Option String)
    (fb cb a b : Nat) (h : n ≤ n')
    (ha : estimateRam s1 s2 method n an be fb cb = some a)
    (hb : estimateRam s1 s2 method n' an be fb cb = some b) : a ≤ b := by
  unfold estimateRam at ha hb
  cases hl : lookupMem method with
  | none => rw [hl] at ha; simp at ha
  | some c =>
    rw [hl] at ha hb
    simp only [Option.some.injEq] at ha hb
    subst ha hb
    refine Nat.add_le_add (Nat.add_le_add (usage_mono_cores _ _ _ _ _ _ _ h) ?_) ?_
    · cases an.bind lookupMem with
      | none => simp
      | some c' => exact usage_mono_cores _ _ _ _ _ _ _ h
    · cases be.bind lookupMem with
      | none => simp
      | some c' => exact usage_mono_cores _ _ _ _ _ _ _ h

/-- the FFT-friendly length used by the estimate is never below the convolution length -/
theorem nextFastLen_ge (n : Nat) : n ≤ nextFastLen n := by
  unfold nextFastLen
  split
  · omega
  · exact nextFastFrom_ge _ _

/-! ## `compute_parallelization_schedule` -/

/-- every core assignment uses positive core counts, none exceeding `max_cores` -/
theorem coreAssignments_bounds (maxCores : Nat) (oo : Bool) (io : Nat × Nat) (hm : 0 < maxCores)
    (h : io ∈ coreAssignments maxCores oo) :
    0 < io.1 ∧ io.1 ≤ maxCores ∧ 0 < io.2 ∧ io.2 ≤ maxCores := by
  have hp := coreAssignments_prod maxCores oo io h
  have hpos : 0 < io.1 * io.2 := hp ▸ hm
  exact ⟨Nat.pos_of_mul_pos_right hpos, Nat.le_of_dvd hm ⟨_, hp.symm⟩,
    Nat.pos_of_mul_pos_left hpos, Nat.le_of_dvd hm ⟨_, (Nat.mul_comm _ _).trans hp |>.symm⟩⟩

/-- the two extreme assignments (all cores inside one tile / one core per tile) are always tried -/
theorem coreAssignments_extremes (maxCores : Nat) (hm : 0 < maxCores) :
    (1, maxCores) ∈ coreAssignments maxCores false ∧ (maxCores, 1) ∈ coreAssignments maxCores false := by
  have h := fun io => (mem_coreAssignments_false maxCores io).mpr ∘
    fun hio => ⟨0, Nat.sqrt_pos.mpr hm, Nat.mod_one _, hio⟩
  rw [Nat.zero_add, Nat.div_one] at h
  exact ⟨h _ (Or.inl rfl), h _ (Or.inr rfl)⟩

/-- the assignment list is symmetric: with `(inner, outer)` also `(outer, inner)` is tried -/
theorem coreAssignments_symm (maxCores a b : Nat) (h : (a, b) ∈ coreAssignments maxCores false) :
    (b, a) ∈ coreAssignments maxCores false := by
  obtain ⟨i, hi, hd, hio⟩ := (mem_coreAssignments_false maxCores _).mp h
  refine (mem_coreAssignments_false maxCores _).mpr ⟨i, hi, hd, ?_⟩
  rcases hio with e | e
  · cases e; exact Or.inr rfl
  · cases e; exact Or.inl rfl

/-- the peak group estimate is monotone in the running maximum -/
theorem maxGroupUsage_mono_acc (us : List Nat) (outer fuel acc acc' : Nat) (h : acc ≤ acc') :
    maxGroupUsage us outer fuel acc ≤ maxGroupUsage us outer fuel acc' := by
  induction fuel generalizing us acc acc' with
  | zero => exact h
  | succ f ih =>
    cases us with
    | nil => exact h
    | cons u us' => exact ih _ _ _ (max_le_max_right _ h)

/-- all tiles concurrent (`outer ≥` number of tiles): the estimate is the sum over all tiles -/
theorem maxGroupUsage_all_concurrent (us : List Nat) (outer fuel : Nat) (hne : us ≠ [])
    (ho : us.length ≤ outer) :
    maxGroupUsage us outer (fuel + 1) 0 = us.foldl (· + ·) 0 := by
  cases us with
  | nil => exact absurd rfl hne
  | cons u us' =>
    rw [maxGroupUsage, List.take_of_length_le ho,
      List.drop_eq_nil_of_le (Nat.le_trans ho (Nat.le_max_left _ _)), maxGroupUsage_nil, Nat.zero_max]
    exact hne

/-- the peak dominates *every* group of concurrent tiles (group `i` = tiles `i·outer … i·outer+outer-1`) -/
theorem maxGroupUsage_ge_group (i : Nat) : ∀ (us : List Nat) (outer fuel acc : Nat), i < fuel →
    us.drop (i * max outer 1) ≠ [] →
    ((us.drop (i * max outer 1)).take outer).foldl (· + ·) 0 ≤ maxGroupUsage us outer fuel acc := by
  induction i with
  | zero =>
    intro us outer fuel acc hf hne
    obtain ⟨f, rfl⟩ := Nat.exists_eq_succ_of_ne_zero (Nat.ne_of_gt hf)
    rw [Nat.zero_mul, List.drop_zero] at hne ⊢
    cases us with
    | nil => exact absurd rfl hne
    | cons u us' => exact Nat.le_trans (Nat.le_max_right _ _) (maxGroupUsage_ge_acc _ _ _ _)
  | succ i ih =>
    intro us outer fuel acc hf hne
    obtain ⟨f, rfl⟩ := Nat.exists_eq_succ_of_ne_zero (Nat.ne_zero_of_lt hf)
    rw [Nat.succ_mul, Nat.add_comm, ← List.drop_drop] at hne ⊢
    cases us with
    | nil => rw [List.drop_nil, List.drop_nil] at hne; exact absurd rfl hne
    | cons u us' => exact ih _ outer f _ (Nat.lt_of_succ_lt_succ hf) hne

/-- lexicographic order `(n_splits, inits)` used by `lexsort` -/
def candLe (c x : Cand) : Prop :=
  c.nSplits < x.nSplits ∨ (c.nSplits = x.nSplits ∧ c.inits ≤ x.inits)

theorem candLe_refl (a : Cand) : candLe a a := Or.inr ⟨rfl, Nat.le_refl _⟩

theorem candLe_trans (a b c : Cand) (h1 : candLe a b) (h2 : candLe b c) : candLe a c := by
  unfold candLe at *; omega

/-- one step of `pickBest` -/
def pickStep (b x : Cand) : Cand :=
  if x.nSplits < b.nSplits ∨ (x.nSplits = b.nSplits ∧ x.inits < b.inits) then x else b

theorem candLe_pickStep (b x : Cand) :
    (pickStep b x = b ∨ pickStep b x = x) ∧ candLe (pickStep b x) b ∧ candLe (pickStep b x) x := by
  unfold pickStep candLe
  split
  · exact ⟨Or.inr rfl, by omega⟩
  · exact ⟨Or.inl rfl, by omega⟩

theorem pickBest_spec (l : List Cand) (c : Cand) (h : pickBest l = some c) :
    c ∈ l ∧ ∀ x ∈ l, candLe c x := by
  cases l with
  | nil => exact nomatch h
  | cons a as =>
    cases h
    exact foldl_select candLe candLe_refl candLe_trans pickStep candLe_pickStep as a

theorem schedule_mem_candsFor {P : Problem} {fa fi : Nat} {c : Cand} (h : schedule P fa fi = some c) :
    ∃ f, f.length = P.ndim ∧ c ∈ candsFor P f := by
  rcases searchLoop_mem _ _ _ _ _ _ _ c (pickBest_spec _ _ h).1 with h | ⟨f, hf, hc⟩
  · exact nomatch h
  · exact ⟨f, hf.trans List.length_replicate, hc⟩

/-- **Schedule soundness** (for every problem, every memory estimator): a returned schedule uses exactly
the allowed cores (`outer·inner = max_cores`, so never more), plans no more concurrent tiles than exist,
and the search's own estimate for every group of concurrent tiles is below the limit. -/
theorem schedule_sound (P : Problem) (fa fi : Nat) (c : Cand) (h : schedule P fa fi = some c) :
    c.outer * c.inner = P.maxCores ∧ c.outer ≤ prodL c.splits ∧
    (let us := (P.widths c.splits).map (fun w => P.est w c.inner)
     maxGroupUsage us c.outer (us.length + 1) 0 < P.maxRam) := by
  obtain ⟨f, _, hc⟩ := schedule_mem_candsFor h
  obtain ⟨inner, outer, hmem, hle, hram, rfl⟩ := mem_candsFor hc
  exact ⟨(Nat.mul_comm _ _).trans (coreAssignments_prod _ _ _ hmem), hle, hram⟩

/-- … or it reports that none exists, exactly when no candidate passed the limits -/
theorem schedule_none_iff (P : Problem) (fa fi : Nat) :
    schedule P fa fi = none ↔
      searchLoop P (P.maxSplits + 2) (List.replicate P.ndim 1) fa fi 0 [] = [] := by
  unfold schedule
  cases searchLoop P (P.maxSplits + 2) (List.replicate P.ndim 1) fa fi 0 [] <;> simp [pickBest]

/-- **Schedule optimality**: the returned schedule is one of the admissible candidates of the search and
no admissible candidate has fewer tiles, or as many tiles with fewer job initialisations -/
theorem schedule_minimal (P : Problem) (fa fi : Nat) (c : Cand) (h : schedule P fa fi = some c) :
    c ∈ searchLoop P (P.maxSplits + 2) (List.replicate P.ndim 1) fa fi 0 [] ∧
    ∀ x ∈ searchLoop P (P.maxSplits + 2) (List.replicate P.ndim 1) fa fi 0 [], candLe c x :=
  pickBest_spec _ _ h

/-- the unsplit problem is always examined first: if some core assignment fits the limit without
splitting, a schedule is returned and it does not split (`n_splits = 1`) -/
theorem schedule_unsplit_preferred (P : Problem) (fa fi : Nat) (x : Cand)
    (hx : x ∈ candsFor P (List.replicate P.ndim 1)) :
    ∃ c, schedule P fa fi = some c ∧ c.nSplits ≤ 1 := by
  have hmem : x ∈ searchLoop P (P.maxSplits + 2) (List.replicate P.ndim 1) fa fi 0 [] := by
    rw [show P.maxSplits + 2 = (P.maxSplits + 1) + 1 from rfl]
    unfold searchLoop
    rw [if_neg (Nat.not_lt_zero _)]
    exact searchLoop_keeps _ _ _ _ _ _ _ x (List.mem_append_right _ hx)
  cases hs : schedule P fa fi with
  | none =>
    rw [schedule_none_iff] at hs
    rw [hs] at hmem
    exact nomatch hmem
  | some c =>
    refine ⟨c, rfl, ?_⟩
    have hmin := (schedule_minimal P fa fi c hs).2 x hmem
    have hf := (candsFor_fields P _ x hx).2.1
    rw [prodL_replicate_one] at hf
    unfold candLe at hmin
    omega

/-- the job count of a schedule: `inits = n_splits // outer`, at least one round, and the rounds of
`outer` concurrent tiles never exceed the tiles that exist -/
theorem schedule_inits (P : Problem) (fa fi : Nat) (c : Cand) (hm : 0 < P.maxCores)
    (h : schedule P fa fi = some c) :
    c.inits = c.nSplits / c.outer ∧ 1 ≤ c.inits ∧ c.inits * c.outer ≤ c.nSplits := by
  obtain ⟨f, _, hc⟩ := schedule_mem_candsFor h
  obtain ⟨inner, outer, hmem, hle, _, rfl⟩ := mem_candsFor hc
  exact ⟨rfl, Nat.div_pos hle (coreAssignments_bounds _ _ _ hm hmem).2.2.1, Nat.div_mul_le_self _ _⟩

/-- a returned schedule gives a split count for each of the `ndim` axes -/
theorem schedule_splits_length (P : Problem) (fa fi : Nat) (c : Cand) (h : schedule P fa fi = some c) :
    c.splits.length = P.ndim := by
  obtain ⟨f, hf, hc⟩ := schedule_mem_candsFor h
  rw [(candsFor_fields P f c hc).1, hf]

/-- no cores allowed: no schedule exists -/
theorem schedule_zero_cores (P : Problem) (fa fi : Nat) (h0 : P.maxCores = 0) (hoo : P.onlyOuter = false) :
    schedule P fa fi = none := by
  cases h : schedule P fa fi with
  | none => rfl
  | some c =>
    obtain ⟨f, _, hc⟩ := schedule_mem_candsFor h
    obtain ⟨inner, outer, hmem, _⟩ := mem_candsFor hc
    rw [h0, hoo] at hmem
    exact nomatch hmem

/-- outer-only mode: the schedule runs `max_cores` tiles concurrently with one core each -/
theorem schedule_onlyOuter (P : Problem) (fa fi : Nat) (c : Cand) (hoo : P.onlyOuter = true)
    (h : schedule P fa fi = some c) : c.inner = 1 ∧ c.outer = P.maxCores := by
  obtain ⟨f, _, hc⟩ := schedule_mem_candsFor h
  obtain ⟨inner, outer, hmem, _, _, rfl⟩ := mem_candsFor hc
  rw [hoo, coreAssignments_onlyOuter, List.mem_singleton] at hmem
  cases hmem
  exact ⟨rfl, rfl⟩

/-! ## non-vacuity -/
example : splitAxis 10 7 = [(0,2),(2,4),(4,6),(6,8),(8,10),(8,10),(8,10)] := by decide
example : splitAxisOld 10 7 = [(0,2),(2,4),(4,6),(6,8),(8,10),(10,12),(8,10)] := by decide
example : (splitShape [5,4] [2,2]).length = 4 := by decide
example : ((tileAxis 10 0 4 4).src 0, (tileAxis 10 0 4 4).src 1, (tileAxis 10 0 4 4).src 2, (tileAxis 10 0 4 4).extent) = (2, 1, 0, 8) := by decide
example : splitAxisU 10 7 = [(0,1),(1,2),(2,3),(3,4),(4,5),(5,6),(6,10)] := by decide
example : coreAssignments 12 false = [(1,12),(12,1),(2,6),(6,2),(3,4),(4,3)] := by decide +kernel

example : splitAxis 3 5 = [(0,1),(1,2),(2,3),(2,3),(2,3)] := by decide
-- the hypotheses of `tileAxis_interior` for the tile `[4,6)` of 10 voxels with padding 2 (next example)
example : (4 : Nat) ≤ 6 ∧ 6 ≤ 10 ∧ (2 + 2 % 2) / 2 ≤ 4 ∧ 6 + (2 + 2 % 2) / 2 ≤ 10 := by decide
example : ((tileAxis 10 4 6 2).arrStart, (tileAxis 10 4 6 2).arrStop, (tileAxis 10 4 6 2).padLo) = (3, 7, 0) := by decide
example : maxGroupUsage [3, 4, 5] 2 4 0 = 7 ∧ maxGroupUsage [3, 4, 5] 3 4 0 = 12 := by decide
example : (schedule ⟨1, fun _ => [[1]], fun _ _ => 0, 1, 10, 1, false, [0], 0⟩ 0 0).isSome = true := by
  decide +kernel
example : (candsFor ⟨1, fun _ => [[1]], fun _ _ => 0, 1, 10, 1, false, [0], 0⟩ [1]).length = 2 := by
  decide +kernel

example : estimateRam [4,4] [2,2] "CC" 1 none none 4 8 ≠ none ∧
    estimateRam [4,4] [2,2] "nope" 1 none none 4 8 = none := by decide +kernel

-- the hypothesis `hreg` of `tileStart_strict_regular` for `N = 10, k = 3, j' = 1`
example : (1 : Nat) * tileLen 10 3 ≤ 10 - tileLen 10 3 := by decide

end Pm.C14
