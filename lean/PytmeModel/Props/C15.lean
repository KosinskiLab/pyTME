import PytmeModel.Model.C15
import PytmeModel.Proofs.C15
import PytmeModel.Proofs.C15Nd
import PytmeModel.Proofs.C15Geo
import PytmeModel.Proofs.C15Cloud
import Mathlib.Tactic.Ring

/-! # C15 — Density box operations preserve the physical position of every voxel -/
namespace Pm.C15

/-! ## `Density.adjust_box` on one axis -/

/-- **extents** — for a box whose stop is not negative the new axis has exactly the requested
extent `max (stop - start) 0` (negative starts, stops beyond the data, empty and inverted boxes). -/
theorem adjustAxis_extent (n : Nat) (start stop : Int) (h : 0 ≤ stop) :
    ((adjustAxis n start stop).newLen : Int) = max (stop - start) 0 :=
  adjustAxis_newLen n start stop h

/-- **data** — `new[j] = old[j + start]` when that index exists, the pad value otherwise. -/
theorem adjustAxis_data (n : Nat) (start stop : Int) (h : 0 ≤ stop) (j : Nat)
    (hj : j < (adjustAxis n start stop).newLen) :
    (adjustAxis n start stop).srcOf j =
      if 0 ≤ (j : Int) + start ∧ (j : Int) + start < n then some ((j : Int) + start).toNat else none :=
  adjustAxis_srcOf n start stop h j hj

/-- a retained voxel always comes from index `j + start` of the old axis — for *every* box, also
the undocumented negative stops. -/
theorem adjustAxis_retained (n : Nat) (start stop : Int) (j s : Nat)
    (h : (adjustAxis n start stop).srcOf j = some s) : (s : Int) = j + start ∧ s < n :=
  adjustAxis_srcOf_some n start stop j s h

/-- **physical position, one axis** — with `origin' = origin + start·rate` the coordinate
`origin' + j·rate` of new index `j` is the coordinate `origin + (j+start)·rate` of its source. -/
theorem adjustBox_physical {β : Type} [CommRing β] (origin rate : β) (start j : Int) :
    (origin + (start : β) * rate) + (j : β) * rate = origin + ((j + start : Int) : β) * rate := by
  push_cast; ring

/-- what negative stops do today (documented as unsupported): `slice(-3,-1)` on 8 voxels keeps
them all and prepends 3 — extent 11, not 2. -/
theorem adjustAxis_negative_stop_quirk : (adjustAxis 8 (-3) (-1)).newLen = 10 := by decide

/-! ## `Density.adjust_box`, all axes -/

/-- shape of the result: per axis the requested extent -/
theorem adjustData_shape {α : Type} (a : Arr α) (box : Box) (pad : α) :
    (adjustData a box pad).shape = (plans a.shape box).map AxisPlan.newLen := rfl

theorem adjustBox_extents {α : Type} (a : Arr α) (box : Box) (pad : α)
    (hlen : box.length = a.shape.length) (hstop : ∀ b ∈ box, 0 ≤ b.2) :
    (adjustData a box pad).shape = box.map (fun b => (max (b.2 - b.1) 0).toNat) := by
  show (plans a.shape box).map AxisPlan.newLen = _
  generalize a.shape = shape at hlen
  induction shape generalizing box with
  | nil =>
    cases box with
    | nil => rfl
    | cons b bs => cases hlen
  | cons n ns ih =>
    cases box with
    | nil => cases hlen
    | cons b bs =>
      rw [plans_cons]
      simp only [List.map_cons]
      rw [ih bs (fun x hx => hstop x (by simp [hx])) (by simpa using hlen)]
      congr 1
      have := adjustAxis_newLen n b.1 b.2 (hstop b (by simp))
      omega

/-- **values inside are conserved, new voxels hold the pad value** (n-D): reading the result at
`idx` gives the old array at `idx + start` if that voxel exists, else the pad value. -/
theorem adjustBox_data {α : Type} (a : Arr α) (box : Box) (pad d : α) (idx : List Nat)
    (hlen : box.length = a.shape.length) (hstop : ∀ b ∈ box, 0 ≤ b.2)
    (hin : inShape (adjustData a box pad).shape idx = true) :
    (adjustData a box pad).getD idx d = readSrc a pad (shiftIdx a.shape box idx) := by
  rw [adjustData_getD a box pad d idx hin, srcIdx_eq_shiftIdx a.shape box idx hlen hstop hin]

/-- the shifted index of the specification really is `idx + start`, inside the old array -/
theorem shiftIdx_spec (shape : List Nat) (box : Box) (idx s : List Nat)
    (h : shiftIdx shape box idx = some s) :
    inShape shape s = true ∧ s.map (fun (x : Nat) => (x : Int)) = List.zipWith (fun (j : Nat) (b : Int × Int) => (j : Int) + b.1) idx box := by
  fun_induction shiftIdx shape box idx generalizing s with
  | case1 n ns b bs j js hc ih =>
    obtain ⟨t, ht, rfl⟩ := Option.map_eq_some_iff.mp h
    obtain ⟨i1, i2⟩ := ih t ht
    refine ⟨inShape_cons.mpr ⟨by omega, i1⟩, ?_⟩
    rw [List.map_cons, List.zipWith_cons_cons, i2, Int.toNat_of_nonneg hc.1]
  | case2 => cases h
  | case3 => cases h; exact ⟨rfl, rfl⟩
  | case4 => cases h

/-- conversely every old voxel whose index lies inside the box is found in the result
(nothing inside is lost) -/
theorem adjustBox_conserves {α : Type} (a : Arr α) (box : Box) (pad d : α) (s : List Nat)
    (hlen : box.length = a.shape.length) (hstop : ∀ b ∈ box, 0 ≤ b.2)
    (hs : inShape a.shape s = true)
    (hbox : List.Forall₂ (fun (x : Nat) (b : Int × Int) => b.1 ≤ (x : Int) ∧ (x : Int) < b.2) s box) :
    ∃ idx, inShape (adjustData a box pad).shape idx = true ∧
      idx.map (fun (x : Nat) => (x : Int)) = List.zipWith (fun (x : Nat) (b : Int × Int) => (x : Int) - b.1) s box ∧
      (adjustData a box pad).getD idx d = a.getD s pad := by
  obtain ⟨idx, h1, h2, h3⟩ := inside_kept a.shape box s hstop hs hbox
  refine ⟨idx, h1, h2, ?_⟩
  rw [adjustData_getD a box pad d idx h1, h3]
  rfl

/-- conservation and position together: an old voxel inside the box is found in the result with its
value, at its physical coordinate -/
theorem adjustBox_conserves_physical {α β : Type} [CommRing β] (d : Dens α β) (box : Box) (pad dflt : α)
    (s : List Nat) (hlen : box.length = d.data.shape.length) (hstop : ∀ b ∈ box, 0 ≤ b.2)
    (hs : inShape d.data.shape s = true)
    (hbox : List.Forall₂ (fun (x : Nat) (b : Int × Int) => b.1 ≤ (x : Int) ∧ (x : Int) < b.2) s box) :
    ∃ idx, inShape (d.adjustBox box pad).data.shape idx = true ∧
      (d.adjustBox box pad).data.getD idx dflt = d.data.getD s pad ∧
      phys (d.adjustBox box pad).frame idx = phys d.frame s := by
  obtain ⟨idx, h1, _, h3⟩ := inside_kept d.data.shape box s hstop hs hbox
  refine ⟨idx, h1, ?_, phys_adjust d.data.shape box d.frame idx s h3⟩
  show (adjustData d.data box pad).getD idx dflt = _
  rw [adjustData_getD d.data box pad dflt idx h1, h3]
  rfl

/-- **physical position** (n-D, every box): a retained value sits at the physical coordinate it
had before — `origin' + idx·rate = origin + src·rate` on every axis. -/
theorem adjustBox_physical_nd {β : Type} [CommRing β] (shape : List Nat) (box : Box) (f : Frame β)
    (idx s : List Nat) (h : srcIdx (plans shape box) idx = some s) :
    phys (adjustFrame f box) idx = phys f s :=
  phys_adjust shape box f idx s h

/-- sampling rates are untouched -/
theorem adjustFrame_rate {β : Type} [CommRing β] (f : Frame β) (box : Box) (h : box.length = f.length) :
    (adjustFrame f box).map Prod.snd = f.map Prod.snd := by
  induction f generalizing box with
  | nil => simp [adjustFrame]
  | cons o fs ih =>
    cases box with
    | nil => simp at h
    | cons b bs =>
      simp only [adjustFrame, List.zipWith_cons_cons, List.map_cons] at ih ⊢
      rw [ih bs (by simpa using h)]

/-! ## `Density.pad` -/

/-- **pad: exactly the requested extent**, centred or appended, growing or shrinking -/
theorem pad_extents (center : Bool) (n new : Nat) :
    (adjustAxis n (padBoxAxis center n new).1 (padBoxAxis center n new).2).newLen = new := by
  obtain ⟨h1, h2⟩ := padBoxAxis_extent center n new
  have := adjustAxis_newLen n (padBoxAxis center n new).1 _ h2
  omega

/-- **centred split, growing**: `(new-n)/2` voxels in front, the rest behind; the extra voxel of an
odd difference goes behind. -/
theorem pad_centered_split (n new : Nat) (h : n ≤ new) :
    let p := adjustAxis n (padBoxAxis true n new).1 (padBoxAxis true n new).2
    p.left = (new - n) / 2 ∧ p.right = (new - n) - (new - n) / 2 ∧ p.len = n ∧ p.src = 0 ∧
      p.left ≤ p.right ∧ p.right ≤ p.left + 1 := by
  obtain ⟨k, rfl⟩ := Nat.exists_eq_add_of_le h
  obtain ⟨e1, e2⟩ := padBoxAxis_centered n (n + k)
  rw [show ((n + k : Nat) : Int) - n = k by omega] at e1 e2
  rw [Nat.add_sub_cancel_left]
  generalize (padBoxAxis true n (n + k)).1 = s at *
  generalize (padBoxAxis true n (n + k)).2 = e at *
  obtain ⟨h1, h2, h3, h4⟩ := adjustAxis_extend n s e (by omega) (by omega)
  simp only
  generalize adjustAxis n s e = p at *
  omega

/-- **centred split, shrinking**: `⌈(n-new)/2⌉` voxels cut in front, `⌊(n-new)/2⌋` behind, nothing added -/
theorem pad_centered_split_shrink (n new : Nat) (h : new ≤ n) :
    let p := adjustAxis n (padBoxAxis true n new).1 (padBoxAxis true n new).2
    p.left = 0 ∧ p.right = 0 ∧ p.len = new ∧ p.src = (n - new + 1) / 2 := by
  obtain ⟨k, rfl⟩ := Nat.exists_eq_add_of_le h
  obtain ⟨e1, e2⟩ := padBoxAxis_centered (new + k) new
  rw [show (new : Int) - ((new + k : Nat) : Int) = -k by omega] at e1 e2
  rw [Nat.add_sub_cancel_left]
  generalize (padBoxAxis true (new + k) new).1 = s at *
  generalize (padBoxAxis true (new + k) new).2 = e at *
  obtain ⟨h1, h2, h3, h4⟩ := adjustAxis_crop (new + k) s e (by omega) (by omega) (by omega)
  simp only
  generalize adjustAxis (new + k) s e = p at *
  omega

/-- **appended**: data stays at index 0 -/
theorem pad_appended (n new : Nat) :
    let p := adjustAxis n (padBoxAxis false n new).1 (padBoxAxis false n new).2
    p.left = 0 ∧ p.src = 0 ∧ p.len = min n new ∧ p.right = new - n := by
  obtain ⟨e1, e2⟩ := padBoxAxis_appended n new
  simp only [e1, e2]
  rcases Nat.le_total n new with h | h
  · obtain ⟨h1, h2, h3, h4⟩ := adjustAxis_extend n 0 new (le_refl _) (by omega)
    omega
  · obtain ⟨h1, h2, h3, h4⟩ := adjustAxis_crop n 0 new (le_refl _) (by omega) (by omega)
    omega

/-- n-D: `pad` returns the requested shape -/
theorem pad_shape {α β : Type} [CommRing β] (d : Dens α β) (newShape : List Nat) (center : Bool) (v : α)
    (h : newShape.length = d.data.shape.length) :
    (d.pad newShape center v).data.shape = newShape := by
  show (plans d.data.shape (Dens.padBox center d.data.shape newShape)).map AxisPlan.newLen = newShape
  generalize d.data.shape = shape at h
  induction shape generalizing newShape with
  | nil =>
    cases newShape with
    | nil => rfl
    | cons m ms => cases h
  | cons n ns ih =>
    cases newShape with
    | nil => cases h
    | cons m ms =>
      have : Dens.padBox center (n :: ns) (m :: ms) = padBoxAxis center n m :: Dens.padBox center ns ms := rfl
      rw [this, plans_cons]
      simp only [List.map_cons]
      rw [ih ms (by simpa using h), pad_extents]

/-! ## `Density.trim_box` -/

/-- **a trim box contains every voxel above the cut-off** (any rank, any margin ≥ 0) -/
theorem trimBox_contains_above_cutoff {α : Type} [LT α] [DecidableLT α] (a : Arr α) (cutoff : α)
    (margin : Int) (box : Box) (idx : List Nat) (hm : 0 ≤ margin)
    (hbox : trimBox a cutoff margin = some box) (hin : inShape a.shape idx = true)
    (habove : cutoff < a.getD idx cutoff) :
    List.Forall₂ (fun (x : Nat) (b : Int × Int) => b.1 ≤ (x : Int) ∧ (x : Int) < b.2) idx box :=
  trimBoxAux_contains a cutoff margin hm 0 a.shape idx box hbox hin (hits_of_above a cutoff idx hin habove)

/-- the trim box lies inside the data (so trimming is a pure crop) -/
theorem trimBox_inside {α : Type} [LT α] [DecidableLT α] (a : Arr α) (cutoff : α)
    (margin : Int) (box : Box) (hm : 0 ≤ margin) (hbox : trimBox a cutoff margin = some box) :
    List.Forall₂ (fun (n : Nat) (b : Int × Int) => 0 ≤ b.1 ∧ b.1 < b.2 ∧ b.2 ≤ (n : Int)) a.shape box :=
  trimBoxAux_within a cutoff margin hm 0 a.shape box hbox

/-- `trim_box` raises only if nothing is above the cut-off -/
theorem trimBox_returns_if_above {α : Type} [LT α] [DecidableLT α] (a : Arr α) (cutoff : α) (margin : Int)
    (idx : List Nat) (hin : inShape a.shape idx = true) (habove : cutoff < a.getD idx cutoff) :
    (trimBox a cutoff margin).isSome = true := by
  obtain ⟨box, h⟩ := trimBoxAux_isSome a cutoff margin 0 a.shape idx hin (hits_of_above a cutoff idx hin habove)
  unfold trimBox; rw [h]; rfl

/-- **trimming keeps every voxel above the cut-off at its physical coordinate** (`adjust_box(trim_box(…))`) -/
theorem trim_keeps_above_cutoff {α β : Type} [LT α] [DecidableLT α] [CommRing β] (d : Dens α β)
    (cutoff pad dflt : α) (margin : Int) (box : Box) (idx : List Nat) (hm : 0 ≤ margin)
    (hbox : trimBox d.data cutoff margin = some box) (hin : inShape d.data.shape idx = true)
    (habove : cutoff < d.data.getD idx cutoff) :
    ∃ idx', inShape (d.adjustBox box pad).data.shape idx' = true ∧
      (d.adjustBox box pad).data.getD idx' dflt = d.data.getD idx pad ∧
      phys (d.adjustBox box pad).frame idx' = phys d.frame idx := by
  have hstop := trimBox_stop_nonneg d.data cutoff margin box hm hbox
  exact adjustBox_conserves_physical d box pad dflt idx (trimBox_length d.data cutoff margin box hbox) hstop hin
    (trimBox_contains_above_cutoff d.data cutoff margin box idx hm hbox hin habove)

/-! ## `minimum_enclosing_box` (cube side = recorded value with contract `side ≥ hi - lo + 1`) -/

theorem meboxAxis_contains (side lo hi : Nat) (hlh : lo ≤ hi) (hc : hi - lo + 1 ≤ side) :
    (meboxAxis side lo hi).1 ≤ lo ∧ (hi : Int) < (meboxAxis side lo hi).2 ∧
      (meboxAxis side lo hi).2 - (meboxAxis side lo hi).1 = side := by
  unfold meboxAxis; simp only; omega

/-- n-D: the enclosing box contains every voxel above the cut-off, for every recorded side that
satisfies the contract -/
theorem mebox_contains {α : Type} [LT α] [DecidableLT α] (a : Arr α) (cutoff : α) (side : Nat) (box : Box)
    (idx : List Nat) (hbox : mebox a cutoff side = some box)
    (hc : ∀ e, extentAux a cutoff 0 a.shape = some e → ∀ lh ∈ e, lh.2 - lh.1 + 1 ≤ side)
    (hin : inShape a.shape idx = true) (habove : cutoff < a.getD idx cutoff) :
    List.Forall₂ (fun (x : Nat) (b : Int × Int) => b.1 ≤ (x : Int) ∧ (x : Int) < b.2) idx box := by
  obtain ⟨e, he, rfl⟩ := Option.map_eq_some_iff.mp hbox
  have hcon := extentAux_contains a cutoff 0 a.shape idx e he hin (hits_of_above a cutoff idx hin habove)
  have hce := hc e he
  clear he hin habove hc hbox
  induction hcon with
  | nil => exact List.Forall₂.nil
  | @cons x lh xs es hx _ ih =>
    have := meboxAxis_contains side lh.1 lh.2 (hx.1.trans hx.2) (hce lh List.mem_cons_self)
    exact List.Forall₂.cons (by simp only; omega) (ih (fun y hy => hce y (List.mem_cons_of_mem _ hy)))

/-! ## `Density.centered` (frame only) and `Density.resample` -/

/-- `centered` pads to an odd extent that is at least the source box and the enclosing box -/
theorem centeredShape_axis (a b : Nat) :
    let m := max a b
    (m + (1 - m % 2)) % 2 = 1 ∧ a ≤ m + (1 - m % 2) ∧ b ≤ m + (1 - m % 2) := by
  simp only; omega

/-- **extents implied by the ratio of sampling rates**: the returned extent is the integer nearest to
`n·a/b` (within one half) -/
theorem resample_shape (n a b : Nat) (hb : 0 < b) :
    2 * (n * a) ≤ 2 * (b * resampleLen n a b) + b ∧ 2 * (b * resampleLen n a b) ≤ 2 * (n * a) + b := by
  unfold resampleLen roundHalfEven
  simp only
  have h1 := Nat.div_add_mod (n * a) b
  have h2 := Nat.mod_lt (n * a) hb
  generalize n * a = num at *
  generalize hq : num / b = q at *
  generalize hr : num % b = r at *
  have e : b * (q + 1) = b * q + b := Nat.mul_succ b q
  by_cases hlo : 2 * r < b
  · rw [if_pos hlo]
    omega
  · rw [if_neg hlo]
    by_cases hhi : b < 2 * r
    · rw [if_pos hhi, e]
      omega
    · rw [if_neg hhi]
      -- the tie `2 * r = b`: either neighbour is within one half
      by_cases hev : q % 2 = 0
      · rw [if_pos hev]
        omega
      · rw [if_neg hev, e]
        omega

/-- an exact ratio is returned exactly; in particular equal rates keep the extent -/
theorem resample_shape_exact (n a b : Nat) (hb : 0 < b) (k : Nat) (h : n * a = k * b) :
    resampleLen n a b = k := by
  unfold resampleLen roundHalfEven
  simp only
  rw [h, Nat.mul_mod_left, Nat.mul_div_cancel _ hb]
  simp [hb]

theorem resample_rate {β : Type} (g : Geo β) (newRate : List Nat) : (resample g newRate).rate = newRate := rfl
theorem resample_origin {β : Type} (g : Geo β) (newRate : List Nat) : (resample g newRate).origin = g.origin := rfl

/-! ## histories of the geometry that contain resampling -/

/-- a box operation after any earlier operations (resamplings included) keeps every position of the
grid at its physical coordinate **under the rate then in force**: new index `i` has the coordinate of
old index `i + start` on every axis. -/
theorem geoStep_box_physical (g : Geo Int) (b : Box) (idx : List Int) :
    gphys (geoStep g (.box b)) idx = gphys g (List.zipWith (fun (i : Int) (p : Int × Int) => i + p.1) idx b) := by
  unfold gphys geoStep
  exact gphys_zipWith_shift g.origin g.rate b idx

/-- a box operation yields the requested extents and leaves the rate alone; resampling keeps the origin and
records the new rate, whatever happened before -/
theorem geoStep_bookkeeping (g : Geo Int) (b : Box) (nr : List Nat) :
    (geoStep g (.box b)).shape = b.map (fun p => (max (p.2 - p.1) 0).toNat) ∧ (geoStep g (.box b)).rate = g.rate ∧
    (geoStep g (.resample nr)).origin = g.origin ∧ (geoStep g (.resample nr)).rate = nr ∧ geoStep g .copy = g :=
  ⟨rfl, rfl, rfl, rfl, rfl⟩

/-- **all sequences** of box operations and copies between two resamplings: a position of the final grid has
the physical coordinate of the position of the initial grid it is traced to (induction over the history) -/
theorem geoRun_physical (g : Geo Int) (ops : List GOp) (idx : List Int)
    (h : ∀ op ∈ ops, op.isResample = false) :
    gphys (geoRun g ops) idx = gphys g (gtrace ops idx) := by
  induction ops generalizing g with
  | nil => rfl
  | cons op ops ih =>
    have hrest : ∀ op' ∈ ops, op'.isResample = false := fun op' hm => h op' (List.mem_cons_of_mem _ hm)
    cases op with
    | resample nr =>
      have := h (.resample nr) (List.mem_cons_self ..)
      simp [GOp.isResample] at this
    | box b =>
      simp only [geoRun, gtrace]
      rw [ih (geoStep g (.box b)) hrest, geoStep_box_physical]
    | copy =>
      simp only [geoRun, gtrace, geoStep]
      exact ih g hrest

/-- histories compose, so the statement above applies to every stretch between resamplings, starting from
the geometry the resampling left (`resample_origin`, `resample_rate`, `resample_shape`) -/
theorem geoRun_compose (g : Geo Int) (ops1 ops2 : List GOp) (nr : List Nat) :
    geoRun g (ops1 ++ .resample nr :: ops2) = geoRun (resample (geoRun g ops1) nr) ops2 := by
  rw [geoRun_append]; rfl

/-- after any history the recorded rate is the one asked for by the last resampling (the initial one if none) -/
theorem geoRun_rate (g : Geo Int) (ops : List GOp) : (geoRun g ops).rate = lastRate g.rate ops := by
  induction ops generalizing g with
  | nil => rfl
  | cons op ops ih =>
    cases op with
    | resample nr => simp only [geoRun, lastRate, ih, geoStep, resample]
    | box b => simp only [geoRun, lastRate, ih, geoStep]
    | copy => simp only [geoRun, lastRate, ih, geoStep]

/-! ## per-axis arguments (`origin`, `sampling_rate`, `new_sampling_rate`) -/

/-- whatever is accepted has one entry per axis; a scalar is repeated, a full tuple kept -/
theorem broadcastAxes_spec {β : Type} (ndim : Nat) (l r : List β) (x : β) :
    (broadcastAxes ndim l = some r → r.length = ndim) ∧
    broadcastAxes ndim [x] = some (List.replicate ndim x) ∧
    (l ≠ [] → broadcastAxes l.length l = some l) :=
  ⟨broadcastAxes_length ndim l r, broadcastAxes_scalar ndim x, broadcastAxes_full l⟩

/-- **the setters of an existing object skip the constructor's size test**: they store `np.repeat(x, ndim // x.size)` whatever its
length.  Whenever the constructor would accept the argument the setter stores the same per-axis values; the stored value has one
entry per axis exactly in those cases, otherwise it has `len·(ndim div len)` entries (an object the box operations cannot use) -/
theorem setterAxes_spec {β : Type} (ndim : Nat) (l r : List β) :
    (broadcastAxes ndim l = some r → setterAxes ndim l = some r) ∧
    (setterAxes ndim l = some r → (r.length = ndim ↔ broadcastAxes ndim l = some r)) ∧
    (setterAxes ndim l = some r → r.length = l.length * (ndim / l.length)) := by
  unfold broadcastAxes setterAxes
  by_cases h0 : l.length = 0
  · simp [h0]
  · simp only [h0, if_false]
    refine ⟨?_, ?_, ?_⟩
    · intro h
      split at h
      · exact h
      · simp at h
    · intro h
      simp only [Option.some.injEq] at h
      subst h
      constructor
      · intro hl; simp [hl]
      · intro hb
        split at hb
        · assumption
        · simp at hb
    · intro h
      simp only [Option.some.injEq] at h
      subst h
      exact length_flatMap_const l _ _ fun _ _ => List.length_replicate

/-! ## sequences of `adjust_box`, `pad`, `trim_box`, `copy` -/

/-- **all sequences of operations**: whatever survives a history of box operations (adjust, pad,
trim, copy — any length) holds the value of the initial voxel it is traced to, and sits at that
voxel's physical coordinate. -/
theorem history_physical {α β : Type} [LT α] [DecidableLT α] [CommRing β]
    (ops : List (Op α)) (d d' : Dens α β) (idx idx0 : List Nat) (x : α)
    (hwf : d.data.data.size = prodL d.data.shape)
    (hrun : runFrom d ops = some d') (htr : traceFrom d ops idx = some idx0)
    (hin : inShape d'.data.shape idx = true) :
    d'.data.getD idx x = d.data.getD idx0 x ∧ phys d'.frame idx = phys d.frame idx0 ∧
      inShape d.data.shape idx0 = true := by
  induction ops generalizing d idx0 with
  | nil =>
    simp only [runFrom, Option.some.injEq] at hrun
    simp only [traceFrom, Option.some.injEq] at htr
    subst hrun; subst htr
    exact ⟨rfl, rfl, hin⟩
  | cons op ops ih =>
    cases op with
    | copy =>
      simp only [runFrom, step, Option.bind_some] at hrun
      simp only [traceFrom] at htr
      exact ih d idx0 hwf hrun htr
    | _ =>
      simp only [runFrom, step, traceFrom] at hrun htr
      split at htr
      · next bp hb =>
        rw [hb, Option.map_some, Option.bind_some] at hrun
        cases hm : traceFrom (d.adjustBox bp.1 bp.2) ops idx with
        | none => rw [hm] at htr; cases htr
        | some mid =>
          rw [hm, Option.bind_some] at htr
          obtain ⟨i1, i2, i3⟩ := ih (d.adjustBox bp.1 bp.2) mid (adjustData_wf d.data bp.1 bp.2) hrun hm
          obtain ⟨j1, j2, j3⟩ := step_trace d bp.1 bp.2 x mid idx0 hwf (boxOf_length d.data _ bp hb) i3 htr
          exact ⟨i1.trans j1, i2.trans j2, j3⟩
      · cases htr

/-! ## `Density.copy`, `empty`, `__init__`: which buffers are fresh -/

/-- **a copy shares no buffer with its source**: all four buffers are fresh, hold equal content,
and a write through any reference of one object is invisible through the other. -/
theorem copy_no_alias {γ : Type} [Inhabited γ] (h : Heap γ) (d : DRef) (hwf : ∀ r ∈ d.refs, r < h.cells.length) :
    let c := (copyD h d).2
    let h' := (copyD h d).1
    (∀ r ∈ c.refs, ∀ s ∈ d.refs, r ≠ s) ∧
    (h'.read c.data = h.read d.data ∧ h'.read c.origin = h.read d.origin ∧
      h'.read c.rate = h.read d.rate ∧ h'.read c.md = h.read d.md) ∧
    (∀ r ∈ c.refs, ∀ v, ∀ s ∈ d.refs, (h'.write r v).read s = h.read s) ∧
    (∀ s ∈ d.refs, ∀ v, ∀ r ∈ c.refs, (h'.write s v).read r = h'.read r) := by
  intro c h'
  have hr := copyD_refs h d
  have hc := copyD_cells h d hwf
  have hfresh : ∀ r ∈ c.refs, ∀ s ∈ d.refs, r ≠ s := by
    intro r hr' s hs
    have := hwf s hs
    simp only [c, hr, DRef.refs, List.mem_cons, List.not_mem_nil, or_false] at hr'
    omega
  have hold : ∀ s ∈ d.refs, h'.read s = h.read s := by
    intro s hs
    have := hwf s hs
    simp [h', Heap.read, hc, List.getD_eq_getElem?_getD, List.getElem?_append_left this]
  refine ⟨hfresh, ?_, ?_, ?_⟩
  · simp [c, h', hr, Heap.read, hc, List.getD_eq_getElem?_getD]
  · intro r hr' v s hs
    rw [read_write_ne _ _ _ _ (hfresh r hr' s hs)]
    exact hold s hs
  · intro s hs v r hr'
    exact read_write_ne _ _ _ _ (fun e => hfresh r hr' s hs e.symm)

/-- `Density.empty` likewise -/
theorem empty_no_alias {γ : Type} [Inhabited γ] (h : Heap γ) (d : DRef) (hwf : ∀ r ∈ d.refs, r < h.cells.length) :
    ∀ r ∈ (emptyD h d).2.refs, ∀ s ∈ d.refs, r ≠ s := by
  intro r hr s hs
  have := hwf s hs
  simp [emptyD, construct, Heap.alloc, DRef.refs] at hr
  omega

/-- whereas the constructor keeps the caller's data array (documented behaviour the harness pins) -/
theorem construct_keeps_data {γ : Type} [Inhabited γ] (h : Heap γ) (a b c e : Nat) :
    (construct h a b c e).2.data = a ∧ (construct h a b c e).2.md = e := by
  simp [construct, Heap.alloc]

/-! ## `Density.to_pointcloud` -/

/-- **`to_pointcloud(threshold)` lists exactly the voxels above the threshold** … -/
theorem toPointcloud_mem {α : Type} [LT α] [DecidableLT α] (a : Arr α) (thr : α) (idx : List Nat) :
    idx ∈ toPointcloud a thr ↔ inShape a.shape idx = true ∧ thr < a.getD idx thr := by
  unfold toPointcloud
  rw [List.mem_filter, mem_allIdx, decide_eq_true_iff]

/-- … each of them once -/
theorem toPointcloud_nodup {α : Type} [LT α] [DecidableLT α] (a : Arr α) (thr : α) : (toPointcloud a thr).Nodup :=
  (allIdx_nodup a.shape).filter _

/-- **the point cloud moves with the box**: after `adjust_box` with a pad value that is not above the threshold
(every box, also negative stops) each point of the new cloud is a point of the old cloud, with the same value, at
the same physical coordinate `origin + index·rate` -/
theorem pointcloud_adjust_physical {α β : Type} [LT α] [DecidableLT α] [CommRing β] (d : Dens α β)
    (hwf : d.data.data.size = prodL d.data.shape) (box : Box) (pad thr : α) (hpad : ¬ thr < pad)
    (hlen : box.length = d.data.shape.length) (idx : List Nat)
    (h : idx ∈ toPointcloud (d.adjustBox box pad).data thr) :
    ∃ s ∈ toPointcloud d.data thr, (d.adjustBox box pad).data.getD idx thr = d.data.getD s thr ∧
      phys (d.adjustBox box pad).frame idx = phys d.frame s := by
  obtain ⟨hin, hab⟩ := (toPointcloud_mem _ thr idx).mp h
  cases hs : srcIdx (plans d.data.shape box) idx with
  | none =>
    rw [show (d.adjustBox box pad).data = adjustData d.data box pad from rfl,
      adjustData_getD d.data box pad thr idx hin, hs] at hab
    exact absurd hab hpad
  | some s =>
    obtain ⟨hv, hp, hsin⟩ := step_trace d box pad thr idx s hwf hlen hin hs
    exact ⟨s, (toPointcloud_mem d.data thr s).mpr ⟨hsin, hv ▸ hab⟩, hv, hp⟩

/-- … and conversely every point of the old cloud that lies inside the box is a point of the new cloud, same value,
same physical coordinate (nothing above the threshold is lost) -/
theorem pointcloud_adjust_complete {α β : Type} [LT α] [DecidableLT α] [CommRing β] (d : Dens α β)
    (hwf : d.data.data.size = prodL d.data.shape) (box : Box) (pad thr : α)
    (hlen : box.length = d.data.shape.length) (hstop : ∀ b ∈ box, 0 ≤ b.2) (s : List Nat)
    (hs : s ∈ toPointcloud d.data thr)
    (hbox : List.Forall₂ (fun (x : Nat) (b : Int × Int) => b.1 ≤ (x : Int) ∧ (x : Int) < b.2) s box) :
    ∃ idx ∈ toPointcloud (d.adjustBox box pad).data thr,
      (d.adjustBox box pad).data.getD idx thr = d.data.getD s thr ∧
      phys (d.adjustBox box pad).frame idx = phys d.frame s := by
  rw [toPointcloud_mem] at hs
  obtain ⟨idx, h1, h2, h3⟩ := adjustBox_conserves_physical d box pad thr s hlen hstop hs.1 hbox
  have e : d.data.getD s pad = d.data.getD s thr := getD_default_irrel d.data hwf s hs.1 pad thr
  refine ⟨idx, ?_, h2.trans e, h3⟩
  rw [toPointcloud_mem]
  exact ⟨h1, by rw [h2, e]; exact hs.2⟩

/-- **trimming keeps the whole point cloud**: every point above the cut-off is a point of the cloud of the trimmed
density, same value, same physical coordinate -/
theorem pointcloud_trim_complete {α β : Type} [LT α] [DecidableLT α] [CommRing β] (d : Dens α β)
    (hwf : d.data.data.size = prodL d.data.shape) (cutoff pad : α) (margin : Int) (box : Box) (hm : 0 ≤ margin)
    (hbox : trimBox d.data cutoff margin = some box) (s : List Nat) (hs : s ∈ toPointcloud d.data cutoff) :
    ∃ idx ∈ toPointcloud (d.adjustBox box pad).data cutoff,
      (d.adjustBox box pad).data.getD idx cutoff = d.data.getD s cutoff ∧
      phys (d.adjustBox box pad).frame idx = phys d.frame s := by
  have hs' := (toPointcloud_mem d.data cutoff s).mp hs
  have hstop := trimBox_stop_nonneg d.data cutoff margin box hm hbox
  exact pointcloud_adjust_complete d hwf box pad cutoff (trimBox_length d.data cutoff margin box hbox) hstop s hs
    (trimBox_contains_above_cutoff d.data cutoff margin box s hm hbox hs'.1 hs'.2)

/-- **a growing `pad` keeps the whole point cloud**: for every target shape that is at least the source shape (centred or
appended) every point of the cloud is found again, same value, same physical coordinate -/
theorem pointcloud_pad_complete {α β : Type} [LT α] [DecidableLT α] [CommRing β] (d : Dens α β)
    (hwf : d.data.data.size = prodL d.data.shape) (newShape : List Nat) (center : Bool) (v thr : α)
    (hg : List.Forall₂ (fun n m => n ≤ m) d.data.shape newShape) (s : List Nat) (hs : s ∈ toPointcloud d.data thr) :
    ∃ idx ∈ toPointcloud (d.pad newShape center v).data thr,
      (d.pad newShape center v).data.getD idx thr = d.data.getD s thr ∧
      phys (d.pad newShape center v).frame idx = phys d.frame s :=
  have hb := padBox_extends center d.data.shape newShape hg
  pointcloud_adjust_complete d hwf _ v thr hb.length_eq.symm (forall₂_right_mem hb fun n b h => by omega) s hs
    (extending_contains hb s ((toPointcloud_mem d.data thr s).mp hs).1)

/-- **the cloud is carried over one to one**: the points of the new cloud are sent to pairwise different points of the old
cloud (so, with `pointcloud_adjust_complete`, the new cloud is in bijection with the part of the old cloud inside the box) -/
theorem pointcloud_adjust_injective {α : Type} [LT α] [DecidableLT α] (a : Arr α) (box : Box) (i1 i2 s : List Nat)
    (h1 : srcIdx (plans a.shape box) i1 = some s) (h2 : srcIdx (plans a.shape box) i2 = some s) : i1 = i2 :=
  srcIdx_inj _ i1 i2 s h1 h2

/-! ## `empty` and the box bookkeeping of `rigid_transform` (which starts from `self.empty`) -/

/-- **`empty` keeps the box**: same extents, same origin and sampling rate (so every index keeps its physical
coordinate), every voxel zero; a new object whose data do not depend on the source's values -/
theorem empty_bookkeeping {α β : Type} [Zero α] [CommRing β] (d : Dens α β) :
    d.empty.data.shape = d.data.shape ∧ d.empty.frame = d.frame ∧
    (∀ idx, phys d.empty.frame idx = phys d.frame idx) ∧
    (∀ idx x, inShape d.data.shape idx = true → d.empty.data.getD idx x = 0) ∧
    d.empty.data.data.size = prodL d.data.shape :=
  ⟨rfl, rfl, fun _ => rfl, fun _ _ h => Arr.getD_ofFn _ _ _ _ h, Arr.size_ofFn _ _⟩

/-- the cloud of an empty density is empty -/
theorem empty_pointcloud {β : Type} (d : Dens Int β) : toPointcloud d.empty.data 0 = [] := by
  rw [List.eq_nil_iff_forall_not_mem]
  intro idx h
  rw [toPointcloud_mem] at h
  have := Arr.getD_ofFn d.data.shape idx (fun _ => (0 : Int)) 0 h.1
  have h2 := h.2
  simp only [Dens.empty] at h2
  rw [this] at h2
  exact absurd h2 (by decide)

/-! ## `center_of_mass` (integer data: exact fractions `comNum / comDen`) -/

/-- **cut-off semantics**: a voxel weighs its value if that is above the cut-off, else nothing; without a cut-off
every voxel weighs its value -/
theorem com_cutoff_semantics (a : Arr Int) (c : Int) (idx : List Nat) :
    comW a (some c) idx = (if c < a.getD idx 0 then a.getD idx 0 else 0) ∧ comW a none idx = a.getD idx 0 :=
  ⟨rfl, rfl⟩

/-- with a cut-off the sums run over the point cloud: `denominator = Σ_{p ∈ to_pointcloud(c)} data[p]`,
`numerator_ax = Σ_{p ∈ to_pointcloud(c)} data[p]·p[ax]` -/
theorem com_eq_cloud_sums (a : Arr Int) (hwf : a.data.size = prodL a.shape) (c : Int) (ax : Nat) :
    comDen a (some c) = ((toPointcloud a c).map (fun p => a.getD p 0)).sum ∧
    comNum a (some c) ax = ((toPointcloud a c).map (fun p => a.getD p 0 * ((p.getD ax 0 : Nat) : Int))).sum := by
  constructor
  · simpa [comDen] using sum_comW_cloud a hwf c (fun _ => 1)
  · exact sum_comW_cloud a hwf c _

/-- **covariance of the centre of mass under `adjust_box`** (hence `pad`, trimming): when the pad value weighs
nothing and every voxel that weighs lies inside the box, the denominator is unchanged and every numerator moves by
`start·denominator` — the centre of mass in voxels moves by exactly `-start` -/
theorem com_adjust_covariant (a : Arr Int) (hwf : a.data.size = prodL a.shape) (box : Box) (pad : Int)
    (cutoff : Option Int) (hlen : box.length = a.shape.length) (hstop : ∀ b ∈ box, 0 ≤ b.2)
    (hpad : comV cutoff pad = 0)
    (hsupp : ∀ s, inShape a.shape s = true → comW a cutoff s ≠ 0 →
      List.Forall₂ (fun (x : Nat) (b : Int × Int) => b.1 ≤ (x : Int) ∧ (x : Int) < b.2) s box) :
    comDen (adjustData a box pad) cutoff = comDen a cutoff ∧
    ∀ ax, ax < box.length →
      comNum (adjustData a box pad) cutoff ax = comNum a cutoff ax - (box.getD ax (0, 0)).1 * comDen a cutoff := by
  have hden := sum_adjust a hwf box pad cutoff hlen hstop hpad hsupp (fun _ => 1) (fun _ => 1) (fun _ _ _ => rfl)
  simp only [mul_one] at hden
  refine ⟨hden, ?_⟩
  intro ax hax
  have hnum := sum_adjust a hwf box pad cutoff hlen hstop hpad hsupp
    (fun s => ((s.getD ax 0 : Nat) : Int) - (box.getD ax (0, 0)).1) (fun idx => ((idx.getD ax 0 : Nat) : Int))
    (fun idx s h => by have := srcIdx_getD a.shape box idx s ax hlen h hax; omega)
  unfold comNum comDen
  rw [hnum]
  exact sum_map_mul_sub _ _ _ _

/-- **the physical centre of mass is unchanged**: with the origin `o' = o + start·rate` that `adjust_box` records,
`den·(o' + com'·rate) = den·(o + com·rate)` on every axis, over every commutative ring of coordinates -/
theorem com_adjust_physical {β : Type} [CommRing β] (a : Arr Int) (hwf : a.data.size = prodL a.shape) (box : Box)
    (pad : Int) (cutoff : Option Int) (hlen : box.length = a.shape.length) (hstop : ∀ b ∈ box, 0 ≤ b.2)
    (hpad : comV cutoff pad = 0)
    (hsupp : ∀ s, inShape a.shape s = true → comW a cutoff s ≠ 0 →
      List.Forall₂ (fun (x : Nat) (b : Int × Int) => b.1 ≤ (x : Int) ∧ (x : Int) < b.2) s box)
    (ax : Nat) (hax : ax < box.length) (o r : β) :
    (o + (((box.getD ax (0, 0)).1 : Int) : β) * r) * ((comDen (adjustData a box pad) cutoff : Int) : β) +
        ((comNum (adjustData a box pad) cutoff ax : Int) : β) * r =
      o * ((comDen a cutoff : Int) : β) + ((comNum a cutoff ax : Int) : β) * r := by
  obtain ⟨h1, h2⟩ := com_adjust_covariant a hwf box pad cutoff hlen hstop hpad hsupp
  rw [h1, h2 ax hax]
  push_cast
  ring

/-- trimming at the cut-off of the centre of mass never moves it: the trim box contains every voxel that weighs -/
theorem com_trim_covariant (a : Arr Int) (hwf : a.data.size = prodL a.shape) (c pad : Int) (margin : Int) (box : Box)
    (hm : 0 ≤ margin) (hbox : trimBox a c margin = some box) (hpad : comV (some c) pad = 0) :
    comDen (adjustData a box pad) (some c) = comDen a (some c) ∧
    ∀ ax, ax < box.length →
      comNum (adjustData a box pad) (some c) ax = comNum a (some c) ax - (box.getD ax (0, 0)).1 * comDen a (some c) := by
  have hstop := trimBox_stop_nonneg a c margin box hm hbox
  refine com_adjust_covariant a hwf box pad (some c) (trimBox_length a c margin box hbox) hstop hpad ?_
  intro s hs hne
  refine trimBox_contains_above_cutoff a c margin box s hm hbox hs ?_
  rw [getD_default_irrel a hwf s hs c 0]
  by_contra hlt
  exact hne (by simp [comW, comV, hlt])

/-- **growing `pad` (centred or appended) never moves the centre of mass**: for every target shape that is at least the
source shape and a padding value that weighs nothing, the denominator is unchanged and the numerators move by
`start·denominator`, `start` the (non-positive) start of the box `pad` hands to `adjust_box` -/
theorem com_pad_covariant (a : Arr Int) (hwf : a.data.size = prodL a.shape) (newShape : List Nat) (center : Bool)
    (v : Int) (cutoff : Option Int) (hg : List.Forall₂ (fun n m => n ≤ m) a.shape newShape) (hpad : comV cutoff v = 0) :
    let box := Dens.padBox center a.shape newShape
    comDen (adjustData a box v) cutoff = comDen a cutoff ∧
    ∀ ax, ax < box.length →
      comNum (adjustData a box v) cutoff ax = comNum a cutoff ax - (box.getD ax (0, 0)).1 * comDen a cutoff :=
  have hb := padBox_extends center a.shape newShape hg
  com_adjust_covariant a hwf _ v cutoff hb.length_eq.symm (forall₂_right_mem hb fun n b h => by omega) hpad
    (fun s hs _ => extending_contains hb s hs)

/-! ## the point cloud through a sequence of operations -/

/-- **the point cloud through a whole history**: a point of the cloud of the final density that is traced to a voxel of
the initial density is a point of the initial cloud, and sits at the same physical coordinate (any sequence of adjust /
pad / trim / copy) -/
theorem pointcloud_history {α β : Type} [LT α] [DecidableLT α] [CommRing β]
    (ops : List (Op α)) (d d' : Dens α β) (idx idx0 : List Nat) (thr : α)
    (hwf : d.data.data.size = prodL d.data.shape)
    (hrun : runFrom d ops = some d') (htr : traceFrom d ops idx = some idx0)
    (h : idx ∈ toPointcloud d'.data thr) :
    idx0 ∈ toPointcloud d.data thr ∧ phys d'.frame idx = phys d.frame idx0 := by
  rw [toPointcloud_mem] at h
  obtain ⟨h1, h2, h3⟩ := history_physical ops d d' idx idx0 thr hwf hrun htr h.1
  refine ⟨?_, h2⟩
  rw [toPointcloud_mem]
  exact ⟨h3, by rw [← h1]; exact h.2⟩

/-! ## `Density.core_mask` -/

/-- **`core_mask` is aligned with the data**: it has the extents of the data (so index `i` of the mask sits at the physical
coordinate of index `i` of the data) and is positive exactly on the voxels with `data > 0` -/
theorem coreMask_aligned (a : Arr Int) :
    (coreMask a).shape = a.shape ∧
    ∀ idx, inShape a.shape idx = true → (0 < (coreMask a).getD idx 0 ↔ 0 < a.getD idx 0) := by
  refine ⟨coreLoop_shape _ _ _, fun idx hin => ?_⟩
  rw [coreMask_eq_count a idx hin, List.length_pos_iff_exists_mem]
  constructor
  · rintro ⟨k, hk⟩
    have := iter_erode_sub k _ idx (List.mem_filter.mp hk).2
    rw [Arr.getD_ofFn _ _ _ _ hin] at this
    exact of_decide_eq_true this
  · intro h
    refine ⟨0, List.mem_filter.mpr ⟨List.mem_range.mpr (Nat.succ_pos _), ?_⟩⟩
    rw [Function.iterate_zero, id, Arr.getD_ofFn _ _ _ _ hin]
    exact decide_eq_true h

/-- every round of the loop only adds: a voxel that survives a further erosion was in the mask before (erosion shrinks) -/
theorem erode_shrinks (m : Arr Bool) (idx : List Nat) (hin : inShape m.shape idx = true)
    (h : (erode m).getD idx false = true) : m.getD idx false = true :=
  erode_sub m idx hin h

/-- **`core_mask` counts the erosions a voxel survives, and the bound on the number of rounds never cuts the count short**
(ranks ≥ 1): the value is the number of `k` — among the first `K` for *every* `K` beyond the number of voxels — such that the
voxel is still in the mask after `k` erosions of `data > 0` -/
theorem coreMask_counts (a : Arr Int) (idx : List Nat) (hin : inShape a.shape idx = true) (hrank : 0 < a.shape.length)
    (K : Nat) (hK : prodL a.shape + 1 ≤ K) :
    (coreMask a).getD idx 0 =
      ((List.range K).filter (fun k =>
        (erode^[k] (Arr.ofFn a.shape (fun i => decide (0 < a.getD i 0)))).getD idx false)).length := by
  rw [coreMask_eq_count a idx hin]
  refine (filter_range_stable _ (prodL a.shape + 1) ?_ K hK).symm
  intro k hk
  cases hp : (erode^[k] (Arr.ofFn a.shape (fun i => decide (0 < a.getD i 0)))).getD idx false with
  | false => rfl
  | true =>
    exfalso
    have hb := iter_erode_border k (Arr.ofFn a.shape (fun i => decide (0 < a.getD i 0))) idx 0 hrank hp
    cases hs : a.shape with
    | nil => rw [hs] at hrank; simp at hrank
    | cons n ns =>
      have hle := first_le_prodL n ns idx (by rw [← hs]; exact hin)
      have hb2 : idx.getD 0 0 + k < n := by
        have := hb.2
        simpa [Arr.ofFn, hs] using this
      rw [hs] at hk
      omega

/-- a voxel survives at most as many erosions as it is away from the nearer end of any axis (plus one): the mask never exceeds
the distance to the border of the box -/
theorem coreMask_le_border (a : Arr Int) (idx : List Nat) (hin : inShape a.shape idx = true) (ax : Nat)
    (hax : ax < a.shape.length) :
    (coreMask a).getD idx 0 ≤ min (idx.getD ax 0 + 1) (a.shape.getD ax 0 - idx.getD ax 0) := by
  rw [coreMask_eq_count a idx hin]
  refine filter_range_length_le _ _ ?_ _
  intro k hp
  have hb := iter_erode_border k (Arr.ofFn a.shape (fun i => decide (0 < a.getD i 0))) idx ax hax hp
  have h2 : idx.getD ax 0 + k < a.shape.getD ax 0 := hb.2
  omega

/-- **`core_mask` moves with a box that only adds zeros** (`adjust_box` with non-positive starts and stops at or beyond the
data, hence every growing `pad`; library default pad value 0): the mask of the padded density holds, at every voxel, the old
mask's value of the voxel with the same physical coordinate (`pointcloud_adjust_physical` / `adjustBox_physical_nd`: the source
index has the same `origin + index·rate`), and 0 on the added voxels -/
theorem coreMask_zero_pad (a : Arr Int) (box : Box) (hrank : 0 < a.shape.length)
    (hext : List.Forall₂ (fun (n : Nat) (b : Int × Int) => b.1 ≤ 0 ∧ (n : Int) ≤ b.2) a.shape box)
    (idx : List Nat) (hin : inShape (adjustData a box 0).shape idx = true) :
    (coreMask (adjustData a box 0)).getD idx 0 =
      match srcIdx (plans a.shape box) idx with
      | some s => (coreMask a).getD s 0
      | none => 0 := by
  have hlen : box.length = a.shape.length := hext.length_eq.symm
  have hps := plans_extending a.shape box hext
  -- the masks `data > 0` correspond
  have hread0 : ∀ i, (Arr.ofFn (adjustData a box 0).shape (fun i => decide (0 < (adjustData a box 0).getD i 0))).getD i false =
      embB (Arr.ofFn a.shape (fun i => decide (0 < a.getD i 0))) (plans a.shape box) i := by
    intro i
    unfold embB
    by_cases hi : inShape (adjustData a box 0).shape i = true
    · rw [Arr.getD_ofFn _ _ _ _ hi, adjustData_getD a box 0 0 i hi]
      cases hs : srcIdx (plans a.shape box) i with
      | none => rfl
      | some s =>
        exact (Arr.getD_ofFn a.shape s (fun i => decide (0 < a.getD i 0)) false (srcIdx_inShape a.shape box i s hlen hs)).symm
    · rw [Arr.getD_ofFn_out _ i _ false (by simpa using hi)]
      cases hs : srcIdx (plans a.shape box) i with
      | none => rfl
      | some s => exact absurd (srcIdx_new_inShape _ i s hs) hi
  have hread := fun k => iter_erode_emb a.shape (plans a.shape box) hps _ _ rfl rfl hread0 k idx
  have hrank' : 0 < (adjustData a box 0).shape.length := by
    show 0 < ((plans a.shape box).map AxisPlan.newLen).length
    rw [List.length_map, ← hps.length_eq]; exact hrank
  -- count both masks over the same number `K` of rounds; `hread` turns the new voxel's rounds into the rounds of its source
  rw [coreMask_counts (adjustData a box 0) idx hin hrank'
        (max (prodL (adjustData a box 0).shape + 1) (prodL a.shape + 1)) (Nat.le_max_left _ _)]
  simp only [hread]
  cases hs : srcIdx (plans a.shape box) idx with
  | none => simp [embB, hs]
  | some s =>
    have hsin := srcIdx_inShape a.shape box idx s hlen hs
    show _ = (coreMask a).getD s 0
    rw [coreMask_counts a s hsin hrank
        (max (prodL (adjustData a box 0).shape + 1) (prodL a.shape + 1)) (Nat.le_max_right _ _)]
    simp [embB, hs]

/-! ## `Density.to_memmap` / `to_numpy` -/

/-- **`to_memmap` / `to_numpy` change nothing but where the data live**: equal content in a buffer that is not one
of the source's, `origin`, `sampling_rate`, `metadata` the very same objects with unchanged content; a no-op when the
data already are of the requested kind -/
theorem remap_keeps {γ : Type} [Inhabited γ] (h : Heap γ) (d : DRef) (fresh : Bool)
    (hwf : ∀ r ∈ d.refs, r < h.cells.length) :
    let r := (remapD h d fresh).2
    let h' := (remapD h d fresh).1
    (r.origin = d.origin ∧ r.rate = d.rate ∧ r.md = d.md) ∧
    h'.read r.data = h.read d.data ∧
    (∀ s ∈ d.refs, h'.read s = h.read s) ∧
    (fresh = true → ∀ s ∈ d.refs, r.data ≠ s) ∧ (fresh = false → r = d ∧ h'.cells = h.cells) := by
  cases fresh with
  | false => simp [remapD]
  | true =>
    simp only [remapD]
    refine ⟨⟨rfl, rfl, rfl⟩, read_alloc_new h _, ?_, ?_, by simp⟩
    · intro s hs; exact read_alloc_lt h _ s (hwf s hs)
    · intro _ s hs
      have := hwf s hs
      simp only [Heap.alloc, if_true]
      omega

/-! ## `adjust_box` applied twice on one axis: full box, crop after crop, extend then crop back -/

/-- **`adjust_box` with the full box is the identity** on one axis: everything kept, nothing added -/
theorem adjustAxis_full_box (n : Nat) :
    let p := adjustAxis n 0 n
    p.src = 0 ∧ p.len = n ∧ p.left = 0 ∧ p.right = 0 ∧ p.newLen = n ∧ ∀ j, j < n → p.srcOf j = some j := by
  obtain ⟨a1, a2, a3, a4⟩ := adjustAxis_crop n 0 n (le_refl _) (by omega) (le_refl _)
  simp only
  refine ⟨by omega, by omega, a3, a4, by unfold AxisPlan.newLen; omega, fun j hj => ?_⟩
  exact (AxisPlan.srcOf_eq_some _ j j).mpr ⟨by omega, by omega⟩

/-- **`pad` to the present extent hands `adjust_box` the full box** (centred or appended): zero widths = identity -/
theorem pad_zero_width (center : Bool) (n : Nat) : padBoxAxis center n n = (0, (n : Int)) := by
  cases center <;> simp [padBoxAxis]

/-- the full box leaves the origin and the rate of every axis alone -/
theorem adjustFrame_zero_start {β : Type} [CommRing β] (o r : β) (stop : Int) :
    adjustFrame [(o, r)] [(0, stop)] = [(o, r)] := by
  simp [adjustFrame]

/-- **crop then crop = crop by the composed box** (one axis): the plan of the second crop on the result of the
first is the plan of the box shifted by the first start; nothing is padded -/
theorem adjustAxis_crop_crop (n N : Nat) (s1 e1 s2 e2 : Int) (h1 : 0 ≤ s1) (h2 : s1 ≤ e1) (h3 : e1 ≤ n)
    (h4 : 0 ≤ s2) (h5 : s2 ≤ e2) (h6 : e2 ≤ e1 - s1) (hN : N = (adjustAxis n s1 e1).newLen) :
    (adjustAxis n (s1 + s2) (s1 + e2)).src = (adjustAxis n s1 e1).src + (adjustAxis N s2 e2).src ∧
      (adjustAxis n (s1 + s2) (s1 + e2)).len = (adjustAxis N s2 e2).len ∧
      (adjustAxis n (s1 + s2) (s1 + e2)).left = 0 ∧ (adjustAxis n (s1 + s2) (s1 + e2)).right = 0 ∧
      (adjustAxis N s2 e2).left = 0 ∧ (adjustAxis N s2 e2).right = 0 := by
  have hn := adjustAxis_newLen n s1 e1 (by omega)
  rw [← hN] at hn
  obtain ⟨a1, _⟩ := adjustAxis_crop n s1 e1 h1 h2 h3
  obtain ⟨b1, b2, b3, b4⟩ := adjustAxis_crop N s2 e2 h4 h5 (by omega)
  obtain ⟨c1, c2, c3, c4⟩ := adjustAxis_crop n (s1 + s2) (s1 + e2) (by omega) (by omega) (by omega)
  exact ⟨by omega, by omega, c3, c4, b3, b4⟩

/-- origins compose: shifting by `s1` and then by `s2` records the origin of the composed box -/
theorem adjustBox_origin_compose {β : Type} [CommRing β] (origin rate : β) (s1 s2 : Int) :
    (origin + (s1 : β) * rate) + (s2 : β) * rate = origin + ((s1 + s2 : Int) : β) * rate := by
  push_cast; ring

/-- **extend then crop back = identity** (one axis): after extending by a box containing the data, the box
`(-start, n - start)` selects exactly the old voxels, in order, and the origin returns to the old one -/
theorem adjustAxis_extend_crop_back (n : Nat) (s e : Int) (hs : s ≤ 0) (he : (n : Int) ≤ e) :
    let p1 := adjustAxis n s e
    let p2 := adjustAxis p1.newLen (-s) (n - s)
    p2.newLen = n ∧ p2.left = 0 ∧ p2.right = 0 ∧
      ∀ j, j < n → (p2.srcOf j).bind p1.srcOf = some j := by
  have hn := adjustAxis_newLen n s e (by omega)
  obtain ⟨a1, a2, a3, _⟩ := adjustAxis_extend n s e hs he
  obtain ⟨b1, b2, b3, b4⟩ := adjustAxis_crop (adjustAxis n s e).newLen (-s) (n - s) (by omega) (by omega) (by omega)
  simp only
  generalize (adjustAxis n s e).newLen = N at *
  generalize adjustAxis n s e = p1 at *
  generalize adjustAxis N (-s) (n - s) = p2 at *
  refine ⟨by unfold AxisPlan.newLen; omega, b3, b4, fun j hj => ?_⟩
  rw [Option.bind_eq_some_iff]
  exact ⟨_, (p2.srcOf_eq_some j _).mpr ⟨by omega, rfl⟩, (p1.srcOf_eq_some _ j).mpr ⟨by omega, by omega⟩⟩

/-- the origin comes back after extending by `start` and cropping by `-start` -/
theorem adjustBox_origin_round_trip {β : Type} [CommRing β] (origin rate : β) (s : Int) :
    (origin + (s : β) * rate) + ((-s : Int) : β) * rate = origin := by
  push_cast; ring

/-- **physical coordinate through two box operations**: new index `j` after boxes starting at `s1` then `s2`
sits at the coordinate of old index `j + s2 + s1` -/
theorem adjustBox_physical_compose {β : Type} [CommRing β] (origin rate : β) (s1 s2 j : Int) :
    ((origin + (s1 : β) * rate) + (s2 : β) * rate) + (j : β) * rate = origin + ((j + s2 + s1 : Int) : β) * rate := by
  push_cast; ring

/-! ## `trim_box` on one axis: tight at margin 0, monotone in the margin -/

/-- **minimality of the trim box** (margin 0): on every axis the first kept slab and the last kept slab each
contain a voxel above the cut-off, so no face can be moved inwards -/
theorem trimAxis_tight {α : Type} [LT α] [DecidableLT α] (a : Arr α) (cutoff : α) (ax n : Nat) (b : Int × Int)
    (h : trimAxis a cutoff 0 ax n = some b) :
    0 ≤ b.1 ∧ b.1 < b.2 ∧ b.2 ≤ n ∧ axisHit a cutoff ax b.1.toNat = true ∧ axisHit a cutoff ax (b.2 - 1).toNat = true ∧
      ∀ i : Nat, i < n → axisHit a cutoff ax i = true → b.1 ≤ i ∧ (i : Int) < b.2 := by
  obtain ⟨f, l, hf, hl, rfl⟩ := trimAxis_some h
  obtain ⟨h1, h2, h3, h4, h5⟩ := firstHit_lastHit hf hl
  have hfl := h5 f h1 h3
  have q1 : max (0 : Int) ((f : Int) - 0) = f := by omega
  have q2 : min (n : Int) ((l : Int) + 0 + 1) = l + 1 := by omega
  simp only [q1, q2, Int.toNat_natCast, Int.add_sub_cancel]
  refine ⟨by omega, by omega, by omega, h3, h4, fun i hi hp => ?_⟩
  have := h5 i hi hp
  omega

/-- **a larger margin gives a larger trim box** (one axis), and both stay inside the data -/
theorem trimAxis_margin_mono {α : Type} [LT α] [DecidableLT α] (a : Arr α) (cutoff : α) (m1 m2 : Int) (ax n : Nat)
    (b1 b2 : Int × Int) (hm : m1 ≤ m2) (h1 : trimAxis a cutoff m1 ax n = some b1)
    (h2 : trimAxis a cutoff m2 ax n = some b2) : b2.1 ≤ b1.1 ∧ b1.2 ≤ b2.2 ∧ 0 ≤ b2.1 ∧ b2.2 ≤ n := by
  obtain ⟨f, l, hf, hl, rfl⟩ := trimAxis_some h1
  obtain ⟨f', l', hf', hl', rfl⟩ := trimAxis_some h2
  rw [hf, Option.some.injEq] at hf'
  rw [hl, Option.some.injEq] at hl'
  subst hf' hl'
  simp only
  omega

/-! ## `resample` with equal rates, and there and back -/

/-- **equal rates keep the extent** (ratio 1) -/
theorem resample_same_rate (n a : Nat) (ha : 0 < a) : resampleLen n a a = n :=
  resample_shape_exact n a a ha n rfl

/-- **resampling there and back** with inverse ratios returns the original extent when the ratio divides -/
theorem resample_round_trip (n a b k : Nat) (ha : 0 < a) (hb : 0 < b) (h : n * a = k * b) :
    resampleLen (resampleLen n a b) b a = n := by
  rw [resample_shape_exact n a b hb k h]
  exact resample_shape_exact k b a ha n h.symm

/-- n-D: resampling to the rate already recorded returns the same extents, origin and rate -/
theorem resample_same_rate_geo {β : Type} (g : Geo β) (hpos : ∀ r ∈ g.rate, 0 < r) (hlen : g.rate.length = g.shape.length) :
    resample g g.rate = g := by
  obtain ⟨shape, origin, rate⟩ := g
  simp only [resample, Geo.mk.injEq, and_true]
  simp only at hpos hlen
  induction shape generalizing rate with
  | nil => simp
  | cons n ns ih =>
    cases rate with
    | nil => simp at hlen
    | cons r rs =>
      simp only [List.zip_cons_cons, List.zipWith_cons_cons, List.cons.injEq]
      refine ⟨resample_shape_exact n r r (hpos r (by simp)) n rfl, ih rs (fun x hx => hpos x (by simp [hx])) (by simpa using hlen)⟩

/-! ## total mass (denominator of `center_of_mass`) under `adjust_box` -/

/-- **total mass is conserved by extending with pad value 0** (any box that contains the whole array) -/
theorem mass_extend_zero (a : Arr Int) (hwf : a.data.size = prodL a.shape) (box : Box)
    (hlen : box.length = a.shape.length)
    (hsupp : ∀ s, inShape a.shape s = true →
      List.Forall₂ (fun (x : Nat) (b : Int × Int) => b.1 ≤ (x : Int) ∧ (x : Int) < b.2) s box)
    (hstop : ∀ b ∈ box, 0 ≤ b.2) :
    comDen (adjustData a box 0) none = comDen a none :=
  (com_adjust_covariant a hwf box 0 none hlen hstop rfl (fun s hs _ => hsupp s hs)).1

/-- **total mass is conserved by cropping to a box that contains the support** (every non-zero voxel) -/
theorem mass_crop_support (a : Arr Int) (hwf : a.data.size = prodL a.shape) (box : Box) (pad : Int)
    (hlen : box.length = a.shape.length) (hstop : ∀ b ∈ box, 0 ≤ b.2) (hpad : pad = 0)
    (hsupp : ∀ s, inShape a.shape s = true → a.getD s 0 ≠ 0 →
      List.Forall₂ (fun (x : Nat) (b : Int × Int) => b.1 ≤ (x : Int) ∧ (x : Int) < b.2) s box) :
    comDen (adjustData a box pad) none = comDen a none :=
  (com_adjust_covariant a hwf box pad none hlen hstop (by subst hpad; rfl) (fun s hs hw => hsupp s hs hw)).1

/-! ## non-vacuity -/
example : adjustAxis 8 (-2) 5 = ⟨0, 5, 2, 0⟩ ∧ (adjustAxis 8 (-2) 5).newLen = 7 := by decide +kernel
example : adjustAxis 8 3 12 = ⟨3, 5, 0, 4⟩ ∧ (adjustAxis 8 9 12).newLen = 3 := by decide +kernel
example : (adjustAxis 8 (-2) 5).srcOf 1 = none ∧ (adjustAxis 8 (-2) 5).srcOf 2 = some 0 := by decide +kernel
example : (adjustData (⟨[2,2], #[1,2,3,4]⟩ : Arr Int) [(-1, 2), (1, 3)] 9).toList = [9,9,2,9,4,9] := by decide +kernel
example : padBoxAxis true 3 6 = (-1, 5) ∧ padBoxAxis true 5 2 = (2, 4) ∧ padBoxAxis false 3 6 = (0, 6) := by decide +kernel
example : trimBox (⟨[2,3], #[0,1,0,0,5,0]⟩ : Arr Int) 0 0 = some [(0,2),(1,2)] := by decide +kernel
example : trimBox (⟨[5], #[0,1,1,1,0]⟩ : Arr Int) 0 0 = some [(1,4)] ∧ trimBox (⟨[5], #[0,1,1,1,0]⟩ : Arr Int) 1 0 = none := by decide +kernel
example : meboxAxis 5 1 3 = (0, 5) ∧ meboxAxis 3 0 2 = (0, 3) := by decide +kernel
example : mebox (⟨[6], #[0,1,1,1,0,0]⟩ : Arr Int) 0 5 = some [(0, 5)] := by decide +kernel
example : centeredShape [6,7,5] [5,5,5] = [7,7,5] := by decide +kernel
example : broadcastAxes 3 [(7 : Int)] = some [7,7,7] ∧ broadcastAxes 3 [(1 : Int), 2] = none ∧
    broadcastAxes 2 [(1 : Int), 2] = some [1, 2] ∧ broadcastAxes 4 [(1 : Int), 2] = some [1,1,2,2] := by decide +kernel
example : resampleLen 11 2 4 = 6 ∧ resampleLen 5 3 6 = 2 ∧ resampleLen 11 2 1 = 22 := by decide +kernel
example : (copyD (⟨[10,11,12,13]⟩ : Heap Nat) ⟨0,1,2,3⟩).2 = ⟨4,7,8,6⟩ := by decide +kernel
example :
    let d : Dens Int Int := ⟨⟨[4], #[1,2,3,4]⟩, [(0, 1)]⟩
    let ops : List (Op Int) := [.adjust [(-1, 3)] 0, .pad [7] true (-1), .trim 1 0 0]
    (runFrom d ops).map (fun r => (r.data.toList, r.frame)) = some ([2,3], [(1,1)]) ∧
    traceFrom d ops [1] = some [2] := by decide +kernel

example :
    let g : Geo Int := ⟨[11, 11], [0, 0], [8, 8]⟩
    let ops : List GOp := [.resample [16, 4], .box [(-1, 4), (2, 30)], .copy, .resample [8, 4], .box [(1, 3), (0, 5)]]
    geoStates g ops = [⟨[6, 22], [0, 0], [16, 4]⟩, ⟨[5, 28], [-16, 8], [16, 4]⟩, ⟨[5, 28], [-16, 8], [16, 4]⟩,
                       ⟨[10, 28], [-16, 8], [8, 4]⟩, ⟨[2, 5], [-8, 8], [8, 4]⟩] ∧
    lastRate g.rate ops = [8, 4] := by decide +kernel
/-- the hypothesis of `geoRun_physical` is satisfiable by a history that moves the grid -/
example :
    let g : Geo Int := ⟨[6, 22], [0, 0], [16, 4]⟩
    let ops : List GOp := [.box [(-1, 4), (2, 30)], .copy, .box [(1, 3), (0, 5)]]
    (∀ op ∈ ops, op.isResample = false) ∧ gtrace ops [0, 0] = [0, 2] ∧ gphys (geoRun g ops) [0, 0] = [0, 8] := by decide +kernel

/-- hypotheses of `adjustBox_conserves_physical` are satisfiable: voxel `[0,1]` of a 2×2 array lies in
the box `[-1,2)×[1,3)` and is found again -/
example :
    let d : Dens Int Int := ⟨⟨[2,2], #[1,2,3,4]⟩, [(10, 2), (20, 3)]⟩
    ∃ idx, inShape (d.adjustBox [(-1, 2), (1, 3)] 9).data.shape idx = true ∧
      (d.adjustBox [(-1, 2), (1, 3)] 9).data.getD idx 0 = d.data.getD [0, 1] 9 ∧
      phys (d.adjustBox [(-1, 2), (1, 3)] 9).frame idx = phys d.frame [0, 1] :=
  adjustBox_conserves_physical _ _ _ _ [0, 1] rfl (by decide +kernel) (by decide +kernel)
    (List.Forall₂.cons ⟨by decide +kernel, by decide +kernel⟩ (List.Forall₂.cons ⟨by decide +kernel, by decide +kernel⟩ List.Forall₂.nil))

/-- hypotheses of the trim theorems are satisfiable -/
example :
    List.Forall₂ (fun (x : Nat) (b : Int × Int) => b.1 ≤ (x : Int) ∧ (x : Int) < b.2) [1, 1] [(0, 2), (1, 2)] :=
  trimBox_contains_above_cutoff (⟨[2,3], #[0,1,0,0,5,0]⟩ : Arr Int) 0 0 _ [1, 1] (by decide +kernel) (by decide +kernel) (by decide +kernel) (by decide +kernel)

/-- … and of `mebox_contains` (side 5 for a cloud of extent 3) -/
example :
    List.Forall₂ (fun (x : Nat) (b : Int × Int) => b.1 ≤ (x : Int) ∧ (x : Int) < b.2) [3] [(0, 5)] :=
  mebox_contains (⟨[6], #[0,1,1,1,0,0]⟩ : Arr Int) 0 5 _ [3] (by decide +kernel)
    (by
      intro e he
      have h : extentAux (⟨[6], #[0,1,1,1,0,0]⟩ : Arr Int) 0 0 [6] = some [(1, 3)] := by decide +kernel
      rw [h] at he
      cases he
      intro lh hl
      rw [List.mem_singleton] at hl
      subst hl
      decide)
    (by decide +kernel) (by decide +kernel)

/-- well-formedness hypothesis of `copy_no_alias` is satisfiable -/
example : ∀ r ∈ (⟨0, 1, 2, 3⟩ : DRef).refs, r < (⟨[10, 11, 12, 13]⟩ : Heap Nat).cells.length := by decide +kernel

example : toPointcloud (⟨[2,3], #[0,1,0,0,5,0]⟩ : Arr Int) 0 = [[0,1],[1,1]] ∧
    toPointcloud (⟨[2,3], #[0,1,0,0,5,0]⟩ : Arr Int) 1 = [[1,1]] := by decide +kernel
/-- hypotheses of `pointcloud_adjust_physical` / `_complete` are satisfiable: a 2×3 density with anisotropic rates and a
negative origin, a box with a negative start and a stop beyond the data -/
example :
    let d : Dens Int Int := ⟨⟨[2,3], #[0,1,0,0,5,0]⟩, [(-10, 2), (20, 3)]⟩
    d.data.data.size = prodL d.data.shape ∧ ¬ (0 : Int) < 0 ∧
    toPointcloud (d.adjustBox [(-1, 2), (1, 5)] 0).data 0 = [[1,0],[2,0]] ∧
    phys (d.adjustBox [(-1, 2), (1, 5)] 0).frame [2,0] = phys d.frame [1,1] ∧
    [1,1] ∈ toPointcloud d.data 0 := by decide +kernel
example :
    let d : Dens Int Int := ⟨⟨[2,3], #[0,1,0,0,5,0]⟩, [(-10, 2), (20, 3)]⟩
    trimBox d.data 0 0 = some [(0,2),(1,2)] ∧ toPointcloud (d.adjustBox [(0,2),(1,2)] 0).data 0 = [[0,0],[1,0]] := by decide +kernel
example :
    let d : Dens Int Int := ⟨⟨[2,3], #[0,1,0,0,5,0]⟩, [(-10, 2), (20, 3)]⟩
    d.empty.data.toList = [0,0,0,0,0,0] ∧ d.empty.frame = [(-10, 2), (20, 3)] := by decide +kernel
example : centerOfMass (⟨[2,3], #[0,1,0,0,5,0]⟩ : Arr Int) none = ([5, 6], 6) ∧
    centerOfMass (⟨[2,3], #[0,1,0,0,5,0]⟩ : Arr Int) (some 1) = ([5, 5], 5) ∧
    centerOfMass (⟨[3], #[-2,1,4]⟩ : Arr Int) none = ([9], 3) ∧ centerOfMass (⟨[3], #[-2,1,4]⟩ : Arr Int) (some 0) = ([9], 5) := by decide +kernel
/-- hypotheses of `com_adjust_covariant` are satisfiable (box with negative start that cuts zeros away): the numerators move by
`start·den` -/
example :
    let a : Arr Int := ⟨[2,3], #[0,1,0,0,5,0]⟩
    comV (some 0) 0 = 0 ∧ centerOfMass (adjustData a [(-1, 2), (1, 5)] 0) (some 0) = ([5 + 1 * 6, 6 - 1 * 6], 6) := by decide +kernel
example :
    let a : Arr Int := ⟨[2,3], #[0,1,0,0,5,0]⟩
    ∀ s, inShape a.shape s = true → comW a (some 0) s ≠ 0 →
      List.Forall₂ (fun (x : Nat) (b : Int × Int) => b.1 ≤ (x : Int) ∧ (x : Int) < b.2) s [(-1, 2), (1, 5)] := by
  intro a s hs hne
  have hm := mem_allIdx.mpr hs
  have : allIdx a.shape = [[0,0],[0,1],[0,2],[1,0],[1,1],[1,2]] := by decide +kernel
  rw [this] at hm
  simp only [List.mem_cons, List.not_mem_nil, or_false] at hm
  rcases hm with rfl | rfl | rfl | rfl | rfl | rfl
  · exact absurd (by decide +kernel) hne
  · exact List.Forall₂.cons ⟨by decide +kernel, by decide +kernel⟩ (List.Forall₂.cons ⟨by decide +kernel, by decide +kernel⟩ List.Forall₂.nil)
  · exact absurd (by decide +kernel) hne
  · exact absurd (by decide +kernel) hne
  · exact List.Forall₂.cons ⟨by decide +kernel, by decide +kernel⟩ (List.Forall₂.cons ⟨by decide +kernel, by decide +kernel⟩ List.Forall₂.nil)
  · exact absurd (by decide +kernel) hne
example : (remapD (⟨[10,11,12,13]⟩ : Heap Nat) ⟨0,1,2,3⟩ true).2 = ⟨4,1,2,3⟩ ∧
    (remapD (⟨[10,11,12,13]⟩ : Heap Nat) ⟨0,1,2,3⟩ false).2 = ⟨0,1,2,3⟩ := by decide +kernel

/-- hypotheses of `com_pad_covariant` are satisfiable: centred padding of a 2×3 array to 5×4 -/
example :
    let a : Arr Int := ⟨[2,3], #[0,1,0,0,5,0]⟩
    List.Forall₂ (fun n m => n ≤ m) a.shape [5, 4] ∧ Dens.padBox true a.shape [5, 4] = [(-1, 4), (0, 4)] ∧
    centerOfMass (adjustData a (Dens.padBox true a.shape [5, 4]) 0) none = ([5 + 1 * 6, 6], 6) := by
  refine ⟨List.Forall₂.cons (by decide +kernel) (List.Forall₂.cons (by decide +kernel) List.Forall₂.nil), by decide +kernel, by decide +kernel⟩
/-- … and of `pointcloud_history` -/
example :
    let d : Dens Int Int := ⟨⟨[4], #[1,2,3,4]⟩, [(0, 1)]⟩
    let ops : List (Op Int) := [.adjust [(-1, 3)] 0, .pad [7] true (-1), .trim 1 0 0]
    (runFrom d ops).map (fun r => toPointcloud r.data 2) = some [[1]] ∧ traceFrom d ops [1] = some [2] ∧
    [2] ∈ toPointcloud d.data 2 := by decide +kernel

example : (coreMask (⟨[7], #[1,1,1,1,1,1,1]⟩ : Arr Int)).toList = [1,2,3,4,3,2,1] ∧
    (coreMask (⟨[3,3], #[2,5,1, 1,3,1, 0,1,-4]⟩ : Arr Int)).toList = [1,1,1, 1,2,1, 0,1,0] ∧
    (coreMask (⟨[3,3], #[2,5,1, 1,3,1, 7,1,4]⟩ : Arr Int)).toList = [1,1,1, 1,2,1, 1,1,1] := by decide +kernel
example : (erode (⟨[5], #[true,true,true,false,true]⟩ : Arr Bool)).toList = [false,true,false,false,false] := by decide +kernel

/-- hypotheses of `pointcloud_pad_complete`: appended padding of a 2×3 density to 4×3 -/
example :
    let d : Dens Int Int := ⟨⟨[2,3], #[0,1,0,0,5,0]⟩, [(-10, 2), (20, 3)]⟩
    List.Forall₂ (fun n m => n ≤ m) d.data.shape [4, 3] ∧ toPointcloud (d.pad [4, 3] false 0).data 0 = [[0,1],[1,1]] ∧
    toPointcloud (d.pad [5, 5] true 0).data 0 = [[1,2],[2,2]] ∧ phys (d.pad [5, 5] true 0).frame [1,2] = phys d.frame [0,1] := by
  refine ⟨List.Forall₂.cons (by decide +kernel) (List.Forall₂.cons (by decide +kernel) List.Forall₂.nil), by decide +kernel, by decide +kernel, by decide +kernel⟩
example : srcIdx (plans [2,3] [(-1, 2), (1, 5)]) [1,0] = some [0,1] ∧ srcIdx (plans [2,3] [(-1, 2), (1, 5)]) [2,0] = some [1,1] := by decide +kernel

/-- `coreMask_counts` / `coreMask_le_border` on a 1-D array of 7: the middle voxel survives 4 rounds = distance to the border + 1 -/
example :
    let a : Arr Int := ⟨[7], #[1,1,1,1,1,1,1]⟩
    inShape a.shape [3] = true ∧ 0 < a.shape.length ∧ (coreMask a).getD [3] 0 = 4 ∧
    min (([3] : List Nat).getD 0 0 + 1) (a.shape.getD 0 0 - ([3] : List Nat).getD 0 0) = 4 := by decide +kernel

/-- hypotheses of `coreMask_zero_pad`: a 1-D array of 5 padded by one voxel in front and two behind -/
example :
    let a : Arr Int := ⟨[5], #[1,1,1,1,1]⟩
    List.Forall₂ (fun (n : Nat) (b : Int × Int) => b.1 ≤ 0 ∧ (n : Int) ≤ b.2) a.shape [(-1, 7)] ∧
    (coreMask (adjustData a [(-1, 7)] 0)).toList = [0,1,2,3,2,1,0,0] ∧ (coreMask a).toList = [1,2,3,2,1] ∧
    srcIdx (plans a.shape [(-1, 7)]) [3] = some [2] := by
  refine ⟨List.Forall₂.cons (by decide +kernel) List.Forall₂.nil, by decide +kernel, by decide +kernel, by decide +kernel⟩

example : setterAxes 3 [(7 : Int)] = some [7,7,7] ∧ setterAxes 3 [(1 : Int), 2] = some [1, 2] ∧ broadcastAxes 3 [(1 : Int), 2] = none ∧
    setterAxes 3 ([] : List Int) = none ∧ setterAxes 2 [(1 : Int), 2, 3] = some [] ∧ setterAxes 4 [(1 : Int), 2] = some [1,1,2,2] := by decide +kernel

/-- hypotheses of `adjustAxis_crop_crop` and `resample_round_trip` are satisfiable -/
example : (0 : Int) ≤ 2 ∧ (2 : Int) ≤ 7 ∧ (7 : Int) ≤ (8 : Nat) ∧ (0 : Int) ≤ 1 ∧ (1 : Int) ≤ 4 ∧ (4 : Int) ≤ 7 - 2 ∧
    (adjustAxis 8 3 6).src = (adjustAxis 8 2 7).src + (adjustAxis 5 1 4).src ∧ 5 = (adjustAxis 8 2 7).newLen ∧
    resampleLen 6 2 3 = 4 ∧ resampleLen 4 3 2 = 6 ∧ 6 * 2 = 4 * 3 := by decide +kernel

end Pm.C15
