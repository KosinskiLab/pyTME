import PytmeModel.Model.C16
import PytmeModel.Proofs.C16

/-! # C16 — a failing worker fails the whole search; no shared memory is left behind

All statements are for every configuration (`Cfg`: tiles, rotations, job schedule, analyzer, segment
counts), every fault plan (any number of positions, single or repeated), every schedule (`Sched`:
completion orders of both pools and the progress of tasks in flight) and every initial world.
`amb` is the exception the caller is handling on entry (`sys.exc_info()`); the property quantifies
over `amb = none`, the other case is exposed by `ambient_reraised`.
-/
namespace Pm.C16

open Classical in
/-- `scan_subsets` returns normally exactly when `n_jobs ≠ 0`, every tile is fine and the final merge is -/
theorem scanSubsets_returns_iff (cfg : Cfg) (plan : Plan) (amb : Option Exc) (pol : Policy) (sch : Sched)
    (w : World) :
    (scanSubsets cfg plan amb pol sch w).1 = none ↔
      cfg.outer ≠ 0 ∧ (∀ t < cfg.ntiles, TileOK cfg plan amb t) ∧ StepsOK plan (outerPost cfg) := by
  rw [scanSubsets_eq]
  by_cases ho : cfg.outer = 0
  · rw [if_pos ho]
    exact ⟨fun h => (by cases h), fun h => absurd ho h.1⟩
  · rw [if_neg ho, andThen_fst_none, execSteps_fst_none,
      runPool_fst_none _ _ _ (TileOK cfg plan amb) (tileFull_fst_none cfg plan amb sch), forall_mem_poolOrder]
    simp only [List.mem_range]
    exact (and_iff_right ho).symm

theorem not_planned_of_returns {cfg : Cfg} {plan : Plan} {amb : Option Exc} {pol : Policy} {sch : Sched} {w : World}
    (hr : (scanSubsets cfg plan amb pol sch w).1 = none) {p : Pos} (hp : p ∈ plan) : p ∉ allPoints cfg := by
  obtain ⟨_, htiles, hpost⟩ := (scanSubsets_returns_iff cfg plan amb pol sch w).mp hr
  intro hlive
  rcases (mem_allPoints cfg p).mp hlive with ⟨t, ht, hpt⟩ | hpt
  · obtain ⟨hsub, hbody, _⟩ := htiles t ht
    rcases hpt with rfl | hpt
    · exact hsub hp
    · exact not_planned_of_stepsOK ((bodyOK_iff cfg plan t).mp hbody).2 hp hpt
  · exact not_planned_of_stepsOK hpost hp hpt

/-! ## clause 1: any fault ⇒ the search raises, whatever the schedule -/

/-- **fault_raises.**  If the plan holds a position that the search has (any phase: `subset_by_slice`,
entry of `scan`, setup before/after, analyzer construction, entry of a scoring job, any rotation, any
analyzer call, `_postprocess`, either merge; any tile, job, rotation), `scan_subsets` raises — for
every other content of the plan (repeated faults), every job schedule, every completion order and
either pool policy.  It never returns a partial result. -/
theorem fault_raises (cfg : Cfg) (plan : Plan) (amb : Option Exc) (pol : Policy) (sch : Sched) (w : World)
    (p : Pos) (hp : p ∈ plan) (hlive : p ∈ allPoints cfg) :
    ∃ e, (scanSubsets cfg plan amb pol sch w).1 = some e := by
  rcases hr : (scanSubsets cfg plan amb pol sch w).1 with _ | e
  · exact absurd hlive (not_planned_of_returns hr hp)
  · exact ⟨e, rfl⟩

/-- every `to_sharedarr` of the setup function and the one of the template filter are program points of the
search (so `fault_raises` / `scan_ledger_empty_after` speak about a segment that cannot be created), and so are
the user's filters when `matching_data` carries them -/
theorem setup_alloc_is_point (cfg : Cfg) (t k : Nat) (ht : t < cfg.ntiles) (hk : k < cfg.setupSegs + 1) :
    (⟨.alloc, t, k⟩ : Pos) ∈ allPoints cfg := by
  refine point_of_flatSteps ht (mem_flatSteps.mpr (Or.inl ?_))
  refine List.mem_append_left _ (List.mem_append_right _ ?_)
  by_cases h : k < cfg.setupSegs
  · have := alloc_mem_allocSteps t 0 cfg.setupSegs k h
    rw [Nat.zero_add] at this
    exact List.mem_append_left _ (List.mem_append_right _ this)
  · rw [Nat.le_antisymm (Nat.le_of_lt_succ hk) (Nat.le_of_not_lt h)]
    exact List.mem_append_right _ (List.mem_cons_of_mem _ (alloc_mem_allocSteps t cfg.setupSegs 1 0 Nat.one_pos))

theorem filter_is_point (cfg : Cfg) (t : Nat) (ht : t < cfg.ntiles) :
    (cfg.tfilter = true → (⟨.filter, t, 0⟩ : Pos) ∈ allPoints cfg) ∧
    (cfg.gfilter = true → (⟨.filter, t, 1⟩ : Pos) ∈ allPoints cfg) := by
  have hpre : ∀ p, Step.point p ∈ filterSteps cfg t → p ∈ allPoints cfg := fun p h =>
    point_of_flatSteps ht (mem_flatSteps.mpr (Or.inl
      (List.mem_append_left _ (List.mem_append_left _ (List.mem_cons_of_mem _ h)))))
  constructor
  · intro h
    refine hpre _ (List.mem_append_left _ ?_)
    rw [if_pos h]; exact List.mem_cons_self
  · intro h
    refine hpre _ (List.mem_append_right _ ?_)
    rw [if_pos h]; exact List.mem_cons_self

/-- the same for `scan` called directly -/
theorem scan_fault_raises (cfg : Cfg) (plan : Plan) (amb : Option Exc) (ts : TileSched) (w : World)
    (p : Pos) (hp : p ∈ plan) (hlive : p ∈ scanPoints cfg) :
    ∃ e, (scanDirect cfg plan amb ts w).1 = some e := by
  rcases hr : (scanDirect cfg plan amb ts w).1 with _ | e
  · rw [scanDirect, handler_fst_none, scanBody_fst_none, bodyOK_iff] at hr
    exact absurd hlive (not_planned_of_stepsOK hr.1.2 hp)
  · exact ⟨e, rfl⟩

/-- what `scan` lets out is wrapped exactly once by `_handle_traceback` and is a fault of the plan at a point
of this scan (or the `n_jobs = 0` error, or the caller's ambient exception): nothing is invented, nothing
is swallowed into a different outcome -/
theorem scan_raised_origin (cfg : Cfg) (plan : Plan) (amb : Option Exc) (ts : TileSched) (w : World) (e : Exc)
    (h : (scanDirect cfg plan amb ts w).1 = some e) :
    ∃ e0, e = .wrapped e0 ∧ ((∃ p ∈ plan, p ∈ scanPoints cfg ∧ e0 = .fault p) ∨ e0 = .badArg ∨ amb = some e0) :=
  handled_scan_some h

/-- **raised_origin.**  Whatever `scan_subsets` raises is: a fault of the plan at a point the search has —
bare when it fired in the parent (`subset_by_slice`, final merge), wrapped exactly once by `_handle_traceback`
when it fired inside a tile's `scan`, for every pool schedule —, or the `n_jobs = 0` error, or the caller's
ambient exception.  Failures are neither invented nor turned into something else. -/
theorem raised_origin (cfg : Cfg) (plan : Plan) (amb : Option Exc) (pol : Policy) (sch : Sched) (w : World) (e : Exc)
    (h : (scanSubsets cfg plan amb pol sch w).1 = some e) :
    (∃ p ∈ plan, p ∈ allPoints cfg ∧ (e = .fault p ∨ e = .wrapped (.fault p))) ∨
      e = .badArg ∨ e = .wrapped .badArg ∨ (∃ a, amb = some a ∧ e = .wrapped a) := by
  rw [scanSubsets_eq] at h
  split at h
  · exact Or.inr (Or.inl (Option.some.inj h).symm)
  · rcases andThen_some h with h | ⟨_, h⟩
    · obtain ⟨t, ht, w0, ht0⟩ := runPool_some _ _ _ _ _ _ h
      have htl : t < cfg.ntiles := List.mem_range.mp (poolOrder_mem.mp ht)
      rw [tileFull_eq] at ht0
      rcases andThen_some ht0 with hs | ⟨_, hh⟩
      · -- `subset_by_slice` failed in the parent
        rcases step_some _ _ _ _ _ hs with ⟨p, hpl, hp, rfl⟩ | hf
        · cases hp
          exact Or.inl ⟨_, hpl, (mem_allPoints cfg _).mpr (Or.inl ⟨t, htl, Or.inl rfl⟩), Or.inl rfl⟩
        · cases hf
      · obtain ⟨e0, rfl, ⟨p, hpl, hpt, rfl⟩ | rfl | ha⟩ := handled_scan_some hh
        · exact Or.inl ⟨p, hpl, (mem_allPoints cfg p).mpr (Or.inl ⟨t, htl, Or.inr hpt⟩), Or.inr rfl⟩
        · exact Or.inr (Or.inr (Or.inl rfl))
        · exact Or.inr (Or.inr (Or.inr ⟨e0, ambientFor_some ha, rfl⟩))
    · -- the final merge failed
      rcases execSteps_some h with ⟨p, hps, hpl, rfl⟩ | hf
      · exact Or.inl ⟨p, hpl, (mem_allPoints cfg p).mpr (Or.inr (mem_ptsOf.mpr hps)), Or.inl rfl⟩
      · cases outerPost_point cfg _ hf

/-! ## clause 1': no fault ⇒ the search returns, and a returned search is complete -/

/-- **no_fault_returns.**  With no planned position among the search's program points (in particular
the empty plan), a non-degenerate job schedule and no ambient exception the search returns. -/
theorem no_fault_returns (cfg : Cfg) (plan : Plan) (pol : Policy) (sch : Sched) (w : World)
    (hplan : ∀ p ∈ plan, p ∉ allPoints cfg) (ho : 1 ≤ cfg.outer) (hi : 1 ≤ cfg.inner) :
    (scanSubsets cfg plan none pol sch w).1 = none := by
  rw [scanSubsets_returns_iff]
  refine ⟨by omega, fun t ht => ⟨?_, ?_, ?_⟩, ?_⟩
  · exact fun hmem => hplan _ hmem ((mem_allPoints cfg _).mpr (Or.inl ⟨t, ht, Or.inl rfl⟩))
  · rw [bodyOK_iff]
    refine ⟨by omega, stepsOK_of_no_planned_point plan _ (flatSteps_nofail cfg t) fun p hp hmem => ?_⟩
    exact hplan p hp ((mem_allPoints cfg p).mpr (Or.inl ⟨t, ht, Or.inr hmem⟩))
  · exact ambientFor_none cfg
  · refine stepsOK_of_no_planned_point plan _ (fun s hs e he => ?_) fun p hp hmem => ?_
    · rw [outerPost_point cfg s hs] at he; cases he
    · exact hplan p hp ((mem_allPoints cfg p).mpr (Or.inr hmem))

/-- **returned_complete.**  Whatever the plan and the schedule: if `scan_subsets` returns, then every
program point of every tile was reached — every tile was set up, every rotation of every job was scored
and handed to the analyzer, every analyzer was post-processed and merged.  A returned result is never a
partial one. -/
theorem returned_complete (cfg : Cfg) (plan : Plan) (amb : Option Exc) (pol : Policy) (sch : Sched) (w : World)
    (h : (scanSubsets cfg plan amb pol sch w).1 = none) :
    ∀ p ∈ allPoints cfg, p ∈ (scanSubsets cfg plan amb pol sch w).2.trace := by
  rw [scanSubsets_eq] at h ⊢
  have ho : ¬ cfg.outer = 0 := fun ho => by rw [if_pos ho] at h; cases h
  rw [if_neg ho] at h ⊢
  refine andThen_inv_of_none (fun w' => ∀ p ∈ allPoints cfg, p ∈ w'.trace) h fun hpool hpost p hp => ?_
  obtain ⟨_, htiles⟩ := runPool_trace_of_none (tileFull cfg plan amb sch) (tilePart cfg plan amb pol sch) cfg.outer
    (fun t => (⟨.subset, t, 0⟩ : Pos) :: ptsOf (flatSteps cfg t)) (tileFull_trace cfg plan amb sch) _ w hpool
  rcases (mem_allPoints cfg p).mp hp with ⟨t, ht, hpt⟩ | hpt
  · refine execSteps_traceSub _ _ _ _ p ?_
    refine htiles t (poolOrder_mem.mpr (List.mem_range.mpr ht)) p ?_
    rcases hpt with rfl | hpt
    · exact List.mem_cons_self
    · exact List.mem_cons_of_mem _ hpt
  · rw [execSteps_trace_of_none hpost]; exact List.mem_append_right _ hpt

/-- rotations are partitioned over the jobs (`_split_rotations_on_jobs`): each one is in exactly one chunk -/
theorem rotations_partitioned (R n g : Nat) (hn : 1 ≤ n) (hg : g < R) :
    ∃ j < n, g ∈ chunk R n j ∧ ∀ i < n, g ∈ chunk R n i → i = j := by
  obtain ⟨j, hj, hm⟩ := chunk_cover R n g hn hg
  exact ⟨j, hj, hm, fun i hi him => chunk_disjoint R n i j g hi hj him hm⟩

/-- in particular: a returned search has scored every rotation on every tile and passed it to the analyzer -/
theorem returned_scored_every_rotation (cfg : Cfg) (plan : Plan) (amb : Option Exc) (pol : Policy) (sch : Sched)
    (w : World) (h : (scanSubsets cfg plan amb pol sch w).1 = none) (t g : Nat) (ht : t < cfg.ntiles)
    (hg : g < cfg.nrot) :
    (⟨.rotate, t, g⟩ : Pos) ∈ (scanSubsets cfg plan amb pol sch w).2.trace ∧
      (cfg.hasCb = true → (⟨.callback, t, g⟩ : Pos) ∈ (scanSubsets cfg plan amb pol sch w).2.trace) := by
  have hall := returned_complete cfg plan amb pol sch w h
  obtain ⟨_, htiles, _⟩ := (scanSubsets_returns_iff cfg plan amb pol sch w).mp h
  have hin : 1 ≤ cfg.inner := Nat.pos_of_ne_zero (htiles t ht).inner_ne_zero
  obtain ⟨i, hi, hm⟩ := chunk_cover cfg.nrot cfg.inner g hin hg
  obtain ⟨j, hj, he⟩ := jobsOf_mem cfg t i hi
  have hpts : ∀ q, Step.point q ∈ rotSteps cfg t g → q ∈ allPoints cfg := fun q hq =>
    point_of_flatSteps ht (mem_flatSteps.mpr (Or.inr (Or.inl ⟨j, hj, by
      rw [he]; exact List.mem_cons_of_mem _ (List.mem_flatMap.mpr ⟨g, hm, hq⟩)⟩)))
  refine ⟨hall _ (hpts _ List.mem_cons_self), fun hcb => hall _ (hpts _ (List.mem_cons_of_mem _ ?_))⟩
  rw [if_pos hcb]; exact List.mem_cons_self

/-! ## clause 2: the ledger of shared-memory segments -/

/-- **ledger_empty_after (successful run).**  Whatever the schedule and policy: when the search returns,
every segment it created has been released (the ledger is what it was before the call). -/
theorem ledger_empty_after_return (cfg : Cfg) (plan : Plan) (amb : Option Exc) (pol : Policy) (sch : Sched)
    (w : World) (hw : ∀ s ∈ w.live, s.mgr = none) (h : (scanSubsets cfg plan amb pol sch w).1 = none) :
    (scanSubsets cfg plan amb pol sch w).2.live = w.live := by
  rw [scanSubsets_eq] at h ⊢
  have ho : ¬ cfg.outer = 0 := fun ho => by rw [if_pos ho] at h; cases h
  rw [if_neg ho] at h ⊢
  refine andThen_inv_of_none (fun w' => w'.live = w.live) h fun hpool _ => ?_
  rw [outerPost_live]
  exact runPool_inv_of_none _ _ _ (fun w' => w'.live = w.live) (tileFull_keeps_live cfg plan amb sch hw) _ w rfl hpool

/-- **ledger_empty_after_partial (today's code).**  Full clause: `∀ cfg plan amb sch w, (scanSubsets cfg plan amb
.kill sch w).2.live = w.live` — false for today's outer pool, see `ledger_leak_current_defect`.  Proved part: with
`job_schedule[0] ≤ 1` (tiles one after the other) the ledger is empty after the call whether it returns or
raises, for every fault plan and every inner schedule: each failing `scan` leaves its
`with SharedMemoryManager()` block first.  Missing: `job_schedule[0] > 1` with a sibling tile in flight
(covered for the corrected pool by `ledger_empty_after`, and for returning runs by `ledger_empty_after_return`). -/
theorem ledger_empty_after_partial (cfg : Cfg) (plan : Plan) (amb : Option Exc) (pol : Policy) (sch : Sched)
    (w : World) (hw : ∀ s ∈ w.live, s.mgr = none) (ho : cfg.outer ≤ 1) :
    (scanSubsets cfg plan amb pol sch w).2.live = w.live :=
  scanSubsets_inv_of_tiles cfg plan amb pol sch (fun w' => w'.live = w.live) (tileFull_keeps_live cfg plan amb sch hw)
    (Or.inl (if_pos ho)) (fun w' hw' => (outerPost_live cfg plan w').trans hw') w rfl

/-- **ledger_empty_after (any schedule, corrected pool).**  If tiles in flight are allowed to finish when a
sibling fails (`Policy.drain`) the ledger is empty after the call for every job schedule, completion order
and fault plan, returned or raised. -/
theorem ledger_empty_after (cfg : Cfg) (plan : Plan) (amb : Option Exc) (sch : Sched) (w : World)
    (hw : ∀ s ∈ w.live, s.mgr = none) : (scanSubsets cfg plan amb .drain sch w).2.live = w.live :=
  scanSubsets_inv_of_tiles cfg plan amb .drain sch (fun w' => w'.live = w.live)
    (tileFull_keeps_live cfg plan amb sch hw) (Or.inr (tileFull_keeps_live cfg plan amb sch hw))
    (fun w' hw' => (outerPost_live cfg plan w').trans hw') w rfl

/-- the full clause for today's pool (`Policy.kill`, loky tears the pool down with `kill_workers=True`) is
FALSE: two tiles on two workers, tile 0 fails in its first analyzer call while tile 1 has allocated its
setup segments — they stay behind (their manager process is killed with the worker).
Full statement that does not hold: `∀ cfg plan sch, (scanSubsets cfg plan none .kill sch w).2.live = w.live`. -/
theorem ledger_leak_current_defect :
    ∃ (cfg : Cfg) (plan : Plan) (sch : Sched),
      (scanSubsets cfg plan none .kill sch {}).1 ≠ none ∧ (scanSubsets cfg plan none .kill sch {}).2.live ≠ [] :=
  ⟨{ ntiles := 2, nrot := 1, outer := 2, inner := 1, hasCb := true, shared := true, jpc := 8,
     setupSegs := 4, cbSegs := 2, postSegs := 2, copies := true },
   [⟨.callback, 0, 0⟩], { outerPicks := [], tiles := [], progress := [{}, { steps := 5, exited := false }] },
   by decide +kernel⟩

/-- `scan` called directly: the ledger is empty after the call, returned or raised, every inner schedule -/
theorem scan_ledger_empty_after (cfg : Cfg) (plan : Plan) (amb : Option Exc) (ts : TileSched) (w : World)
    (hw : ∀ s ∈ w.live, s.mgr ≠ some 0) : (scanDirect cfg plan amb ts w).2.live = w.live := by
  unfold scanDirect
  exact handler_live _ _ _ _ (scanBody_liveExt cfg plan ts 0 w) hw

/-- every segment a `scan` allocates goes through its manager (`to_sharedarr` is given the handler) -/
theorem scan_allocates_through_manager (cfg : Cfg) (plan : Plan) (ts : TileSched) (t : Nat) (w : World) :
    ∃ l, (scanBody cfg plan ts t w).2.live = w.live ++ l ∧ ∀ s ∈ l, s.mgr = some t :=
  scanBody_liveExt cfg plan ts t w

/-! ## clause 3: the caller's arrays -/

/-- **inputs_untouched.**  Because conversion to the backend copies (`MatchingData.to_backend`:
`attr_value.copy()`), no step of the search writes into the caller's arrays — for every plan, schedule
and policy, returned or raised. -/
theorem inputs_untouched (cfg : Cfg) (plan : Plan) (amb : Option Exc) (pol : Policy) (sch : Sched) (w : World)
    (hc : cfg.copies = true) : (scanSubsets cfg plan amb pol sch w).2.inputs = w.inputs :=
  scanSubsets_inv cfg plan amb pol sch (fun w' => w'.inputs = w.inputs)
    (fun p w' hw' => (step_inputs plan none (.point p) w' rfl).trans hw')
    (fun t s hs w' hw' => (step_inputs plan (some t) s w' (flatSteps_touches cfg t hc s hs)).trans hw')
    (fun _ _ hw' => hw') w rfl

theorem scan_inputs_untouched (cfg : Cfg) (plan : Plan) (amb : Option Exc) (ts : TileSched) (w : World)
    (hc : cfg.copies = true) : (scanDirect cfg plan amb ts w).2.inputs = w.inputs :=
  handled_scan_inv cfg plan amb ts 0 (fun w' => w'.inputs = w.inputs)
    (fun s hs w' hw' => (step_inputs plan (some 0) s w' (flatSteps_touches cfg 0 hc s hs)).trans hw')
    (fun _ hw' => hw') w rfl

/-! ## the ambient exception -/

/-- the decorator reads `sys.exc_info()` on entry: a `scan` issued while the caller handles another
exception re-raises *that* exception (wrapped) even though the search itself succeeded -/
theorem ambient_reraised (cfg : Cfg) (plan : Plan) (a : Exc) (ts : TileSched) (w : World)
    (hbody : (scanBody cfg plan ts 0 w).1 = none) :
    (scanDirect cfg plan (some a) ts w).1 = some (.wrapped a) := by
  unfold scanDirect
  rw [handler_fst, hbody]; rfl

/-! ## non-vacuity of the hypotheses above -/

def exCfg : Cfg := { ntiles := 2, nrot := 3, outer := 2, inner := 2, hasCb := true, shared := true, jpc := 8,
                     setupSegs := 4, cbSegs := 2, postSegs := 2, copies := true }

-- fault_raises: a live position (second tile, analyzer call of the last rotation), repeated fault, parallel schedule
example : (⟨.callback, 1, 2⟩ : Pos) ∈ allPoints exCfg := by decide +kernel
example : (scanSubsets exCfg [⟨.callback, 1, 2⟩, ⟨.merge, 0, 0⟩] none .kill { outerPicks := [1] } {}).1
    = some (.wrapped (.fault ⟨.callback, 1, 2⟩)) := by decide +kernel
-- a segment that cannot be created (second tile, the analyzer's second array; last allocation of post-processing)
-- and a failing user filter fail the search; nothing is left
example : (⟨.alloc, 1, 6⟩ : Pos) ∈ allPoints exCfg ∧ (⟨.alloc, 0, 12⟩ : Pos) ∈ allPoints exCfg ∧
    (⟨.alloc, 0, 13⟩ : Pos) ∉ allPoints exCfg := by decide +kernel
example : (scanSubsets exCfg [⟨.alloc, 1, 6⟩] none .kill {} {}).1 = some (.wrapped (.fault ⟨.alloc, 1, 6⟩)) ∧
    (scanSubsets exCfg [⟨.alloc, 1, 6⟩] none .kill {} {}).2.live = [] ∧
    (scanSubsets exCfg [⟨.alloc, 1, 6⟩] none .kill {} {}).2.nalloc = 13 + 6 := by decide +kernel
-- results that cannot be collected (`__iter__` of the second job's analyzer raises): the search fails, nothing is left
example : (scanSubsets exCfg [⟨.collect, 1, 1⟩] none .kill {} {}).1 = some (.wrapped (.fault ⟨.collect, 1, 1⟩)) ∧
    (scanSubsets exCfg [⟨.collect, 1, 1⟩] none .kill {} {}).2.live = [] := by decide +kernel
example : (scanSubsets { exCfg with gfilter := true } [⟨.filter, 0, 1⟩] none .kill {} {}).1
    = some (.wrapped (.fault ⟨.filter, 0, 1⟩)) ∧
    (scanSubsets { exCfg with gfilter := true } [⟨.filter, 0, 0⟩] none .kill {} {}).1 = none := by decide +kernel
-- raised_origin: a parent-side fault is not wrapped; n_jobs = 0
example : (scanSubsets exCfg [⟨.subset, 1, 0⟩] none .kill {} {}).1 = some (.fault ⟨.subset, 1, 0⟩) := by decide +kernel
example : (scanSubsets { exCfg with outer := 0 } [] none .kill {} {}).1 = some .badArg ∧
    (scanSubsets { exCfg with outer := 1, inner := 0 } [] none .kill {} {}).1 = some (.wrapped .badArg) := by decide +kernel
-- no_fault_returns / returned_complete: a plan with a dead position only
example : (scanSubsets exCfg [⟨.rotate, 5, 0⟩] none .kill {} {}).1 = none := by decide +kernel
example : (allPoints exCfg).length = 65 := by decide +kernel
example : (scanSubsets exCfg [] none .kill {} {}).2.trace.length = 65 ∧
    (scanSubsets exCfg [] none .kill {} {}).2.nalloc = 26 ∧ (scanSubsets exCfg [] none .kill {} {}).2.live = [] := by decide +kernel
-- ledger hypotheses are satisfiable with a non-empty initial ledger; segments really are allocated
example : (scanSubsets exCfg [⟨.postprocess, 1, 1⟩] none .drain {} { live := [⟨none, 7⟩] }).2.live = [⟨none, 7⟩] := by decide +kernel
example : (scanBody exCfg [] {} 1 {}).2.live.length = 13 := by decide +kernel
-- inputs: the copy matters
example : (scanDirect { exCfg with copies := false } [] none {} {}).2.inputs = 1 := by decide +kernel
example : (scanDirect exCfg [] none {} {}).2.inputs = 0 := by decide +kernel
-- ambient
example : (scanDirect exCfg [] (some .ambient) {} {}).1 = some (.wrapped .ambient) := by decide +kernel
example : chunk 7 3 0 = [0, 1] ∧ chunk 7 3 1 = [2, 3] ∧ chunk 7 3 2 = [4, 5, 6] ∧ chunk 2 4 3 = [0, 1] := by decide +kernel

/-! ## the raise / return decision: schedules, fault plans, single tiles -/

/-- **outcome_schedule_independent.**  Whether `scan_subsets` raises or returns does not depend on the completion
order of either pool, on the progress of tasks in flight, on the pool policy, nor on the initial ledger / trace:
any two schedules give the same raise / return decision. -/
theorem outcome_schedule_independent (cfg : Cfg) (plan : Plan) (amb : Option Exc) (pol pol' : Policy)
    (sch sch' : Sched) (w w' : World) :
    (scanSubsets cfg plan amb pol sch w).1 = none ↔ (scanSubsets cfg plan amb pol' sch' w').1 = none := by
  rw [scanSubsets_returns_iff, scanSubsets_returns_iff]

/-- the same for a direct `scan`: the raise / return decision is the same for every completion order of the
scoring jobs and every progress of the jobs in flight -/
theorem scan_outcome_schedule_independent (cfg : Cfg) (plan : Plan) (amb : Option Exc) (ts ts' : TileSched)
    (w w' : World) :
    (scanDirect cfg plan amb ts w).1 = none ↔ (scanDirect cfg plan amb ts' w').1 = none := by
  rw [scanDirect, scanDirect, handler_fst_none, handler_fst_none, scanBody_fst_none, scanBody_fst_none]

/-- **add_fault_monotone.**  Adding faults to the plan never turns a raise into a return: a search that returns under
a plan returns under every sub-plan (schedules may differ). -/
theorem add_fault_monotone (cfg : Cfg) (plan plan' : Plan) (amb : Option Exc) (pol pol' : Policy)
    (sch sch' : Sched) (w w' : World) (h : ∀ p ∈ plan, p ∈ plan')
    (hret : (scanSubsets cfg plan' amb pol' sch' w').1 = none) :
    (scanSubsets cfg plan amb pol sch w).1 = none := by
  rw [scanSubsets_returns_iff] at hret ⊢
  exact ⟨hret.1, fun t ht => tileOK_mono cfg plan plan' amb t h (hret.2.1 t ht),
    stepsOK_mono plan plan' h _ hret.2.2⟩

/-- the contrapositive: a search that raises still raises after any number of further faults are added -/
theorem raise_persists_under_more_faults (cfg : Cfg) (plan plan' : Plan) (amb : Option Exc) (pol pol' : Policy)
    (sch sch' : Sched) (w w' : World) (h : ∀ p ∈ plan, p ∈ plan')
    (hr : (scanSubsets cfg plan amb pol sch w).1 ≠ none) :
    (scanSubsets cfg plan' amb pol' sch' w').1 ≠ none :=
  fun hret => hr (add_fault_monotone cfg plan plan' amb pol pol' sch sch' w w' h hret)

/-- monotonicity for a direct `scan` -/
theorem scan_add_fault_monotone (cfg : Cfg) (plan plan' : Plan) (amb : Option Exc) (ts ts' : TileSched)
    (w w' : World) (h : ∀ p ∈ plan, p ∈ plan') (hret : (scanDirect cfg plan' amb ts' w').1 = none) :
    (scanDirect cfg plan amb ts w).1 = none := by
  rw [scanDirect, handler_fst_none, scanBody_fst_none] at hret ⊢
  exact ⟨bodyOK_mono cfg plan plan' 0 h hret.1, hret.2⟩

/-- the raise / return decision depends on the *set* of planned faults only: order and repetition of the faults in
the plan are irrelevant -/
theorem outcome_depends_on_fault_set (cfg : Cfg) (plan plan' : Plan) (amb : Option Exc) (pol pol' : Policy)
    (sch sch' : Sched) (w w' : World) (h : ∀ p, p ∈ plan ↔ p ∈ plan') :
    (scanSubsets cfg plan amb pol sch w).1 = none ↔ (scanSubsets cfg plan' amb pol' sch' w').1 = none :=
  ⟨add_fault_monotone cfg plan' plan amb pol' pol sch' sch w' w (fun p hp => (h p).mpr hp),
   add_fault_monotone cfg plan plan' amb pol pol' sch sch' w w' (fun p hp => (h p).mp hp)⟩

/-- **returns_iff_no_live_fault.**  With a non-degenerate job schedule and no ambient exception the search returns
exactly when no planned fault sits on one of its program points (success iff the effective fault list is empty) -/
theorem returns_iff_no_live_fault (cfg : Cfg) (plan : Plan) (pol : Policy) (sch : Sched) (w : World)
    (ho : 1 ≤ cfg.outer) (hi : 1 ≤ cfg.inner) :
    (scanSubsets cfg plan none pol sch w).1 = none ↔ ∀ p ∈ plan, p ∉ allPoints cfg :=
  ⟨fun hret _ hp => not_planned_of_returns hret hp, fun h => no_fault_returns cfg plan pol sch w h ho hi⟩

/-- **tile_failure_blocks_result.**  If the `scan` of one tile raises (under some inner schedule, from some world),
the whole search raises for every schedule — whatever the other tiles do -/
theorem tile_failure_blocks_result (cfg : Cfg) (plan : Plan) (amb : Option Exc) (pol : Policy) (sch : Sched)
    (w : World) (t : Nat) (ht : t < cfg.ntiles) (ts : TileSched) (w0 : World)
    (hfail : (scanBody cfg plan ts t w0).1 ≠ none) :
    (scanSubsets cfg plan amb pol sch w).1 ≠ none := by
  intro hret
  obtain ⟨_, htiles, _⟩ := (scanSubsets_returns_iff cfg plan amb pol sch w).mp hret
  exact hfail ((scanBody_fst_none cfg plan ts t w0).mpr (htiles t ht).2.1)

/-- **returns_iff_every_tile_returns.**  The search returns exactly when `n_jobs ≠ 0`, every tile run on its own
(from any world, under any schedule) returns, and the final merge does: no tile's failure can be masked by the
others, and nothing but a tile / merge failure makes the search raise -/
theorem returns_iff_every_tile_returns (cfg : Cfg) (plan : Plan) (amb : Option Exc) (pol : Policy)
    (sch sch' : Sched) (w w1 w2 : World) :
    (scanSubsets cfg plan amb pol sch w).1 = none ↔
      cfg.outer ≠ 0 ∧ (∀ t < cfg.ntiles, (tileFull cfg plan amb sch' t w1).1 = none) ∧
        (execSteps plan none (outerPost cfg) w2).1 = none := by
  rw [scanSubsets_returns_iff, execSteps_fst_none]
  exact and_congr_right fun _ => and_congr_left fun _ =>
    forall₂_congr fun t _ => (tileFull_fst_none cfg plan amb sch' t w1).symm

/-- the original cause (below the `Exception(...)` wrappers) of whatever the search raises is a planned fault at one
of its program points, the `n_jobs = 0` error, or the cause of the caller's ambient exception -/
theorem raised_root (cfg : Cfg) (plan : Plan) (amb : Option Exc) (pol : Policy) (sch : Sched) (w : World) (e : Exc)
    (h : (scanSubsets cfg plan amb pol sch w).1 = some e) :
    (∃ p ∈ plan, p ∈ allPoints cfg ∧ e.root = .fault p) ∨ e.root = .badArg ∨ (∃ a, amb = some a ∧ e.root = a.root) := by
  rcases raised_origin cfg plan amb pol sch w e h with ⟨p, hp, hl, rfl | rfl⟩ | rfl | rfl | ⟨a, ha, rfl⟩
  · exact Or.inl ⟨p, hp, hl, rfl⟩
  · exact Or.inl ⟨p, hp, hl, rfl⟩
  · exact Or.inr (Or.inl rfl)
  · exact Or.inr (Or.inl rfl)
  · exact Or.inr (Or.inr ⟨a, ha, rfl⟩)

-- non-vacuity of these premises
example : (scanSubsets exCfg [⟨.rotate, 5, 0⟩, ⟨.callback, 1, 2⟩] none .kill {} {}).1 ≠ none ∧
    (scanSubsets exCfg [⟨.rotate, 5, 0⟩] none .kill {} {}).1 = none := by decide +kernel
example : (scanBody exCfg [⟨.rotate, 1, 1⟩] {} 1 {}).1 ≠ none := by decide +kernel

/-! ## segments created against segments live; the trace -/

/-- `Bnd a b`: between world `a` and world `b` the allocation counter did not go back and the ledger grew by at most
the number of segments created in between -/
def Bnd (a b : World) : Prop := a.nalloc ≤ b.nalloc ∧ b.live.length + a.nalloc ≤ a.live.length + b.nalloc

theorem Bnd.refl (a : World) : Bnd a a := ⟨Nat.le_refl _, Nat.le_refl _⟩

theorem Bnd.trans {a b c : World} (h1 : Bnd a b) (h2 : Bnd b c) : Bnd a c := by
  obtain ⟨h1a, h1b⟩ := h1
  obtain ⟨h2a, h2b⟩ := h2
  exact ⟨Nat.le_trans h1a h2a, by omega⟩

theorem step_bnd (plan : Plan) (mgr : Option Nat) (s : Step) (w : World) : Bnd w (step plan mgr s w).2 := by
  rw [step_snd]
  cases s with
  | alloc n =>
    refine ⟨Nat.le_add_right _ _, ?_⟩
    show (w.live ++ _).length + w.nalloc ≤ w.live.length + (w.nalloc + n)
    rw [List.length_append, List.length_map, List.length_range]
    omega
  | write b => cases b <;> exact Bnd.refl w
  | _ => exact Bnd.refl w

/-- `SharedMemoryManager.__exit__` only removes segments and creates none -/
theorem release_bnd (id : Nat) (w : World) : Bnd w (release id w) :=
  ⟨Nat.le_refl _, Nat.add_le_add_right (List.length_filter_le _ w.live) _⟩

/-- **live_bounded_by_created.**  For every fault plan, schedule and policy, returned or raised: the allocation
counter never goes back, and the number of segments live after the call exceeds the number live before it by at most
the number of segments the call created (segments are only ever added by `to_sharedarr`; in particular a call that
creates nothing leaves nothing) -/
theorem live_bounded_by_created (cfg : Cfg) (plan : Plan) (amb : Option Exc) (pol : Policy) (sch : Sched) (w : World) :
    w.nalloc ≤ (scanSubsets cfg plan amb pol sch w).2.nalloc ∧
    (scanSubsets cfg plan amb pol sch w).2.live.length + w.nalloc ≤
      w.live.length + (scanSubsets cfg plan amb pol sch w).2.nalloc :=
  scanSubsets_inv cfg plan amb pol sch (Bnd w) (fun _ w' h => h.trans (step_bnd plan none _ w'))
    (fun t s _ w' h => h.trans (step_bnd plan (some t) s w')) (fun t w' h => h.trans (release_bnd t w')) w (Bnd.refl w)

/-- the same bound for a direct `scan` -/
theorem scan_live_bounded_by_created (cfg : Cfg) (plan : Plan) (amb : Option Exc) (ts : TileSched) (w : World) :
    w.nalloc ≤ (scanDirect cfg plan amb ts w).2.nalloc ∧
    (scanDirect cfg plan amb ts w).2.live.length + w.nalloc ≤
      w.live.length + (scanDirect cfg plan amb ts w).2.nalloc :=
  handled_scan_inv cfg plan amb ts 0 (Bnd w) (fun s _ w' h => h.trans (step_bnd plan (some 0) s w'))
    (fun w' h => h.trans (release_bnd 0 w')) w (Bnd.refl w)

/-- **trace_monotone.**  The search never un-does work: every program point reached before the call is still recorded
after it, for every plan, schedule and policy, returned or raised (frame property of the trace) -/
theorem trace_monotone (cfg : Cfg) (plan : Plan) (amb : Option Exc) (pol : Policy) (sch : Sched) (w : World) :
    ∀ p ∈ w.trace, p ∈ (scanSubsets cfg plan amb pol sch w).2.trace :=
  scanSubsets_inv cfg plan amb pol sch (TraceSub w) (fun _ w' h => h.trans (step_traceSub plan none _ w'))
    (fun t s _ w' h => h.trans (step_traceSub plan (some t) s w')) (fun _ _ h => h) w (TraceSub.refl w)

/-- **created_eq_released.**  Under the corrected pool (or sequential tiles, or a returning run) the number of
segments released by the call equals the number it created: the ledger has its old length although the allocation
counter advanced by the number of `to_sharedarr` calls made -/
theorem created_eq_released (cfg : Cfg) (plan : Plan) (amb : Option Exc) (sch : Sched) (w : World)
    (hw : ∀ s ∈ w.live, s.mgr = none) :
    (w.live.length + ((scanSubsets cfg plan amb .drain sch w).2.nalloc - w.nalloc))
      - (scanSubsets cfg plan amb .drain sch w).2.live.length
      = (scanSubsets cfg plan amb .drain sch w).2.nalloc - w.nalloc := by
  rw [ledger_empty_after cfg plan amb sch w hw, Nat.add_sub_cancel_left]

/-! ## direct `scan`, degenerate job schedules, what a torn-down pool leaves behind -/

/-- a direct `scan` (no ambient exception) returns exactly when `n_jobs ≠ 0` and no planned fault sits on one of
its program points — for every inner schedule (success iff the effective fault list is empty) -/
theorem scan_returns_iff_no_live_fault (cfg : Cfg) (plan : Plan) (ts : TileSched) (w : World) :
    (scanDirect cfg plan none ts w).1 = none ↔ cfg.inner ≠ 0 ∧ ∀ p ∈ plan, p ∉ scanPoints cfg := by
  rw [scanDirect, handler_fst_none, scanBody_fst_none, bodyOK_iff]
  constructor
  · rintro ⟨⟨hi, hs⟩, _⟩
    exact ⟨hi, fun p hp => not_planned_of_stepsOK hs hp⟩
  · rintro ⟨hi, h⟩
    exact ⟨⟨hi, stepsOK_of_no_planned_point plan _ (flatSteps_nofail cfg 0) h⟩, rfl⟩

/-- `job_schedule[0] = 0`: the search raises at once, nothing was created, reached or written -/
theorem zero_outer_jobs_raises (cfg : Cfg) (plan : Plan) (amb : Option Exc) (pol : Policy) (sch : Sched) (w : World)
    (h : cfg.outer = 0) : scanSubsets cfg plan amb pol sch w = (some .badArg, w) := by
  rw [scanSubsets_eq, if_pos h]

/-- `job_schedule[1] = 0` with at least one tile: the search raises for every plan and schedule (no empty result) -/
theorem zero_inner_jobs_raises (cfg : Cfg) (plan : Plan) (amb : Option Exc) (pol : Policy) (sch : Sched) (w : World)
    (h : cfg.inner = 0) (hn : 1 ≤ cfg.ntiles) : (scanSubsets cfg plan amb pol sch w).1 ≠ none := by
  intro hret
  obtain ⟨_, htiles, _⟩ := (scanSubsets_returns_iff cfg plan amb pol sch w).mp hret
  exact (htiles 0 (by omega)).inner_ne_zero h

/-- `JExt a b`: the ledger of `b` is the ledger of `a` followed by segments that are all tracked by some manager -/
def JExt (a b : World) : Prop := ∃ l, b.live = a.live ++ l ∧ ∀ s ∈ l, s.mgr ≠ none

theorem JExt.step {a b c : World} {t : Nat} (h1 : JExt a b) (h2 : LiveExt (some t) b c) : JExt a c := by
  obtain ⟨l1, e1, o1⟩ := h1
  obtain ⟨l2, e2, o2⟩ := h2
  refine ⟨l1 ++ l2, by rw [e2, e1, List.append_assoc], ?_⟩
  intro s hs
  rcases List.mem_append.mp hs with h | h
  · exact o1 s h
  · rw [o2 s h]; simp

theorem JExt.release {a b : World} (t : Nat) (ha : ∀ s ∈ a.live, s.mgr = none) (h : JExt a b) :
    JExt a (release t b) := by
  obtain ⟨l, e, o⟩ := h
  refine ⟨l.filter (fun s => s.mgr != some t), ?_, fun s hs => o s (List.mem_filter.mp hs).1⟩
  simp only [Pm.C16.release]
  rw [e, List.filter_append]
  congr 1
  exact List.filter_eq_self.mpr (fun s hs => by simp [ha s hs])

/-- **leftovers_are_tracked (today's pool included).**  For every plan, schedule and policy, returned or raised: the
segments that were live before the call are all still there, in order (the search never unlinks a foreign segment),
and whatever the call leaves behind on top of them was created through a `SharedMemoryManager` of one of its tiles —
never an untracked `SharedMemory(create=True)` -/
theorem leftovers_are_tracked (cfg : Cfg) (plan : Plan) (amb : Option Exc) (pol : Policy) (sch : Sched) (w : World)
    (hw : ∀ s ∈ w.live, s.mgr = none) :
    ∃ l, (scanSubsets cfg plan amb pol sch w).2.live = w.live ++ l ∧ ∀ s ∈ l, s.mgr ≠ none :=
  scanSubsets_inv cfg plan amb pol sch (JExt w)
    (fun p w' h => by
      obtain ⟨l, e, o⟩ := h
      exact ⟨l, (step_live plan none _ w' (fun n hn => by cases hn)).trans e, o⟩)
    (fun t s _ w' h => h.step (step_liveExt plan (some t) s w')) (fun t w' h => h.release t hw) w
    ⟨[], (List.append_nil _).symm, fun _ h => nomatch h⟩

-- non-vacuity: a non-empty foreign ledger survives a killed pool that leaks
example : (scanSubsets { exCfg with inner := 1, nrot := 1 } [⟨.callback, 0, 0⟩] none .kill
    { progress := [{}, { steps := 5 }] } { live := [⟨none, 7⟩] }).2.live.head? = some ⟨none, 7⟩ := by decide +kernel

/-! ## the completion order is a permutation of the tasks -/

/-- the order in which `joblib.Parallel` completes the tasks (either pool, any `n_jobs`) is a permutation of them -/
theorem poolOrder_perm {α : Type} (njobs : Nat) (picks : List Nat) (l : List α) :
    List.Perm l (poolOrder njobs picks l) := by
  unfold poolOrder
  split
  · exact List.Perm.refl _
  · exact pickOrder_perm picks l

/-- **pool_outcome_perm.**  For any worker pool whose tasks fail independently of the world (as scoring jobs and tiles
do): running the tasks in any permuted order, with any `n_jobs`, any in-flight behaviour and from any world gives the
same raise / return decision -/
theorem pool_outcome_perm {τ : Type} (full : τ → World → Option Exc × World) (part part' : τ → World → World)
    (njobs njobs' : Nat) (bad : τ → Bool) (hfull : ∀ t w, (full t w).1 = none ↔ bad t = false)
    (ts ts' : List τ) (hperm : List.Perm ts ts') (w w' : World) :
    (runPool full part njobs ts w).1 = none ↔ (runPool full part' njobs' ts' w').1 = none := by
  rw [runPool_fst_none full part njobs (fun t => bad t = false) hfull,
    runPool_fst_none full part' njobs' (fun t => bad t = false) hfull]
  exact ⟨fun h t ht => h t (hperm.mem_iff.mpr ht), fun h t ht => h t (hperm.mem_iff.mp ht)⟩

/-- instance for the scoring jobs of one `scan`: any permutation of the jobs gives the same raise / return decision -/
theorem jobs_outcome_perm (plan : Plan) (t : Nat) (ts ts' : TileSched) (njobs njobs' : Nat)
    (js js' : List (Nat × List Step)) (hperm : List.Perm js js') (w w' : World) :
    (runPool (jobFull plan t) (jobPart plan t ts) njobs js w).1 = none ↔
      (runPool (jobFull plan t) (jobPart plan t ts') njobs' js' w').1 = none :=
  pool_outcome_perm (jobFull plan t) _ _ njobs njobs' (fun j => j.2.any (·.bad plan))
    (jobFull_fst_none plan t) js js' hperm w w'

end Pm.C16
