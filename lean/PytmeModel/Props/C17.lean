import PytmeModel.Model.C17
import PytmeModel.Proofs.C17
import PytmeModel.Model.C17Scores
import PytmeModel.Proofs.C17Scores
import PytmeModel.Proofs.C17MI
import PytmeModel.Extracted.C17
import Mathlib.Tactic.Ring

/-! # C17 — refinement scores are repeatable; the optimiser wrapper respects bounds and the start;
rigid alignment recovers rigid motions

Clause map (property text → theorems, in the order of the file):
* "every registered score can be evaluated through the common interface" → `registered_all_callable`;
  `formatPose_split`, `formatPose_translation`, `formatPose_angles`; `flcWindow_len_eq`,
  `flcWindow_overlap`, `flcWindow_disjoint`, `flcWindow_inside` (no pose makes the window arithmetic
  ill-formed), witness on the code before the fix `flcWindowOld_defect`; the registry itself is tied by
  reflection in the harness.
* "same value regardless of which poses were evaluated before" → coordinate scores `c2dInit_wf`,
  `c2dStep_value`, `c2dStep_wf`, `score_indep_of_history`, `c2dRun_values`, `c2dRun_same_pose_twice`,
  `score_translation_value`, `score_angles_value`; density score `d2dInit_wf`, `d2dStep_value`,
  `d2dStep_wf`, `d2d_score_indep_of_history`, `d2dRun_values`, `flc_score_translation_value`, witness on
  the code before the fix `d2dStepOld_mask_never_written`; several objects alive at once, evaluated in
  turn: `poolRun_values`, `c2dPool_values`, `d2dPool_values`.
* "optimiser returns a pose inside the bounds whose score is no worse than the start" →
  `effBounds_length`, `effBounds_widens_by_res`, `effBounds_none`; `optimizeWrap_score_eq_min`,
  `result_no_worse_than_start`, `result_in_bounds`, `result_score_consistent`, `optimizeMatch_sound`,
  `result_no_worse_than_refined`, `optimizeWrap_pose_cases`, `optimizeWrap_idem`,
  `optimizeWrap_chain_le_start`, `optimizeWrap_chain_in_bounds`, `inBounds_length`; witness
  `optimizeWrapOld_defect`.
* "aligning to a rigidly moved copy reproduces the copy" → `align_recovers`, `align_rmsd_zero`,
  `rigidCoords_spec`, `rigid_then_align_recovers`, `kabschRotation_det_nonneg`, `sqDev_symm`,
  `sqDev_translate`.
* "similarity scores are best at the generating pose" → on the voxel grid, score by score, about the
  executable formulas of `Model/C17Scores.lean`:
  sign convention `scoreSign_mul_le`, `scoreSign_div_le`, `similarity_best_both_conventions`,
  `distance_best_both_conventions`; sampling `sample_spec`, `sampleAll_shift_length`, `shiftPts_zero`;
  CC `cc_planted_value`, `cc_planted_best_of_norm_le`, `cc_abs_le_of_norm_le`, `cc_unique_of_norm_le`
  (+ witness `cc_planted_not_best_without_norm_bound`);
  Laplace `laplace_planted_vectors_differ`, `laplace_offset_invariant`, `laplace_cc_best_of_norm_le`;
  NCC `ncc_sq_le`, `ncc_planted_attains`, `ncc_sampled_sq_le`, `ncc_value_le_one`, `ncc_planted_value_one`,
  `ncc_planted_best`, `ncc_guard_iff`, `ncc_planted_best_translation`, `ncc_value_one_proportional`;
  NCCMean `nccMean_planted_not_best` (the code's two different means make the planted pose non-optimal),
  `nccMean_planted_offset`, `nccMean_corrected_best`;
  PLSQ `plsq_nonneg`, `plsq_planted_zero`, `plsq_eq_zero_iff`, `plsq_planted_best`,
  `plsq_planted_best_translation`;
  Envelope `envRaw_eq`, `envelopeParts_eq`, `envelope_outward_move_improves`,
  `envelope_planted_worst_in_volume`, `envelope_out_of_volume_lowers`, `envelope_current_defect`,
  `envelope_values_coded`, `envelope_sampled_eq`;
  Chamfer `chamfer_nonneg`, `nnSq_eq_zero_iff`, `chamfer_zero_iff`, `nnSq_mono_target`, `chamfer_planted_zero`;
  NVS `nvs_sq_le`, `nvs_planted`, `nvs_planted_best`;
  MCC `mccCore_sq_le`, `mccCore_planted`, `mccParts_integer`, `mcc_integer_sq_le`, `mcc_integer_planted`,
  `mccParts_integer_partial`, `mcc_integer_any_pose_sq_le`, `mcc_integer_all_outside` (+ witnesses
  `mcc_truncation_defect`, `mcc_overlap_defect`, `mcc_mask_subset_defect`);
  MI (the code computes `Σ p_xy² / (p_x p_y + eps)` over the 10 × 10 histogram) `mi_symm`,
  `mi_le_nonempty_bins`, `mi_planted_value`, `mi_planted_best`, `mi_planted_best_within_regulariser`,
  `miOf_symm`;
  FLC `flc_full_sq_le`, `flc_full_planted`, `flc_binary_sq_le`, `flc_binary_planted`, `flcOf_sq_le`,
  `flcOf_planted`, `flcOf_example`.
  Off the voxel grid (interpolation, rotations): Leg B.
-/

namespace Pm.C17

/-! ## the registry (regenerated from the source on every run) is covered by the model -/

/-- every registered score belongs to a family with a step function, and its `__call__` is of one of
the three modelled kinds -/
theorem registered_all_callable : ∀ row ∈ Extracted.registry, rowCovered row = true := by decide

example : Extracted.registry.length ≥ 11 := by decide

/-- an even-length pose splits into two halves of equal length that reassemble to the pose -/
theorem formatPose_split {α : Type} (x : List α) (d : Nat) (h : x.length = 2 * d) :
    (formatPose x).1.length = d ∧ (formatPose x).2.length = d ∧
      (formatPose x).1 ++ (formatPose x).2 = x := by
  have hd : x.length / 2 = d := by omega
  unfold formatPose
  rw [hd]
  refine ⟨?_, ?_, List.take_append_drop _ _⟩
  · rw [List.length_take, h]; omega
  · rw [List.length_drop, h]; omega

/-- `score_translation` evaluates the pose (t, 0) -/
theorem formatPose_translation {α : Type} (z : α) (t : List α) :
    formatPose (poseOfTranslation z t) = (t, List.replicate t.length z) := by
  unfold formatPose poseOfTranslation
  have h : (t ++ List.replicate t.length z).length / 2 = t.length := by
    simp only [List.length_append, List.length_replicate]; omega
  rw [h]
  simp

/-- `score_angles` evaluates the pose (0, a) -/
theorem formatPose_angles {α : Type} (z : α) (a : List α) :
    formatPose (poseOfAngles z a) = (List.replicate a.length z, a) := by
  unfold formatPose poseOfAngles
  have h : (List.replicate a.length z ++ a).length / 2 = (List.replicate a.length z).length := by
    simp only [List.length_append, List.length_replicate]; omega
  rw [h]
  simp

example : formatPose [1, 2, 3, 10, 20, 30] = ([1, 2, 3], [10, 20, 30]) := by decide

/-- template window and target window always select the same number of voxels -/
theorem flcWindow_len_eq (n N : Nat) (v : Int) :
    (flcWindow n N v).tLen n = (flcWindow n N v).gLen N := by
  rw [Win.tLen, Win.gLen]
  by_cases h : -(n : Int) < v ∧ v < N
  · rw [flcWindow_of_overlap n N v h.1 h.2]
    dsimp only
    rw [sliceLen_inside n _ _ (by omega) (by omega) (by omega),
      sliceLen_inside N _ _ (by omega) (by omega) (by omega), sub_sub_sub_cancel_right]
  · rw [flcWindow_of_disjoint n N v (by omega), sliceLen_same, sliceLen_same]

/-- with overlap (`-n < v < N`) the windows are the intersection of the shifted template with the
target, non-empty, inside both arrays, and the target index is the template index plus `v` -/
theorem flcWindow_overlap (n N : Nat) (v : Int) (hn : 0 < n) (hN : 0 < N) (h1 : -(n : Int) < v) (h2 : v < N) :
    (flcWindow n N v).tLo = max 0 (-v) ∧ (flcWindow n N v).tHi = min (n : Int) (N - v) ∧
      (flcWindow n N v).gLo = (flcWindow n N v).tLo + v ∧
      (flcWindow n N v).gHi = (flcWindow n N v).tHi + v ∧
      0 ≤ (flcWindow n N v).tLo ∧ (flcWindow n N v).tLo < (flcWindow n N v).tHi ∧
      (flcWindow n N v).tHi ≤ n ∧ 0 ≤ (flcWindow n N v).gLo ∧ (flcWindow n N v).gHi ≤ N := by
  rw [flcWindow_of_overlap n N v h1 h2]
  dsimp only
  omega

/-- without overlap both windows are empty (no pose is rejected) -/
theorem flcWindow_disjoint (n N : Nat) (v : Int) (h : v ≤ -(n : Int) ∨ (N : Int) ≤ v) :
    (flcWindow n N v).tLen n = 0 ∧ (flcWindow n N v).gLen N = 0 := by
  rw [Win.tLen, Win.gLen, flcWindow_of_disjoint n N v h]
  exact ⟨sliceLen_same _ _, sliceLen_same _ _⟩

/-- the pinned arithmetic: template off the target by one voxel ⇒ 0 template voxels against 19
target voxels (numpy then raises) -/
theorem flcWindowOld_defect :
    (flcWindowOld 10 20 (-11)).tLen 10 = 0 ∧ (flcWindowOld 10 20 (-11)).gLen 20 = 19 := by decide

example : flcWindow 10 20 (-3) = ⟨3, 10, 0, 7⟩ := by decide

example : flcWindow 10 20 15 = ⟨0, 5, 15, 20⟩ := by decide

example : (flcWindow 10 20 (-11)).tLen 10 = 0 ∧ (flcWindow 10 20 (-11)).gLen 20 = 0 := by decide

/-- a template that lies wholly inside the target on an axis (`0 ≤ v`, `v + n ≤ N`): the template window
is the whole axis `[0, n)`, the target window `[v, v + n)` — so `flcInWin` keeps every index of that axis
and `flcTgt` adds `v` -/
theorem flcWindow_inside (n N : Nat) (v : Int) (h0 : 0 ≤ v) (h1 : v + n ≤ N) :
    flcWindow n N v = ⟨0, n, v, v + n⟩ ∧ pySlice n (flcWindow n N v).tLo (flcWindow n N v).tHi = (0, n) := by
  have e : flcWindow n N v = ⟨0, n, v, v + n⟩ := by
    rw [flcWindow_eq, max_eq_left h0, min_eq_left (by omega), min_eq_left h1, max_eq_left (by omega),
      sub_self, add_sub_cancel_left]
  rw [e]
  exact ⟨rfl, pySlice_inside n 0 n (Nat.zero_le n) (Nat.le_refl n)⟩

example : flcWindow 3 6 1 = ⟨0, 3, 1, 4⟩ := by decide

/-- a fresh object is well formed -/
theorem c2dInit_wf {α β : Type} (S : C2DStatic α β) (n m : Nat) (rot tv : List α)
    (mrot : Option (List α)) (hr : rot.length = n) (hm : ∀ mm, mrot = some mm → mm.length = m) :
    C2DWf S mrot.isSome n m ⟨rot, mrot, tv, S.one⟩ := by
  refine ⟨hr, ?_, fun _ => rfl⟩
  cases mrot with
  | none => simp
  | some mm => simpa using hm mm rfl

/-- one call returns what a fresh object returns for that pose -/
theorem c2dStep_value {α β : Type} (S : C2DStatic α β) (hasMask : Bool) (n m : Nat)
    (hc : C2DContract S n m) (st : C2DState α) (hw : C2DWf S hasMask n m st) (x : List α) :
    (c2dStep S st x).1 = c2dPure S hasMask x := by
  unfold c2dStep c2dPure
  simp only [hw.write_rotated hc x, hw.write_mask hc x]
  cases hk : S.kind with
  | plain => simp only [hw.den (by rw [hk]; decide)]
  | generic => simp only [hw.den (by rw [hk]; decide)]
  | normalised => simp only; split <;> rfl

/-- the invariant is kept by every call -/
theorem c2dStep_wf {α β : Type} (S : C2DStatic α β) (hasMask : Bool) (n m : Nat)
    (hc : C2DContract S n m) (st : C2DState α) (hw : C2DWf S hasMask n m st) (x : List α) :
    C2DWf S hasMask n m (c2dStep S st x).2 := by
  have hmask : match (if hasMask then some (S.rigidMask x) else none) with
      | some mm => hasMask = true ∧ mm.length = m
      | none => hasMask = false := by
    cases hasMask
    · rfl
    · exact ⟨rfl, hc.rigidMask x⟩
  unfold c2dStep
  simp only [hw.write_rotated hc x, hw.write_mask hc x]
  cases hk : S.kind with
  | plain => exact ⟨hc.rigid x, hmask, fun _ => hw.den (by rw [hk]; decide)⟩
  | generic => exact ⟨hc.rigid x, hmask, fun _ => hw.den (by rw [hk]; decide)⟩
  | normalised => simp only; split <;> exact ⟨hc.rigid x, hmask, fun h => absurd hk h⟩

/-- **repeatability**: whatever two (reachable) states the object is in, the same pose gets the
same value -/
theorem score_indep_of_history {α β : Type} (S : C2DStatic α β) (hasMask : Bool) (n m : Nat)
    (hc : C2DContract S n m) (st st' : C2DState α) (hw : C2DWf S hasMask n m st)
    (hw' : C2DWf S hasMask n m st') (x : List α) :
    (c2dStep S st x).1 = (c2dStep S st' x).1 := by
  rw [c2dStep_value S hasMask n m hc st hw, c2dStep_value S hasMask n m hc st' hw']

/-- along any history of poses every returned value is the fresh-object value of its pose -/
theorem c2dRun_values {α β : Type} (S : C2DStatic α β) (hasMask : Bool) (n m : Nat)
    (hc : C2DContract S n m) (xs : List (List α)) :
    ∀ (st : C2DState α), C2DWf S hasMask n m st →
      (c2dRun S st xs).1 = xs.map (c2dPure S hasMask) := by
  induction xs with
  | nil => intro st _; rfl
  | cons x xs ih =>
    intro st hw
    have hv := c2dStep_value S hasMask n m hc st hw x
    have hw2 := c2dStep_wf S hasMask n m hc st hw x
    have := ih (c2dStep S st x).2 hw2
    simp only [c2dRun, List.map_cons]
    rw [this, hv]

/-- evaluating the same pose twice in a row returns the same (fresh-object) value both times -/
theorem c2dRun_same_pose_twice {α β : Type} (S : C2DStatic α β) (hasMask : Bool) (n m : Nat)
    (hc : C2DContract S n m) (st : C2DState α) (hw : C2DWf S hasMask n m st) (x : List α) :
    (c2dRun S st [x, x]).1 = [c2dPure S hasMask x, c2dPure S hasMask x] :=
  c2dRun_values S hasMask n m hc [x, x] st hw

/-- `score_translation(t)` is `score` at the pose `(t, 0)`: the value of a fresh object for that pose,
whatever was evaluated before (and likewise `score_angles`) -/
theorem score_translation_value {α β : Type} (S : C2DStatic α β) (hasMask : Bool) (n m : Nat)
    (hc : C2DContract S n m) (st : C2DState α) (hw : C2DWf S hasMask n m st) (z : α) (t : List α) :
    (c2dStep S st (poseOfTranslation z t)).1 = c2dPure S hasMask (t ++ List.replicate t.length z) ∧
      formatPose (poseOfTranslation z t) = (t, List.replicate t.length z) :=
  ⟨c2dStep_value S hasMask n m hc st hw _, formatPose_translation z t⟩

theorem score_angles_value {α β : Type} (S : C2DStatic α β) (hasMask : Bool) (n m : Nat)
    (hc : C2DContract S n m) (st : C2DState α) (hw : C2DWf S hasMask n m st) (z : α) (a : List α) :
    (c2dStep S st (poseOfAngles z a)).1 = c2dPure S hasMask (List.replicate a.length z ++ a) ∧
      formatPose (poseOfAngles z a) = (List.replicate a.length z, a) :=
  ⟨c2dStep_value S hasMask n m hc st hw _, formatPose_angles z a⟩

example : poseOfTranslation (0 : Int) [1, 2, 3] = [1, 2, 3, 0, 0, 0] ∧ poseOfAngles (0 : Int) [1, 2, 3] = [0, 0, 0, 1, 2, 3] := by
  decide

/-- a token instance: kernels return buffers filled with the call's token -/
def exC2D (kind : CallKind) : C2DStatic Nat (List Nat) :=
  { kind := kind
    rigid := fun x => List.replicate 2 (x.headD 0)
    rigidMask := fun x => List.replicate 1 (x.headD 0)
    interp := fun p => p
    denomOf := fun tv => tv.headD 0
    denomPos := fun k => k % 2 == 1
    one := 0
    final := fun tv rot mrot den => tv ++ rot ++ mrot.getD [] ++ [den]
    zero := [] }

/-- non-vacuity: the contract and the invariant hold for a concrete object with a mask … -/
example : C2DContract (exC2D .normalised) 2 1 := ⟨fun _ => by simp [exC2D], fun _ => by simp [exC2D]⟩

example : C2DWf (exC2D .normalised) true 2 1 ⟨[0, 0], some [0], [0, 0], 0⟩ :=
  ⟨rfl, ⟨rfl, rfl⟩, fun h => absurd rfl h⟩

/-- … a three-call history (second call takes the early return) gives the fresh-object values … -/
example : (c2dRun (exC2D .normalised) ⟨[0, 0], some [0], [0, 0], 0⟩ [[1], [2], [3]]).1 =
    [[1, 1, 1, 1, 1, 1], [], [3, 3, 3, 3, 3, 3]] := by decide

/-- … and the invariant is needed: a buffer longer than what the kernel writes keeps a stale cell
that the formula then reads (two states, same pose, different values) -/
example : (c2dStep (exC2D .generic) ⟨[7, 7, 7], none, [], 0⟩ [1]).1 ≠
    (c2dStep (exC2D .generic) ⟨[8, 8, 8], none, [], 0⟩ [1]).1 := by decide

theorem d2dInit_wf {α β : Type} (S : D2DStatic α β) (L : Nat) (hc : D2DContract S L)
    (tr go : List α) (ws : List Win) (ht : tr.length = L) :
    D2DWf S L ⟨none, go, tr, S.mask0, ws⟩ :=
  ⟨ht, hc.mask0, fun _ => rfl, fun _ _ h => by simp at h⟩

theorem d2dStep_value {α β : Type} (S : D2DStatic α β) (L : Nat) (hc : D2DContract S L)
    (st : D2DState α) (hw : D2DWf S L st) (x : List α) :
    (d2dStep S st x).1 = d2dPure S x :=
  congrArg Prod.fst (d2dStep_eq S L hc st hw x)

theorem d2dStep_wf {α β : Type} (S : D2DStatic α β) (L : Nat) (hc : D2DContract S L)
    (st : D2DState α) (hw : D2DWf S L st) (x : List α) :
    D2DWf S L (d2dStep S st x).2 := by
  rw [d2dStep_eq S L hc st hw x]
  refine ⟨by rw [hc.normalize, hc.interpT], ?_, fun h => by rw [h]; rfl, ?_⟩
  · dsimp only
    split
    · exact hc.interpM _
    · exact hc.mask0
  · intro pc g h
    cases h
    exact ⟨rfl, rfl, hc.affine x _⟩

/-- **repeatability** for the density-to-density score, including the cached grid -/
theorem d2d_score_indep_of_history {α β : Type} (S : D2DStatic α β) (L : Nat) (hc : D2DContract S L)
    (st st' : D2DState α) (hw : D2DWf S L st) (hw' : D2DWf S L st') (x : List α) :
    (d2dStep S st x).1 = (d2dStep S st' x).1 := by
  rw [d2dStep_value S L hc st hw, d2dStep_value S L hc st' hw']

theorem d2dRun_values {α β : Type} (S : D2DStatic α β) (L : Nat) (hc : D2DContract S L)
    (xs : List (List α)) :
    ∀ (st : D2DState α), D2DWf S L st → (d2dRun S st xs).1 = xs.map (d2dPure S) := by
  induction xs with
  | nil => intro st _; rfl
  | cons x xs ih =>
    intro st hw
    have hv := d2dStep_value S L hc st hw x
    have hw2 := d2dStep_wf S L hc st hw x
    have := ih (d2dStep S st x).2 hw2
    simp only [d2dRun, List.map_cons]
    rw [this, hv]

/-- `FLC.score_translation(t)` / `score_angles(a)` are `score` at `(t, 0)` / `(0, a)`: fresh-object values -/
theorem flc_score_translation_value {α β : Type} (S : D2DStatic α β) (L : Nat) (hc : D2DContract S L)
    (st : D2DState α) (hw : D2DWf S L st) (z : α) (t : List α) :
    (d2dStep S st (poseOfTranslation z t)).1 = d2dPure S (t ++ List.replicate t.length z) ∧
      (d2dStep S st (poseOfAngles z t)).1 = d2dPure S (List.replicate t.length z ++ t) :=
  ⟨d2dStep_value S L hc st hw _, d2dStep_value S L hc st hw _⟩

/-- pinned code: with `rotate_mask` the rotated-mask buffer is all zeros after every call, whatever
the mask (hence `n_obs = 0` and a NaN score) -/
theorem d2dStepOld_mask_never_written {α β : Type} (S : D2DStatic α β) (st : D2DState α)
    (x : List α) (h : S.rotateMask = true) :
    (d2dStepOld S st x).2.maskRot = List.replicate st.maskRot.length S.zeroA := by
  simp only [d2dStepOld, h, if_true, fillWith]

def exD2D (rotateMask : Bool) : D2DStatic Nat (List Nat × List Win) :=
  { shape := [2, 3], targetShape := [5, 6], rotateMask := rotateMask
    mask0 := List.replicate 6 0, zeroA := 999
    mkGrid := fun s => List.replicate (prodL s * s.length) 1000
    affine := fun x g => List.replicate g.length (x.headD 0)
    interpT := fun p => List.replicate 6 (p.headD 998)
    interpM := fun p => List.replicate 6 (p.headD 998 + 100)
    normalize := fun t _ => t
    voxel := fun x => [(x.headD 0 : Int) - 3, 2]
    final := fun tr mr ws => (tr ++ mr, ws) }

example : D2DContract (exD2D true) 6 :=
  ⟨fun _ _ => by simp [exD2D], fun _ => by simp [exD2D], fun _ => by simp [exD2D], fun _ _ => rfl,
    by simp [exD2D]⟩

example : (d2dRun (exD2D true) ⟨none, [], List.replicate 6 0, List.replicate 6 0, []⟩ [[1], [5]]).1 =
    [d2dPure (exD2D true) [1], d2dPure (exD2D true) [5]] := by decide

/-- the step before the fix on the same object: the formula sees a zero mask and the mask inside the template buffer -/
example : (d2dStepOld (exD2D true) ⟨none, [], List.replicate 6 0, List.replicate 6 0, []⟩ [1]).1.1 =
    List.replicate 6 101 ++ List.replicate 6 999 := by decide

theorem effBounds_length (c : Consts) (m : Method) (bt br : Option (List Bound)) (b : List Bound)
    (ht : ∀ t, bt = some t → t.length = c.ndim) (hr : ∀ r, br = some r → r.length = c.ndim)
    (h : effBounds c m bt br = some b) : b.length = 2 * c.ndim := by
  simp only [effBounds] at h
  split at h
  · rename_i t r ht' hr'
    cases h
    rw [List.length_map, List.length_append, Nat.two_mul,
      length_of_ite_some List.length_replicate (length_of_ite_some List.length_replicate ht) t ht',
      length_of_ite_some List.length_replicate hr r hr']
  · cases h

/-- every effective bound is the user's bound, except `(0,0)` which is widened to `±res` -/
theorem effBounds_widens_by_res (c : Consts) (m : Method) (t r b : List Bound)
    (h : effBounds c m (some t) (some r) = some b) :
    b = (t ++ r).map (fun u => if u = (0, 0) then (-c.res, c.res) else u) := by
  simp only [effBounds, Option.isNone_some, Option.isSome_some, and_false, and_true, if_false,
    Bool.false_eq_true] at h
  exact (Option.some.inj h).symm

/-- no bounds at all stay "unbounded" for the local optimisers; DE always gets bounds -/
theorem effBounds_none (c : Consts) (m : Method) :
    (effBounds c m none none = none ↔ m ≠ .de) := by
  cases m <;> simp [effBounds]

/-- the returned score is exactly the smaller of start score and refined score (scores are minimised) -/
theorem optimizeWrap_score_eq_min (x0 : List Int) (initial : Int) (resX : List Int) (resFun : Int) :
    (optimizeWrap x0 initial resX resFun).2 = min initial resFun := by
  unfold optimizeWrap; split <;> (simp only; omega)

/-- the returned score is never worse (larger) than the start's -/
theorem result_no_worse_than_start (x0 : List Int) (initial : Int) (resX : List Int) (resFun : Int) :
    (optimizeWrap x0 initial resX resFun).2 ≤ initial :=
  optimizeWrap_score_eq_min x0 initial resX resFun ▸ Int.min_le_left _ _

/-- the returned pose lies in the bounds when the start and the optimiser's result do -/
theorem result_in_bounds (b : List Bound) (x0 : List Int) (initial : Int) (resX : List Int)
    (resFun : Int) (h0 : inBounds b x0 = true) (hr : inBounds b resX = true) :
    inBounds b (optimizeWrap x0 initial resX resFun).1 = true := by
  unfold optimizeWrap; split <;> assumption

/-- the returned score is the score of the returned pose -/
theorem result_score_consistent (score : List Int → Int) (x0 resX : List Int) :
    (optimizeWrap x0 (score x0) resX (score resX)).2 =
      score (optimizeWrap x0 (score x0) resX (score resX)).1 := by
  unfold optimizeWrap; split <;> rfl

/-- the whole wrapper, for every score function and every optimiser that reports the score of
its result and stays inside the bounds it was given -/
theorem optimizeMatch_sound (c : Consts) (m : Method) (bt br : Option (List Bound))
    (x0 : Option (List Int)) (score : List Int → Int)
    (opt : Option (List Bound) → List Int → List Int × Int)
    (hfun : ∀ b s, (opt b s).2 = score (opt b s).1) :
    let r := optimizeMatch c m bt br x0 score opt
    r.2 = score r.1 ∧ r.2 ≤ score (startPose c x0) ∧
      ∀ b, effBounds c m bt br = some b → inBounds b (startPose c x0) = true →
        inBounds b (opt (some b) (startPose c x0)).1 = true → inBounds b r.1 = true := by
  refine ⟨?_, ?_, ?_⟩
  · simp only [optimizeMatch]; rw [hfun]; exact result_score_consistent _ _ _
  · exact result_no_worse_than_start _ _ _ _
  · intro b hb h0 hr
    simp only [optimizeMatch, hb]
    exact result_in_bounds b _ _ _ _ h0 hr

/-- the returned score is also no worse than the optimiser's own result -/
theorem result_no_worse_than_refined (x0 : List Int) (initial : Int) (resX : List Int) (resFun : Int) :
    (optimizeWrap x0 initial resX resFun).2 ≤ resFun :=
  optimizeWrap_score_eq_min x0 initial resX resFun ▸ Int.min_le_right _ _

/-- the returned pose is the start or the optimiser's pose, nothing else -/
theorem optimizeWrap_pose_cases (x0 : List Int) (initial : Int) (resX : List Int) (resFun : Int) :
    (optimizeWrap x0 initial resX resFun).1 = x0 ∨ (optimizeWrap x0 initial resX resFun).1 = resX := by
  unfold optimizeWrap; split <;> simp

/-- the accept rule is idempotent: re-applying it to its own output changes nothing -/
theorem optimizeWrap_idem (x0 : List Int) (initial : Int) (resX : List Int) (resFun : Int) :
    optimizeWrap x0 initial (optimizeWrap x0 initial resX resFun).1 (optimizeWrap x0 initial resX resFun).2 =
      optimizeWrap x0 initial resX resFun := by
  unfold optimizeWrap; split <;> simp only <;> split <;> rfl

/-- any number of accept steps in a row: the final score is no worse than the start -/
theorem optimizeWrap_chain_le_start (rs : List (List Int × Int)) :
    ∀ (x0 : List Int) (initial : Int),
      (rs.foldl (fun acc r => optimizeWrap acc.1 acc.2 r.1 r.2) (x0, initial)).2 ≤ initial := by
  induction rs with
  | nil => intro x0 initial; exact Int.le_refl _
  | cons r rs ih =>
    intro x0 initial
    simp only [List.foldl_cons]
    exact Int.le_trans (ih _ _) (result_no_worse_than_start x0 initial r.1 r.2)

/-- any number of accept steps in a row: the final pose stays in bounds when all candidates do -/
theorem optimizeWrap_chain_in_bounds (b : List Bound) (rs : List (List Int × Int))
    (hr : ∀ r ∈ rs, inBounds b r.1 = true) :
    ∀ (x0 : List Int) (initial : Int), inBounds b x0 = true →
      inBounds b (rs.foldl (fun acc r => optimizeWrap acc.1 acc.2 r.1 r.2) (x0, initial)).1 = true := by
  induction rs with
  | nil => intro x0 initial h; exact h
  | cons r rs ih =>
    intro x0 initial h
    simp only [List.foldl_cons]
    exact ih (fun q hq => hr q (List.mem_cons_of_mem _ hq)) _ _
      (result_in_bounds b x0 initial r.1 r.2 h (hr r List.mem_cons_self))

example : inBounds [(-1, 1)] [0] = true ∧ ∀ r ∈ [(([1] : List Int), (3 : Int))], inBounds [(-1, 1)] r.1 = true := by
  decide

/-- a pose accepted by the bounds check has one entry per bound -/
theorem inBounds_length : ∀ (b : List Bound) (v : List Int), inBounds b v = true → b.length = v.length
  | [], [], _ => rfl
  | [], _ :: _, h => by simp [inBounds] at h
  | _ :: _, [], h => by simp [inBounds] at h
  | _ :: bs, _ :: vs, h => by
    simp only [inBounds, Bool.and_eq_true] at h
    simp only [List.length_cons, inBounds_length bs vs h.2]

example : inBounds [(-1, 1), (0, 5)] [0, 3] = true := by decide

/-- pinned code: start (7,−7) inside rotation bounds that exclude 0, optimiser result inside the
bounds but worse than the start ⇒ zeros outside the bounds are returned with the worse score -/
theorem optimizeWrapOld_defect :
    let b : List Bound := [(5, 10), (-10, -5)]
    let x0 : List Int := [7, -7]
    let res : List Int := [9, -9]
    inBounds b x0 = true ∧ inBounds b res = true ∧
      inBounds b (optimizeWrapOld x0 (-52) res 0).1 = false ∧
      ¬ (optimizeWrapOld x0 (-52) res 0).2 ≤ -52 := by decide

example : optimizeWrap [7, -7] (-52) [9, -9] 0 = ([7, -7], -52) := by decide

example : optimizeWrap [7, -7] (-52) [9, -9] (-60) = ([9, -9], -60) := by decide

example : effBounds ⟨-1000, 1000, 1, 180, 3⟩ .minimize (some [(1, 3), (1, 3), (0, 0)]) none
    = some [(1, 3), (1, 3), (-1, 1), (-180, 180), (-180, 180), (-180, 180)] := by decide

example : effBounds ⟨-1000, 1000, 1, 180, 3⟩ .de none none
    = some [(-1000, 1000), (-1000, 1000), (-1000, 1000), (-180, 180), (-180, 180), (-180, 180)] := by
  decide

/-- **Kabsch wrapper**: if the reference is the image `q ↦ q·R + t` of the query (any matrix `R`,
any `t`, any number of points, any field) and the SVD step hands back that `R`, the aligned query
*is* the reference -/
theorem align_recovers {α : Type} [Field α] (R : M3 α) (t : V3 α) (query : List (V3 α))
    (hn : (query.length : α) ≠ 0) :
    alignAll 0 (1 / (query.length : α)) R (query.map (fun q => V3.add (V3.mulM q R) t)) query =
      query.map (fun q => V3.add (V3.mulM q R) t) := by
  unfold alignAll
  rw [vsum_map_affine]
  apply List.map_congr_left
  intro q _
  have h1 : (1 / (query.length : α)) * (query.length : α) = 1 := one_div_mul_cancel hn
  generalize (query.length : α) = n at h1
  generalize (1 / n : α) = i at h1
  generalize vsum 0 query = S
  -- in each coordinate: the reference's centroid minus the image of the query's centroid is `t`
  have key : ∀ a b c r1 r2 r3 s : α,
      i * (a * r1 + b * r2 + c * r3 + n * s) - (i * a * r1 + i * b * r2 + i * c * r3) = s :=
    fun a b c r1 r2 r3 s => by linear_combination s * h1
  rw [V3.eq_iff]
  simp only [V3.add, V3.sub, V3.mulM, V3.smul, sub_add_cancel, add_right_inj, key, and_self]

/-- … hence the squared deviation (n·RMSD²) after alignment is exactly 0 -/
theorem align_rmsd_zero {α : Type} [Field α] (R : M3 α) (t : V3 α) (query : List (V3 α))
    (hn : (query.length : α) ≠ 0) :
    sqDev 0 (query.map (fun q => V3.add (V3.mulM q R) t))
      (alignAll 0 (1 / (query.length : α)) R (query.map (fun q => V3.add (V3.mulM q R) t)) query) = 0 := by
  rw [align_recovers R t query hn]; exact sqDev_self _

/-- `rigid_transform` on coordinates is `x ↦ R(x − c) + c + t` with `c` the centroid -/
theorem rigidCoords_spec {α : Type} [Field α] (R : M3 α) (t : V3 α) (pts : List (V3 α))
    (hn : (pts.length : α) ≠ 0) :
    rigidCoords 0 (1 / (pts.length : α)) R t pts =
      pts.map (fun p =>
        V3.add (V3.add (M3.mulV R (V3.sub p (V3.smul (1 / (pts.length : α)) (vsum 0 pts))))
          (V3.smul (1 / (pts.length : α)) (vsum 0 pts))) t) := by
  unfold rigidCoords
  simp only [List.map_map]
  rw [vsum_map_mulV_sub]
  apply List.map_congr_left
  intro p _
  have h1 : (1 / (pts.length : α)) * (pts.length : α) = 1 := one_div_mul_cancel hn
  generalize (pts.length : α) = n at h1
  generalize (1 / n : α) = i at h1
  generalize vsum 0 pts = S
  -- the centred points sum to zero, so re-centring the rotated points adds exactly the centroid
  have hz : ∀ s : α, s - n * (i * s) = 0 := fun s => by linear_combination (-s) * h1
  rw [V3.eq_iff]
  simp only [Function.comp, V3.add, V3.sub, M3.mulV, V3.smul, hz, mul_zero, add_zero, sub_zero]
  exact ⟨by rw [add_comm t.x, ← add_assoc], by rw [add_comm t.y, ← add_assoc],
    by rw [add_comm t.z, ← add_assoc]⟩

/-- a structure moved by `rigid_transform` and aligned back with the rotation `Rᵀ` (row convention of
`align_structures`) reproduces the moved copy exactly -/
theorem rigid_then_align_recovers {α : Type} [Field α] (R : M3 α) (t : V3 α) (pts : List (V3 α))
    (hn : (pts.length : α) ≠ 0) :
    alignAll 0 (1 / (pts.length : α)) (M3.transpose R)
        (rigidCoords 0 (1 / (pts.length : α)) R t pts) pts =
      rigidCoords 0 (1 / (pts.length : α)) R t pts := by
  rw [rigidCoords_spec R t pts hn]
  generalize V3.smul (1 / (pts.length : α)) (vsum 0 pts) = c
  have hf : (fun p => V3.add (V3.add (M3.mulV R (V3.sub p c)) c) t) =
      (fun q => V3.add (V3.mulM q (M3.transpose R))
        (V3.add (V3.sub c (V3.mulM c (M3.transpose R))) t)) := by
    funext p
    rw [mulV_eq_mulM_transpose, V3.eq_iff]
    simp only [V3.add, V3.sub, V3.mulM, M3.transpose]
    refine ⟨?_, ?_, ?_⟩ <;> ring
  rw [hf]
  exact align_recovers _ _ pts hn

/-- the reflection guard: the rotation built from any SVD factors has non-negative determinant -/
theorem kabschRotation_det_nonneg {α : Type} [CommRing α] [LinearOrder α] [IsStrictOrderedRing α]
    (U Vh : M3 α) : 0 ≤ M3.det (kabschRotation (fun d => decide (d < 0)) U Vh) := by
  unfold kabschRotation
  simp only [decide_eq_true_eq]
  split
  · rename_i h
    rw [det_mul] at h
    rw [det_mul, det_negRow3, mul_neg]
    exact neg_nonneg.mpr h.le
  · rename_i h
    exact not_lt.mp h

/-- non-vacuity: three non-collinear points, a quarter turn and a shift satisfy the hypotheses -/
example : ((([⟨0, 0, 0⟩, ⟨1, 2, 0⟩, ⟨-1, 0, 2⟩] : List (V3 ℚ)).length : ℚ) ≠ 0) := by norm_num

example := align_rmsd_zero (⟨0, 1, 0, -1, 0, 0, 0, 0, 1⟩ : M3 ℚ) ⟨1, 1, 3⟩
  [⟨0, 0, 0⟩, ⟨1, 2, 0⟩, ⟨-1, 0, 2⟩] (by norm_num)

example : M3.det (kabschRotation (fun d => decide (d < 0)) (⟨1, 0, 0, 0, 1, 0, 0, 0, 1⟩ : M3 Int)
    ⟨0, 1, 0, 1, 0, 0, 0, 0, 1⟩) = 1 := by decide

/-- n·RMSD² is symmetric in its two point sets -/
theorem sqDev_symm {α : Type} [CommRing α] : ∀ (a b : List (V3 α)), sqDev 0 a b = sqDev 0 b a
  | [], [] => rfl
  | [], _ :: _ => rfl
  | _ :: _, [] => rfl
  | p :: ps, q :: qs => by
    simp only [sqDev, V3.sub, sqDev_symm ps qs]; ring

/-- n·RMSD² is unchanged when both point sets are moved by a common translation -/
theorem sqDev_translate {α : Type} [CommRing α] (t : V3 α) : ∀ (a b : List (V3 α)),
    sqDev 0 (a.map (fun p => V3.add p t)) (b.map (fun p => V3.add p t)) = sqDev 0 a b
  | [], [] => rfl
  | [], _ :: _ => rfl
  | _ :: _, [] => rfl
  | p :: ps, q :: qs => by
    have ih := sqDev_translate t ps qs
    simp only [List.map_cons, sqDev]
    rw [ih]
    simp only [V3.sub, V3.add]; ring

/-- generic: if every object's step returns its fresh-object value in each state satisfying an
invariant that the step preserves, then along any schedule over any pool of objects every returned
value is the fresh-object value of (that object, that pose) -/
theorem poolRun_values {ι σ π β : Type} [DecidableEq ι] (step : ι → σ → π → β × σ)
    (fresh : ι → π → β) (inv : ι → σ → Prop)
    (hv : ∀ i s x, inv i s → (step i s x).1 = fresh i x)
    (hp : ∀ i s x, inv i s → inv i (step i s x).2)
    (sched : List (ι × π)) :
    ∀ st : ι → σ, (∀ i, inv i (st i)) →
      (poolRun step st sched).1 = sched.map (fun p => fresh p.1 p.2) := by
  induction sched with
  | nil => intro st _; rfl
  | cons p rest ih =>
    intro st h
    obtain ⟨i, x⟩ := p
    have h' : ∀ j, inv j (if j = i then (step i (st i) x).2 else st j) := by
      intro j
      by_cases hj : j = i
      · subst hj; simpa using hp j (st j) x (h j)
      · simpa [hj] using h j
    simp only [poolRun, List.map_cons]
    rw [ih _ h', hv i (st i) x (h i)]

/-- coordinate scores of any classes / sizes / masks alive together: every value along any
interleaving is the fresh-object value -/
theorem c2dPool_values {α β : Type} (S : Nat → C2DStatic α β) (hasMask : Nat → Bool) (n m : Nat → Nat)
    (hc : ∀ i, C2DContract (S i) (n i) (m i)) (sched : List (Nat × List α)) (st : Nat → C2DState α)
    (hw : ∀ i, C2DWf (S i) (hasMask i) (n i) (m i) (st i)) :
    (poolRun (fun i s x => c2dStep (S i) s x) st sched).1
      = sched.map (fun p => c2dPure (S p.1) (hasMask p.1) p.2) :=
  poolRun_values _ _ (fun i s => C2DWf (S i) (hasMask i) (n i) (m i) s)
    (fun i s x h => c2dStep_value _ _ _ _ (hc i) s h x)
    (fun i s x h => c2dStep_wf _ _ _ _ (hc i) s h x) sched st hw

/-- density scores with templates of any shapes alive together (each with its own cached grid) -/
theorem d2dPool_values {α β : Type} (S : Nat → D2DStatic α β) (L : Nat → Nat)
    (hc : ∀ i, D2DContract (S i) (L i)) (sched : List (Nat × List α)) (st : Nat → D2DState α)
    (hw : ∀ i, D2DWf (S i) (L i) (st i)) :
    (poolRun (fun i s x => d2dStep (S i) s x) st sched).1 = sched.map (fun p => d2dPure (S p.1) p.2) :=
  poolRun_values _ _ (fun i s => D2DWf (S i) (L i) s)
    (fun i s x h => d2dStep_value _ _ (hc i) s h x)
    (fun i s x h => d2dStep_wf _ _ (hc i) s h x) sched st hw

/-- non-vacuity: a normalised and a generic score evaluated in turn -/
example : (poolRun (fun (i : Nat) s x => c2dStep (exC2D (if i = 0 then .normalised else .generic)) s x)
    (fun _ => ⟨[0, 0], some [0], [0, 0], 0⟩) [(0, [1]), (1, [2]), (0, [3]), (1, [2])]).1 =
    [[1, 1, 1, 1, 1, 1], [2, 2, 2, 2, 2, 0], [3, 3, 3, 3, 3, 3], [2, 2, 2, 2, 2, 0]] := by decide

/-! # score formulas (Model/C17Scores.lean): "best at the generating pose", score by score

Every statement is about the executable functions the driver runs (`c17.score.*` ops, compared with the
real classes on integer-voxel inputs).  A template *generated* from the target at positions `P0` has the
weights `w = sampleAll 0 shape T P0`; any other pose that keeps the points on voxels evaluates the formula
on `v = sampleAll 0 shape T P` (zero outside the volume, as `map_coordinates(mode="constant")`). -/

/-- `negate_score=True` returns the similarity negated, so the optimiser (which minimises) looks for the
largest similarity; `negate_score=False` returns it as it is.  Multiplying by the sign reverses /
keeps the order: "the planted pose is best" is the same clause under both conventions -/
theorem scoreSign_mul_le {α : Type} [Field α] [LinearOrder α] [IsStrictOrderedRing α] (negate : Bool) (a b : α) :
    a * scoreSign 1 negate ≤ b * scoreSign 1 negate ↔ (if negate then b ≤ a else a ≤ b) := by
  cases negate
  · simp only [scoreSign, Bool.false_eq_true, if_false, mul_one]
  · simp only [scoreSign, if_true, mul_neg, mul_one, neg_le_neg_iff]

/-- the same for the scores that *divide* by the sign (`CrossCorrelation` and its subclasses) -/
theorem scoreSign_div_le {α : Type} [Field α] [LinearOrder α] [IsStrictOrderedRing α] (negate : Bool) (a b : α) :
    a / scoreSign 1 negate ≤ b / scoreSign 1 negate ↔ (if negate then b ≤ a else a ≤ b) := by
  cases negate
  · simp only [scoreSign, Bool.false_eq_true, if_false, div_one]
  · simp only [scoreSign, if_true, div_neg, div_one, neg_le_neg_iff]

/-- a similarity that is largest at the planted pose is *best* there under both conventions: smallest
returned value with `negate_score=True`, largest with `negate_score=False` -/
theorem similarity_best_both_conventions {α : Type} [Field α] [LinearOrder α] [IsStrictOrderedRing α]
    (planted other : α) (h : other ≤ planted) :
    planted * scoreSign 1 true ≤ other * scoreSign 1 true ∧
      other * scoreSign 1 false ≤ planted * scoreSign 1 false :=
  ⟨(scoreSign_mul_le true planted other).mpr h, (scoreSign_mul_le false other planted).mpr h⟩

/-- a distance that is smallest at the planted pose: smallest returned value with `negate_score=False`,
largest with `negate_score=True` -/
theorem distance_best_both_conventions {α : Type} [Field α] [LinearOrder α] [IsStrictOrderedRing α]
    (planted other : α) (h : planted ≤ other) :
    planted * scoreSign 1 false ≤ other * scoreSign 1 false ∧
      other * scoreSign 1 true ≤ planted * scoreSign 1 true :=
  ⟨(scoreSign_mul_le false planted other).mpr h, (scoreSign_mul_le true other planted).mpr h⟩

example : scoreSign (1 : Int) true = -1 ∧ scoreSign (1 : Int) false = 1 := by decide

example := similarity_best_both_conventions (14 : ℚ) 10 (by norm_num)

/-- outside the volume the interpolated value is 0, inside it is the voxel -/
theorem sample_spec {α : Type} (zero : α) (shape : List Nat) (T : List Int → α) (p : List Int) :
    sample zero shape T p = if inVol shape p then T p else zero := rfl

/-- the pose "translation by `t`" evaluates as many values as the template has points -/
theorem sampleAll_shift_length {α : Type} (zero : α) (shape : List Nat) (T : List Int → α) (t : List Int)
    (P : List (List Int)) : (sampleAll zero shape T (shiftPts t P)).length = P.length := by
  simp [sampleAll, shiftPts]

example : sampleAll (0 : Int) [4] (fun p => [1, 3, 0, 2].getD (p.headD 0).toNat 0) (shiftPts [2] [[-1], [0], [1], [2]])
    = [3, 0, 2, 0] := by decide

/-- the zero translation leaves the template's voxels where they are, so "values at the generating pose"
is `sampleAll … P0` in all the statements above -/
theorem shiftPts_zero (d : Nat) (P : List (List Int)) (h : ∀ p ∈ P, p.length = d) :
    shiftPts (List.replicate d 0) P = P := by
  unfold shiftPts
  conv_rhs => rw [← List.map_id P]
  apply List.map_congr_left
  intro p hp
  have hl := h p hp
  clear hp h
  induction p generalizing d with
  | nil => simp
  | cons a p ih =>
    cases d with
    | zero => simp at hl
    | succ d =>
      simp only [List.replicate_succ, List.zipWith_cons_cons, add_zero, id]
      rw [ih d (by simpa using hl)]
      rfl

example : shiftPts (List.replicate 2 0) [[1, 2], [3, 4]] = [[1, 2], [3, 4]] := by decide

/-- value at the generating pose: `Σ w² / sign` -/
theorem cc_planted_value {α : Type} [Field α] (sign : α) (shape : List Nat) (T : List Int → α)
    (P0 : List (List Int)) :
    ccScore 0 1 sign (sampleAll 0 shape T P0) (sampleAll 0 shape T P0) =
      dot 0 (sampleAll 0 shape T P0) (sampleAll 0 shape T P0) / sign := by
  simp [ccScore]

/-- **what holds for the unnormalised cross-correlation**: the generating pose is at least as good as
every pose (positions anywhere, inside or outside the volume) whose sampled values have no larger
Euclidean norm than the template's weights (Cauchy–Schwarz) … -/
theorem cc_planted_best_of_norm_le {α : Type} [Field α] [LinearOrder α] [IsStrictOrderedRing α]
    (shape : List Nat) (T : List Int → α) (P0 P : List (List Int)) (h : P.length = P0.length)
    (hn : dot 0 (sampleAll 0 shape T P) (sampleAll 0 shape T P) ≤
      dot 0 (sampleAll 0 shape T P0) (sampleAll 0 shape T P0)) :
    ccScore 0 1 1 (sampleAll 0 shape T P) (sampleAll 0 shape T P0) ≤
      ccScore 0 1 1 (sampleAll 0 shape T P0) (sampleAll 0 shape T P0) := by
  simp only [ccScore, mul_one, div_one]
  exact (dot_abs_le_of_norm_le _ _ (by rw [sampleAll_length, sampleAll_length, h]) hn).2

/-- … and in absolute value too: `|⟨v,w⟩| ≤ ⟨w,w⟩` -/
theorem cc_abs_le_of_norm_le {α : Type} [Field α] [LinearOrder α] [IsStrictOrderedRing α]
    (v w : List α) (h : v.length = w.length) (hn : dot 0 v v ≤ dot 0 w w) :
    -(dot 0 w w) ≤ dot 0 v w ∧ dot 0 v w ≤ dot 0 w w :=
  dot_abs_le_of_norm_le v w h hn

/-- if a pose reaches the planted cross-correlation value with sampled values of no larger norm, its
values *are* the weights -/
theorem cc_unique_of_norm_le {α : Type} [Field α] [LinearOrder α] [IsStrictOrderedRing α] (v w : List α)
    (h : v.length = w.length) (hn : dot 0 v v ≤ dot 0 w w) (he : dot 0 v w = dot 0 w w) : v = w := by
  have hx := plsq_scaled_expand v w 1 h
  rw [List.map_congr_left (fun a _ => mul_one a), List.map_id', he] at hx
  have e : plsq 0 v w = dot 0 v v - dot 0 w w := by rw [hx]; ring
  exact plsq_eq_zero v w h (le_antisymm (e ▸ sub_nonpos.mpr hn) (zero_le_plsq v w))

example := cc_unique_of_norm_le ([1, 2] : List ℚ) [1, 2] rfl (le_refl _) rfl

/-- without the norm condition the clause is false for this score (which is why the harness only scales
the intensities for it): a one-point template cut from the voxel of value 1 scores 3 one voxel further -/
theorem cc_planted_not_best_without_norm_bound :
    let T : List Int → Int := fun p => [1, 3].getD (p.headD 0).toNat 0
    let w := sampleAll 0 [2] T [[0]]
    ccScore 0 1 1 (sampleAll 0 [2] T [[0]]) w = 1 ∧
      ccScore 0 1 1 (sampleAll 0 [2] T (shiftPts [1] [[0]])) w = 3 := by decide

example : dot (0 : ℚ) [1, 2] [1, 2] ≤ dot 0 [2, 2] [2, 2] := by norm_num [dot]

/-- the score is `CrossCorrelation` on Laplace-filtered quantities (`cc_planted_best_of_norm_le`,
`cc_abs_le_of_norm_le` apply to the filtered vectors), but the two sides are filtered *differently*: the
target over the whole map, the weights over the template's bounding box with reflecting borders — at the
generating pose the two vectors are not equal (target `[0,1,4,1,0]`, template at cells 1..3) -/
theorem laplace_planted_vectors_differ :
    let T : List Int → Int := fun p => ([0, 1, 4, 1, 0] : List Int).getD (p.headD 0).toNat 0
    let P0 : List (List Int) := [[1], [2], [3]]
    let w := sampleAll 0 [5] T P0
    w = [1, 4, 1] ∧ sampleAll 0 [5] (laplaceTarget 0 [5] T) P0 = [2, -6, 2] ∧
      laplaceWeights 0 1 P0 w = [3, -6, 3] ∧
      ccScore 0 1 1 (sampleAll 0 [5] (laplaceTarget 0 [5] T) P0) (laplaceWeights 0 1 P0 w) = 48 := by decide

/-- the Laplace filter (reflecting borders) removes constant offsets of the map -/
theorem laplace_offset_invariant {α : Type} [Field α] (shape : List Nat) (T : List Int → α) (c : α) (p : List Int) :
    laplaceAt 0 shape (fun q => T q + c) p = laplaceAt 0 shape T p := by
  unfold laplaceAt
  apply congrArg
  apply List.map_congr_left
  intro k _
  dsimp only
  ring

example : laplaceAt (0 : Int) [3] (fun p => ([1, 4, 2] : List Int).getD (p.headD 0).toNat 0) [1] = -5 ∧
    laplaceAt (0 : Int) [3] (fun p => ([1, 4, 2] : List Int).getD (p.headD 0).toNat 0 + 7) [1] = -5 := by decide

/-- LaplaceCrossCorrelation is `CrossCorrelation` on the filtered pair: what holds is the norm-bounded
statement for the filtered vectors (any positions, any template) -/
theorem laplace_cc_best_of_norm_le {α : Type} [Field α] [LinearOrder α] [IsStrictOrderedRing α]
    (shape : List Nat) (T : List Int → α) (d : Nat) (P0 P : List (List Int)) (w : List α)
    (h : P.length = P0.length)
    (hn : dot 0 (sampleAll 0 shape (laplaceTarget 0 shape T) P) (sampleAll 0 shape (laplaceTarget 0 shape T) P) ≤
      dot 0 (laplaceWeights 0 d P0 w) (laplaceWeights 0 d P0 w)) :
    ccScore 0 1 1 (sampleAll 0 shape (laplaceTarget 0 shape T) P) (laplaceWeights 0 d P0 w) ≤
      dot 0 (laplaceWeights 0 d P0 w) (laplaceWeights 0 d P0 w) := by
  simp only [ccScore, mul_one, div_one]
  exact (dot_abs_le_of_norm_le _ _ (by rw [sampleAll_length, laplaceWeights_length, h]) hn).2

example :
    let T : List Int → Rat := fun p => ([0, 1, 4, 1, 0] : List Rat).getD (p.headD 0).toNat 0
    let P0 : List (List Int) := [[1], [2], [3]]
    dot 0 (sampleAll 0 [5] (laplaceTarget 0 [5] T) P0) (sampleAll 0 [5] (laplaceTarget 0 [5] T) P0) ≤
      dot 0 (laplaceWeights 0 1 P0 [1, 4, 1]) (laplaceWeights 0 1 P0 [1, 4, 1]) := by decide +kernel

/-- Cauchy–Schwarz for the normalised cross-correlation: `⟨v,w⟩² ≤ ⟨v,v⟩⟨w,w⟩`, i.e. the
normalised score of any pose is at most 1 in absolute value … -/
theorem ncc_sq_le {α : Type} [Field α] [LinearOrder α] [IsStrictOrderedRing α] (v w : List α)
    (h : v.length = w.length) : dot 0 v w ^ 2 ≤ dot 0 v v * dot 0 w w :=
  dot_sq_le v w h

/-- … and the generating pose (interpolated values = weights) attains the bound -/
theorem ncc_planted_attains {α : Type} [CommRing α] (w : List α) :
    dot 0 w w ^ 2 = dot 0 w w * dot 0 w w := sq _

example := ncc_sq_le ([1, 2, 3] : List ℚ) [3, 2, 1] rfl

example : dot (0 : Int) [1, 2, 3] [3, 2, 1] = 10 ∧ dot (0 : Int) [1, 2, 3] [1, 2, 3] = 14 := by decide

/-- Cauchy–Schwarz on what the code evaluates: for *any* positions — in the volume, partly outside
(zeros) or wholly outside — numerator² ≤ denominator² … -/
theorem ncc_sampled_sq_le {α : Type} [Field α] [LinearOrder α] [IsStrictOrderedRing α]
    (shape : List Nat) (T : List Int → α) (P : List (List Int)) (w : List α) (h : P.length = w.length) :
    (nccParts 0 (sampleAll 0 shape T P) w).1 ^ 2 ≤ (nccParts 0 (sampleAll 0 shape T P) w).2 :=
  nccParts_sq_le _ w ((sampleAll_length 0 shape T P).trans h)

/-- … so the value `numerator / √denominator²` of every pose lies in [−1, 1] (`s` is the square root:
any positive `s` with `s² = denominator²`, in any ordered field that has it) … -/
theorem ncc_value_le_one {α : Type} [Field α] [LinearOrder α] [IsStrictOrderedRing α]
    (v w : List α) (h : v.length = w.length) (s : α) (hs : 0 < s) (hsq : s ^ 2 = (nccParts 0 v w).2) :
    -1 ≤ (nccParts 0 v w).1 / s ∧ (nccParts 0 v w).1 / s ≤ 1 :=
  abs_div_root_le_one _ _ s hs hsq (nccParts_sq_le v w h)

/-- … the generating pose (values = weights, not all zero) has the value exactly 1 … -/
theorem ncc_planted_value_one {α : Type} [Field α] [LinearOrder α] [IsStrictOrderedRing α]
    (w : List α) (hw : 0 < dot 0 w w) (s : α) (hs : 0 < s) (hsq : s ^ 2 = (nccParts 0 w w).2) :
    (nccParts 0 w w).1 / s = 1 :=
  div_root_self _ s hw hs hsq

/-- … hence **the generating pose is best** for the normalised cross-correlation, against every other
pose that passes the `denominator <= 0` guard … -/
theorem ncc_planted_best {α : Type} [Field α] [LinearOrder α] [IsStrictOrderedRing α]
    (v w : List α) (h : v.length = w.length) (hw : 0 < dot 0 w w)
    (s sp : α) (hs : 0 < s) (hsq : s ^ 2 = (nccParts 0 v w).2)
    (hsp : 0 < sp) (hspq : sp ^ 2 = (nccParts 0 w w).2) :
    (nccParts 0 v w).1 / s ≤ (nccParts 0 w w).1 / sp := by
  rw [ncc_planted_value_one w hw sp hsp hspq]
  exact (ncc_value_le_one v w h s hs hsq).2

/-- … and against the poses that do not: the guard fires exactly when the weights or the sampled values
vanish (template wholly outside the volume), the value returned is then 0 ≤ 1 -/
theorem ncc_guard_iff {α : Type} [Field α] [LinearOrder α] [IsStrictOrderedRing α] (v w : List α) :
    nccGuard 0 v w = true ↔ dot 0 w w = 0 ∨ dot 0 v v = 0 := by
  unfold nccGuard nccParts
  rw [decide_eq_true_iff]
  have h1 := dot_self_nonneg v
  have h2 := dot_self_nonneg w
  constructor
  · intro h
    have : dot 0 w w * dot 0 v v = 0 := le_antisymm h (mul_nonneg h2 h1)
    exact mul_eq_zero.mp this
  · rintro (h | h)
    · rw [h, zero_mul]
    · rw [h, mul_zero]

example : nccParts (0 : Int) [1, 2, 3] [3, 2, 1] = (10, 196) := by decide

example : nccGuard (0 : Int) [0, 0] [3, 1] = true ∧ nccGuard (0 : Int) [0, 1] [3, 1] = false := by decide

example := ncc_planted_best ([3, 4] : List ℚ) [4, 3] rfl (by norm_num [dot]) 25 25 (by norm_num)
  (by norm_num [nccParts, dot]) (by norm_num) (by norm_num [nccParts, dot])

/-- **the clause itself for translation poses, NormalizedCrossCorrelation**: a template generated at the
voxels `P0` (weights = target there, not all zero); for every voxel translation `t` — keeping the template
inside the volume, pushing it partly or wholly outside — the value at `t` is at most the value at the
generating pose `t = 0` (`s`, `s0` the square roots of the two denominators²) -/
theorem ncc_planted_best_translation {α : Type} [Field α] [LinearOrder α] [IsStrictOrderedRing α]
    (shape : List Nat) (T : List Int → α) (d : Nat) (P0 : List (List Int)) (hd : ∀ p ∈ P0, p.length = d)
    (t : List Int)
    (hw : 0 < dot 0 (sampleAll 0 shape T P0) (sampleAll 0 shape T P0))
    (s s0 : α) (hs : 0 < s)
    (hsq : s ^ 2 = (nccParts 0 (sampleAll 0 shape T (shiftPts t P0)) (sampleAll 0 shape T P0)).2)
    (hs0 : 0 < s0)
    (hs0q : s0 ^ 2 = (nccParts 0 (sampleAll 0 shape T (shiftPts (List.replicate d 0) P0)) (sampleAll 0 shape T P0)).2) :
    (nccParts 0 (sampleAll 0 shape T (shiftPts t P0)) (sampleAll 0 shape T P0)).1 / s ≤
      (nccParts 0 (sampleAll 0 shape T (shiftPts (List.replicate d 0) P0)) (sampleAll 0 shape T P0)).1 / s0 := by
  rw [shiftPts_zero d P0 hd] at hs0q ⊢
  exact ncc_planted_best _ _ (by rw [sampleAll_shift_length, sampleAll_length]) hw s s0 hs hsq hs0 hs0q

/-- **equality case** (uniqueness of the optimum up to scale): a pose whose normalised value reaches 1
samples values proportional to the weights, `w = x·v` with `x = ⟨v,w⟩/⟨v,v⟩ > 0` -/
theorem ncc_value_one_proportional {α : Type} [Field α] [LinearOrder α] [IsStrictOrderedRing α]
    (v w : List α) (h : v.length = w.length) (s : α) (hs : 0 < s) (hsq : s ^ 2 = (nccParts 0 v w).2)
    (hone : (nccParts 0 v w).1 / s = 1) :
    0 < dot 0 v w / dot 0 v v ∧ v.map (· * (dot 0 v w / dot 0 v v)) = w := by
  simp only [nccParts] at hsq hone
  have hnum : dot 0 v w = s := (div_eq_one_iff_eq hs.ne').mp hone
  have hprod : dot 0 v w ^ 2 = dot 0 v v * dot 0 w w := by rw [hnum, hsq, mul_comm]
  have hvv : 0 < dot 0 v v := by
    refine (dot_self_nonneg v).lt_of_ne' (fun h0 => ?_)
    rw [h0, zero_mul] at hprod
    exact hs.ne' (hnum ▸ (pow_eq_zero_iff two_ne_zero).mp hprod)
  exact ⟨div_pos (hnum ▸ hs) hvv, eq_scaled_of_dot_sq_eq v w h hvv.ne' hprod⟩

example : ([1, 2] : List ℚ).map (· * (dot 0 [1, 2] [2, 4] / dot 0 [1, 2] [1, 2])) = [2, 4] := by norm_num [dot]

/-- recorded finding `planted-best:NormalizedCrossCorrelationMean`, on the model: target `[0,0,1,2]`,
template cut at cells 0..2 (weights `[0,0,1]`).  The constructor subtracts the mean of the *whole map*
(3/4) from the target and the mean of the *weights* (1/3) from the template: at the generating pose the
two vectors are not proportional (value² = 96/171 < 1), one voxel further the value is larger
(value² = 24/35); both numerators are positive -/
theorem nccMean_planted_not_best :
    let T : List Int → Rat := fun p => ([0, 0, 1, 2] : List Rat).getD (p.headD 0).toNat 0
    let cells : List (List Int) := [[0], [1], [2], [3]]
    let P0 : List (List Int) := [[0], [1], [2]]
    let w := centreWeights 0 (1 / 3) (sampleAll 0 [4] T P0)
    let T' := centreTarget 0 (1 / 4) cells T
    let planted := nccParts 0 (sampleAll 0 [4] T' P0) w
    let moved := nccParts 0 (sampleAll 0 [4] T' (shiftPts [1] P0)) w
    planted = (2 / 3, 19 / 24) ∧ moved = (1, 35 / 24) ∧
      planted.1 ^ 2 < planted.2 ∧ 0 < planted.1 ∧ 0 < moved.1 ∧
      planted.1 ^ 2 * moved.2 < moved.1 ^ 2 * planted.2 := by decide +kernel

/-- the corrected definition (the *same* offset on both sides: here none, i.e. plain NCC on the centred
weights against values centred by the same mean) is covered by `ncc_planted_best`; with the code's two
means the planted vectors differ by the constant `mean(target) − mean(weights)` -/
theorem nccMean_planted_offset {α : Type} [Field α] (muT muW : α) (w : List α) :
    List.zipWith (· - ·) (w.map (· - muT)) (w.map (· - muW)) = w.map (fun _ => muW - muT) := by
  induction w with
  | nil => rfl
  | cons a w ih => simp only [List.map_cons, List.zipWith_cons_cons, ih]; congr 1; ring

example : centreWeights (0 : Rat) (1 / 3) [0, 0, 1] = [-1 / 3, -1 / 3, 2 / 3] := by decide +kernel

/-- the corrected mean-centred score (each side centred by its *own* mean over the template's points:
the Pearson correlation) has numerator² ≤ denominator² for every pose and equality at the generating pose -/
theorem nccMean_corrected_best {α : Type} [Field α] [LinearOrder α] [IsStrictOrderedRing α] (v w : List α)
    (h : v.length = w.length) :
    (nccParts 0 (centreWeights 0 (1 / (v.length : α)) v) (centreWeights 0 (1 / (w.length : α)) w)).1 ^ 2 ≤
      (nccParts 0 (centreWeights 0 (1 / (v.length : α)) v) (centreWeights 0 (1 / (w.length : α)) w)).2 ∧
    (nccParts 0 (centreWeights 0 (1 / (w.length : α)) w) (centreWeights 0 (1 / (w.length : α)) w)).1 ^ 2 =
      (nccParts 0 (centreWeights 0 (1 / (w.length : α)) w) (centreWeights 0 (1 / (w.length : α)) w)).2 :=
  ⟨nccParts_sq_le _ _ (by rw [centreWeights_length, centreWeights_length, h]), sq _⟩

example := nccMean_corrected_best ([1, 2, 6] : List ℚ) [3, 1, 2] rfl

/-- the least-squares distance is never negative … -/
theorem plsq_nonneg {α : Type} [CommRing α] [LinearOrder α] [IsStrictOrderedRing α] (v w : List α) :
    0 ≤ plsq 0 v w :=
  zero_le_plsq v w

/-- … and 0 at the generating pose -/
theorem plsq_planted_zero {α : Type} [CommRing α] (w : List α) : plsq 0 w w = 0 :=
  plsq_self w

example : plsq (0 : Int) [1, 2, 3] [3, 2, 1] = 8 := by decide

/-- the distance vanishes *exactly* at a copy -/
theorem plsq_eq_zero_iff {α : Type} [Field α] [LinearOrder α] [IsStrictOrderedRing α] (v w : List α)
    (h : v.length = w.length) : plsq 0 v w = 0 ↔ v = w :=
  ⟨plsq_eq_zero v w h, fun e => e ▸ plsq_self w⟩

/-- **best at the generating pose** (a distance: smallest), against every position set -/
theorem plsq_planted_best {α : Type} [Field α] [LinearOrder α] [IsStrictOrderedRing α]
    (shape : List Nat) (T : List Int → α) (P0 P : List (List Int)) :
    plsq 0 (sampleAll 0 shape T P0) (sampleAll 0 shape T P0) ≤
      plsq 0 (sampleAll 0 shape T P) (sampleAll 0 shape T P0) := by
  rw [plsq_self]; exact zero_le_plsq _ _

example : plsq (0 : Int) [1, 2] [1, 2] = 0 ∧ plsq (0 : Int) [1, 3] [1, 2] = 1 := by decide

/-- the same for the least-squares distance (smaller is better) -/
theorem plsq_planted_best_translation {α : Type} [Field α] [LinearOrder α] [IsStrictOrderedRing α]
    (shape : List Nat) (T : List Int → α) (d : Nat) (P0 : List (List Int)) (hd : ∀ p ∈ P0, p.length = d)
    (t : List Int) :
    plsq 0 (sampleAll 0 shape T (shiftPts (List.replicate d 0) P0)) (sampleAll 0 shape T P0) ≤
      plsq 0 (sampleAll 0 shape T (shiftPts t P0)) (sampleAll 0 shape T P0) := by
  rw [shiftPts_zero d P0 hd]
  exact plsq_planted_best shape T P0 _

example : (∀ p ∈ ([[1, 2], [3, 4]] : List (List Int)), p.length = 2) := by decide

/-- the `-1` coding cancels: for interpolated values in {−1, 0, 1} the raw score is
`#(points on empty voxels) − 2·#(points outside the volume) − present`; the number of points *inside*
the envelope does not enter at all -/
theorem envRaw_eq (present : Int) (v : List Int) (hv : ∀ x ∈ v, x = -1 ∨ x = 0 ∨ x = 1) :
    envRaw present v = cnt 1 v - 2 * cnt 0 v - present := by
  have := sumI_add_cnt v hv
  unfold envRaw; omega

/-- the normalisation is a positive affine map (denominator `3·present + 2·absent`) -/
theorem envelopeParts_eq (present absent : Int) (v : List Int) (hv : ∀ x ∈ v, x = -1 ∨ x = 0 ∨ x = 1) :
    envelopeParts present absent v =
      (cnt 1 v - 2 * cnt 0 v + present + 4 * absent, 3 * present + 2 * absent) := by
  simp only [envelopeParts, envRaw_eq present v hv, Prod.mk.injEq]
  constructor <;> omega

/-- **every outward move improves** (`negate_score=True`: larger is better): moving one point from
inside the envelope (−1) onto an empty voxel (+1) raises the numerator by exactly 1 -/
theorem envelope_outward_move_improves (present absent : Int) (l r : List Int)
    (hl : ∀ x ∈ l, x = -1 ∨ x = 0 ∨ x = 1) (hr : ∀ x ∈ r, x = -1 ∨ x = 0 ∨ x = 1) :
    (envelopeParts present absent (l ++ 1 :: r)).1 = (envelopeParts present absent (l ++ -1 :: r)).1 + 1 ∧
      (envelopeParts present absent (l ++ 1 :: r)).2 = (envelopeParts present absent (l ++ -1 :: r)).2 := by
  simp only [envelopeParts, envRaw_append_cons, if_true]
  constructor
  · omega
  · trivial

/-- the generating pose (all points inside the envelope) is the **worst** pose that keeps the template
in the volume under `negate_score=True` … -/
theorem envelope_planted_worst_in_volume (present absent : Int) (n : Nat) (u : List Int)
    (hu : ∀ x ∈ u, x = -1 ∨ x = 1) (_hlen : u.length = n) :
    (envelopeParts present absent (List.replicate n (-1))).1 ≤ (envelopeParts present absent u).1 := by
  rw [envelopeParts_eq _ _ _ fun x hx => Or.inl (List.eq_of_mem_replicate hx),
    envelopeParts_eq _ _ _ fun x hx => (hu x hx).imp_right Or.inr,
    cnt_eq_zero 0 u fun h => by have := hu 0 h; omega,
    cnt_eq_zero 1 _ fun h => absurd (List.eq_of_mem_replicate h) (by decide),
    cnt_eq_zero 0 (List.replicate n (-1)) fun h => absurd (List.eq_of_mem_replicate h) (by decide)]
  have := cnt_nonneg 1 u
  simp only
  omega

/-- … and with `negate_score=False` (smaller is better) every point pushed *out of the volume* (value 0)
lowers the numerator by 2: the planted pose is not best under that convention either -/
theorem envelope_out_of_volume_lowers (present absent : Int) (l r : List Int)
    (hl : ∀ x ∈ l, x = -1 ∨ x = 0 ∨ x = 1) (hr : ∀ x ∈ r, x = -1 ∨ x = 0 ∨ x = 1) :
    (envelopeParts present absent (l ++ 0 :: r)).1 = (envelopeParts present absent (l ++ -1 :: r)).1 - 2 := by
  simp only [envelopeParts, envRaw_append_cons, if_true]
  omega

/-- recorded finding `planted-best:Envelope:identity` on the model: target `[0,0,5,5,0,0]`, threshold 2
(codes `[1,1,−1,−1,1,1]`, present 2, absent 4), template = the two envelope voxels.  Planted value 18/14,
shifted by one voxel 19/14, by two voxels 20/14 (better and better under `negate_score=True`), shifted
out of the volume 14/14 (better under `negate_score=False`) -/
theorem envelope_current_defect :
    let code : List Int → Int := fun p => envCode (2 : Int) (([0, 0, 5, 5, 0, 0] : List Int).getD (p.headD 0).toNat 0)
    let P0 : List (List Int) := [[2], [3]]
    let at_ := fun (t : Int) => envelopeParts 2 4 (sampleAll 0 [6] code (shiftPts [t] P0))
    at_ 0 = (18, 14) ∧ at_ 1 = (19, 14) ∧ at_ 2 = (20, 14) ∧ at_ 5 = (14, 14) := by decide

example : envRaw 2 [-1, -1] = -2 ∧ envRaw 2 [1, 1] = 0 ∧ envRaw 2 [0, 0] = -6 := by decide

/-- whatever the positions, the interpolated values of the coded target are −1, 0 or 1 -/
theorem envelope_values_coded {α : Type} [LT α] [DecidableLT α] (thr : α) (shape : List Nat) (T : List Int → α)
    (P : List (List Int)) :
    ∀ x ∈ sampleAll 0 shape (fun p => envCode thr (T p)) P, x = -1 ∨ x = 0 ∨ x = 1 := by
  intro x hx
  obtain ⟨p, _, rfl⟩ := List.mem_map.mp hx
  unfold sample envCode
  split
  · dsimp only
    split
    · exact Or.inl rfl
    · exact Or.inr (Or.inr rfl)
  · exact Or.inr (Or.inl rfl)

/-- hence for **every** pose on voxels the Envelope value is
`(#points on empty voxels − 2·#points outside + present + 4·absent) / (3·present + 2·absent)` -/
theorem envelope_sampled_eq {α : Type} [LT α] [DecidableLT α] (thr : α) (shape : List Nat) (T : List Int → α)
    (present absent : Int) (P : List (List Int)) :
    envelopeParts present absent (sampleAll 0 shape (fun p => envCode thr (T p)) P) =
      (cnt 1 (sampleAll 0 shape (fun p => envCode thr (T p)) P)
        - 2 * cnt 0 (sampleAll 0 shape (fun p => envCode thr (T p)) P) + present + 4 * absent,
       3 * present + 2 * absent) :=
  envelopeParts_eq present absent _ (envelope_values_coded thr shape T P)

example : sampleAll 0 [3] (fun p => envCode (2 : Int) (([0, 5, 0] : List Int).getD (p.headD 0).toNat 0)) [[1], [2], [3]]
    = [-1, 1, 0] := by decide

/-- nearest-neighbour distances are never negative … -/
theorem chamfer_nonneg {α : Type} [Field α] [LinearOrder α] [IsStrictOrderedRing α]
    (P : List (List α)) (q0 : List α) (qs : List (List α)) : ∀ d ∈ chamferSqs 0 P q0 qs, 0 ≤ d :=
  List.forall_mem_map.mpr fun p _ => nnSq_nonneg p q0 qs

/-- … the nearest-neighbour distance of a point is 0 exactly when it coincides with a target point … -/
theorem nnSq_eq_zero_iff {α : Type} [Field α] [LinearOrder α] [IsStrictOrderedRing α]
    (p q0 : List α) (qs : List (List α)) (hd : ∀ q ∈ q0 :: qs, p.length = q.length) :
    nnSq 0 p q0 qs = 0 ↔ p ∈ q0 :: qs := by
  constructor
  · intro h
    obtain ⟨q, hq, he⟩ := nnSq_attained p q0 qs
    have : p = q := plsq_eq_zero p q (hd q hq) (he ▸ h)
    exact this ▸ hq
  · exact nnSq_eq_zero_of_mem p q0 qs

/-- … so **the score is 0 iff every template point coincides with a target point** (in particular at the
generating pose of a rigidly moved point set, where it is the minimum by `chamfer_nonneg`) … -/
theorem chamfer_zero_iff {α : Type} [Field α] [LinearOrder α] [IsStrictOrderedRing α]
    (P : List (List α)) (q0 : List α) (qs : List (List α))
    (hd : ∀ p ∈ P, ∀ q ∈ q0 :: qs, p.length = q.length) :
    (∀ d ∈ chamferSqs 0 P q0 qs, d = 0) ↔ ∀ p ∈ P, p ∈ q0 :: qs :=
  List.forall_mem_map.trans (forall₂_congr fun p hp => nnSq_eq_zero_iff p q0 qs (hd p hp))

/-- … and it is monotone in the target: with more target points (any superset, in any order) no
nearest-neighbour distance grows -/
theorem nnSq_mono_target {α : Type} [Field α] [LinearOrder α] [IsStrictOrderedRing α]
    (p q0 r0 : List α) (qs rs : List (List α)) (hsub : ∀ q ∈ q0 :: qs, q ∈ r0 :: rs) :
    nnSq 0 p r0 rs ≤ nnSq 0 p q0 qs := by
  obtain ⟨q, hq, he⟩ := nnSq_attained p q0 qs
  rw [he]
  exact nnSq_le_of_mem p r0 rs q (hsub q hq)

example : chamferSqs (0 : Int) [[0, 0], [3, 4]] [0, 0] [[3, 3], [5, 5]] = [0, 1] := by decide

example : chamferSqs (0 : Int) [[0, 0], [3, 4]] [0, 0] [[3, 4], [3, 3], [5, 5]] = [0, 0] := by decide

/-- at the generating pose of a point set (template points = target points, in any order, also as a
subset of a larger target) every nearest-neighbour distance is 0: the minimum by `chamfer_nonneg` -/
theorem chamfer_planted_zero {α : Type} [Field α] [LinearOrder α] [IsStrictOrderedRing α]
    (P : List (List α)) (q0 : List α) (qs : List (List α)) (hsub : ∀ p ∈ P, p ∈ q0 :: qs) :
    ∀ d ∈ chamferSqs 0 P q0 qs, d = 0 :=
  List.forall_mem_map.mpr fun p hp => nnSq_eq_zero_of_mem p q0 qs (hsub p hp)

example : chamferSqs (0 : Int) [[3, 4], [0, 0]] [0, 0] [[3, 4], [7, 7]] = [0, 0] := by decide

/-- `mean(A∘B)/(‖A‖‖B‖)` is a normalised cross-correlation of the flattened coordinate arrays divided by
the number of entries: numerator² ≤ denominator² for every pose … -/
theorem nvs_sq_le {α : Type} [Field α] [LinearOrder α] [IsStrictOrderedRing α] (A B : List (List α))
    (h : A.flatten.length = B.flatten.length) : (nvsParts 0 A B).1 ^ 2 ≤ (nvsParts 0 A B).2.1 := by
  simp only [nvsParts]
  exact dot_sq_le _ _ h

/-- … with equality, and a non-negative numerator, at the generating pose (template = target):
the value there is `1/(d·n)`, the maximum -/
theorem nvs_planted {α : Type} [Field α] [LinearOrder α] [IsStrictOrderedRing α] (A : List (List α)) :
    (nvsParts 0 A A).1 ^ 2 = (nvsParts 0 A A).2.1 ∧ 0 ≤ (nvsParts 0 A A).1 := by
  exact ⟨sq _, dot_self_nonneg _⟩

theorem nvs_planted_best {α : Type} [Field α] [LinearOrder α] [IsStrictOrderedRing α] (A B : List (List α))
    (h : A.flatten.length = B.flatten.length) (hB : 0 < dot 0 B.flatten B.flatten)
    (s sp : α) (hs : 0 < s) (hsq : s ^ 2 = (nvsParts 0 A B).2.1)
    (hsp : 0 < sp) (hspq : sp ^ 2 = (nvsParts 0 B B).2.1) :
    (nvsParts 0 A B).1 / s ≤ (nvsParts 0 B B).1 / sp := by
  have h1 : (nvsParts 0 B B).1 / sp = 1 := div_root_self _ sp hB hsp (by simpa [nvsParts] using hspq)
  rw [h1]
  exact (abs_div_root_le_one _ _ s hs hsq (nvs_sq_le A B h)).2

example : nvsParts (0 : Int) [[1, 0], [0, 1], [2, 2]] [[0, 1], [1, 0], [2, 2]] = (8, 100, 6) := by decide

/-- **with exact integer coordinates and one common mask** (template cells = mask cells, all in the
volume and in the target mask, so that the overlap count is the number of points): the formula is the
Pearson correlation of the sampled values with the weights — numerator² ≤ denominator1·denominator2 … -/
theorem mccCore_sq_le {α : Type} [Field α] [LinearOrder α] [IsStrictOrderedRing α] (v w : List α)
    (h : v.length = w.length) (hn : (v.length : α) ≠ 0) :
    (mccCore 0 (v.length : α) v w v w).1 ^ 2 ≤
      (mccCore 0 (v.length : α) v w v w).2.1 * (mccCore 0 (v.length : α) v w v w).2.2 :=
  mccCore_sq_le_of_length _ v w rfl h.symm hn

/-- … with equality and a non-negative numerator at the generating pose (values = weights): value 1 -/
theorem mccCore_planted {α : Type} [Field α] [LinearOrder α] [IsStrictOrderedRing α] (w : List α)
    (hn : (w.length : α) ≠ 0) :
    (mccCore 0 (w.length : α) w w w w).1 ^ 2 =
      (mccCore 0 (w.length : α) w w w w).2.1 * (mccCore 0 (w.length : α) w w w w).2.2 ∧
      0 ≤ (mccCore 0 (w.length : α) w w w w).1 :=
  mccCore_planted_of_length _ w rfl hn

/-- recorded finding `planted-best:MaskedCrossCorrelation:identity/moved` (the `astype(int)` truncation):
target `[0,1,3,2,0,0]`, template cut at cells 1..3.  With exact integer coordinates the planted parts are
(2, 2, 2) — value 1; with each coordinate 5·10⁻⁷ below the integer (what float32 rigid_transform returns)
every point is looked up one voxel to the left: (1, 14/3, 2) — value² = 3/28 -/
theorem mcc_truncation_defect :
    let T : List Int → Rat := fun p => ([0, 1, 3, 2, 0, 0] : List Rat).getD (p.headD 0).toNat 0
    let M : List Int → Rat := fun _ => 1
    let P0 : List (List Int) := [[1], [2], [3]]
    let w := sampleAll 0 [6] T P0
    let exact := P0.map asRatio
    let rounded : List (List (Int × Nat)) := P0.map (fun p => p.map (fun a => (a * 10000000 - 5, 10000000)))
    mccParts 0 (1 / 4503599627370496) [6] T M exact exact w = (2, 2, 2) ∧
      mccParts 0 (1 / 4503599627370496) [6] T M rounded rounded w = (1, 14 / 3, 2) := by decide +kernel

/-- recorded finding `planted-best:MaskedCrossCorrelation:moved+0.001` (overlap counted from the target
mask alone, the sums over all in-volume cells): target `[2,3,0,1]`, target mask `[0,1,1,1]`, template cut at
cells 1..3 (planted parts (14/3, 14/3, 14/3): value 1).  One voxel to the left a template point sits on a
voxel outside the target mask: parts (7/2, 1/2, 1/2) — value 7, outside [−1, 1] and better than planted -/
theorem mcc_overlap_defect :
    let T : List Int → Rat := fun p => ([2, 3, 0, 1] : List Rat).getD (p.headD 0).toNat 0
    let M : List Int → Rat := fun p => ([0, 1, 1, 1] : List Rat).getD (p.headD 0).toNat 0
    let P0 : List (List Int) := [[1], [2], [3]]
    let w := sampleAll 0 [4] T P0
    let at_ := fun (t : Int) => mccParts 0 (1 / 4503599627370496) [4] T M
      ((shiftPts [t] P0).map asRatio) ((shiftPts [t] P0).map asRatio) w
    at_ 0 = (14 / 3, 14 / 3, 14 / 3) ∧ at_ (-1) = (7 / 2, 1 / 2, 1 / 2) ∧
      (at_ (-1)).2.1 * (at_ (-1)).2.2 < (at_ (-1)).1 ^ 2 := by decide +kernel

example := mccCore_sq_le ([1, 3, 2] : List ℚ) [2, 3, 1] rfl (by norm_num)

/-- the link to the function the driver runs: **exact integer coordinates** (as ratios `a/1`), mask
coordinates = template coordinates, every point in the volume and on a voxel of the target mask: both
in-volume filters keep everything, `astype(int)` is the identity, the overlap count is the number of
points, and `mccParts` *is* `mccCore` on (sampled values, weights) -/
theorem mccParts_integer {α : Type} [Field α] [LinearOrder α] [IsStrictOrderedRing α]
    (eps : α) (shape : List Nat) (T M : List Int → α) (P : List (List Int)) (w : List α)
    (hin : ∀ p ∈ P, inVol shape p = true) (hM : ∀ p ∈ P, M p = 1) (hlen : P.length = w.length)
    (heps : eps ≤ (P.length : α)) :
    mccParts 0 eps shape T M (P.map asRatio) (P.map asRatio) w =
      mccCore 0 (P.length : α) (P.map T) w (P.map T) w := by
  have hf : (P.zip w).filter (fun pw => inVol shape pw.1) = P.zip w :=
    List.filter_eq_self.mpr (fun pw hpw => hin pw.1 (List.of_mem_zip hpw).1)
  have hT : (P.zip w).map (fun pw => T pw.1) = P.map T :=
    (List.map_map (g := T) (f := Prod.fst) (l := P.zip w)).symm.trans
      (congrArg (List.map T) (List.map_fst_zip hlen.le))
  rw [mccParts_asRatio eps shape T M P w (fun p hp _ => hM p hp) hlen, hf, hT,
    List.map_snd_zip hlen.ge, List.length_zip, ← hlen, Nat.min_self, max_eq_left heps]

/-- **MaskedCrossCorrelation under exact integer coordinates**: every such pose has
numerator² ≤ denominator1·denominator2 (|value| ≤ 1) … -/
theorem mcc_integer_sq_le {α : Type} [Field α] [LinearOrder α] [IsStrictOrderedRing α]
    (eps : α) (shape : List Nat) (T M : List Int → α) (P : List (List Int)) (w : List α)
    (hin : ∀ p ∈ P, inVol shape p = true) (hM : ∀ p ∈ P, M p = 1) (hlen : P.length = w.length)
    (heps : eps ≤ (P.length : α)) (hn : (P.length : α) ≠ 0) :
    (mccParts 0 eps shape T M (P.map asRatio) (P.map asRatio) w).1 ^ 2 ≤
      (mccParts 0 eps shape T M (P.map asRatio) (P.map asRatio) w).2.1 *
        (mccParts 0 eps shape T M (P.map asRatio) (P.map asRatio) w).2.2 := by
  rw [mccParts_integer eps shape T M P w hin hM hlen heps]
  exact mccCore_sq_le_of_length _ (P.map T) w (List.length_map T) hlen.symm hn

/-- … and the generating pose (weights = target at the template's voxels) attains the bound with a
non-negative numerator: value 1, the best possible -/
theorem mcc_integer_planted {α : Type} [Field α] [LinearOrder α] [IsStrictOrderedRing α]
    (eps : α) (shape : List Nat) (T M : List Int → α) (P : List (List Int))
    (hin : ∀ p ∈ P, inVol shape p = true) (hM : ∀ p ∈ P, M p = 1)
    (heps : eps ≤ (P.length : α)) (hn : (P.length : α) ≠ 0) :
    (mccParts 0 eps shape T M (P.map asRatio) (P.map asRatio) (P.map T)).1 ^ 2 =
      (mccParts 0 eps shape T M (P.map asRatio) (P.map asRatio) (P.map T)).2.1 *
        (mccParts 0 eps shape T M (P.map asRatio) (P.map asRatio) (P.map T)).2.2 ∧
      0 ≤ (mccParts 0 eps shape T M (P.map asRatio) (P.map asRatio) (P.map T)).1 := by
  rw [mccParts_integer eps shape T M P (P.map T) hin hM (List.length_map T).symm heps]
  exact mccCore_planted_of_length _ (P.map T) (List.length_map T) hn

/-- the same link for poses that push **any part of the template out of the volume** (integer
coordinates, mask coordinates = template coordinates, target mask 1 wherever an in-volume point lands):
both filters keep exactly the in-volume points and `mccParts` is `mccCore` on those -/
theorem mccParts_integer_partial {α : Type} [Field α] [LinearOrder α] [IsStrictOrderedRing α]
    (eps : α) (shape : List Nat) (T M : List Int → α) (P : List (List Int)) (w : List α)
    (hM : ∀ p ∈ P, inVol shape p = true → M p = 1) (hlen : P.length = w.length) :
    mccParts 0 eps shape T M (P.map asRatio) (P.map asRatio) w =
      mccCore 0 (max (((P.zip w).filter (fun pw => inVol shape pw.1)).length : α) eps)
        (((P.zip w).filter (fun pw => inVol shape pw.1)).map (fun pw => T pw.1))
        (((P.zip w).filter (fun pw => inVol shape pw.1)).map (·.2))
        (((P.zip w).filter (fun pw => inVol shape pw.1)).map (fun pw => T pw.1))
        (((P.zip w).filter (fun pw => inVol shape pw.1)).map (·.2)) :=
  mccParts_asRatio eps shape T M P w hM hlen

/-- hence, with a target mask that covers the volume, **every** pose on the voxel grid with at least one
point inside the volume has |value| ≤ 1 (the out-of-range values of the recorded findings need a target
mask that cuts the template, separate mask coordinates or truncated coordinates); together with
`mcc_integer_planted` the generating pose is best among all of them … -/
theorem mcc_integer_any_pose_sq_le {α : Type} [Field α] [LinearOrder α] [IsStrictOrderedRing α]
    (eps : α) (shape : List Nat) (T M : List Int → α) (P : List (List Int)) (w : List α)
    (hM : ∀ p ∈ P, inVol shape p = true → M p = 1) (hlen : P.length = w.length)
    (heps : eps ≤ (((P.zip w).filter (fun pw => inVol shape pw.1)).length : α))
    (hk : (((P.zip w).filter (fun pw => inVol shape pw.1)).length : α) ≠ 0) :
    (mccParts 0 eps shape T M (P.map asRatio) (P.map asRatio) w).1 ^ 2 ≤
      (mccParts 0 eps shape T M (P.map asRatio) (P.map asRatio) w).2.1 *
        (mccParts 0 eps shape T M (P.map asRatio) (P.map asRatio) w).2.2 := by
  rw [mccParts_integer_partial eps shape T M P w hM hlen, max_eq_left heps]
  exact mccCore_sq_le_of_length _ _ _ (List.length_map _) (List.length_map _) hk

/-- … and a pose with the whole template outside the volume has the parts (0, 0, 0): the code returns 0.0 -/
theorem mcc_integer_all_outside {α : Type} [Field α] [LinearOrder α] [IsStrictOrderedRing α]
    (eps : α) (shape : List Nat) (T M : List Int → α) (P : List (List Int)) (w : List α)
    (hlen : P.length = w.length) (hout : ∀ p ∈ P, inVol shape p = false) :
    mccParts 0 eps shape T M (P.map asRatio) (P.map asRatio) w = (0, 0, 0) := by
  rw [mccParts_integer_partial eps shape T M P w (fun p hp h => by rw [hout p hp] at h; cases h) hlen]
  have : (P.zip w).filter (fun pw => inVol shape pw.1) = [] := by
    apply List.filter_eq_nil_iff.mpr
    intro pw hpw
    rw [hout pw.1 (List.of_mem_zip hpw).1]; simp
  rw [this]
  simp only [mccCore, List.map_nil, sumL, dot, mul_zero, zero_div, sub_zero, max_self]

/-- non-vacuity: target `[1,3,2,5]`, template cut at cells 1..3 and pushed two voxels to the right — one
point left inside, parts (0,0,0); pushed one voxel — two points inside, value² = 1 ≤ 1 -/
example :
    let T : List Int → Rat := fun p => ([1, 3, 2, 5] : List Rat).getD (p.headD 0).toNat 0
    let P0 : List (List Int) := [[1], [2], [3]]
    let at_ := fun (t : Int) => mccParts 0 (1 / 4503599627370496) [4] T (fun _ => 1)
      ((shiftPts [t] P0).map asRatio) ((shiftPts [t] P0).map asRatio) (sampleAll 0 [4] T P0)
    at_ 2 = (0, 0, 0) ∧ at_ 1 = (-3 / 2, 9 / 2, 1 / 2) := by decide +kernel

example : inVol [6] [3] = true ∧ inVol [6] [6] = false ∧ inVolQ [6] [(29999995, 10000000)] = true ∧
    cellOf [(29999995, 10000000)] = [2] := by decide

/-- with mask coordinates that are a *strict subset* of the template coordinates (overlap counted over
the mask points, the template sums over all points) the value leaves [−1, 1] already at the generating
pose, everything inside the volume: target `[0,1,0,1]`, template = all four voxels, mask = the first
three: parts (4/3, 2/3, 2/3) — value 2 -/
theorem mcc_mask_subset_defect :
    let T : List Int → Rat := fun p => ([0, 1, 0, 1] : List Rat).getD (p.headD 0).toNat 0
    let M : List Int → Rat := fun _ => 1
    let P0 : List (List Int) := [[0], [1], [2], [3]]
    let q := mccParts 0 (1 / 4503599627370496) [4] T M (P0.map asRatio) ((P0.take 3).map asRatio)
      (sampleAll 0 [4] T P0)
    q = (4 / 3, 2 / 3, 2 / 3) ∧ q.2.1 * q.2.2 < q.1 ^ 2 := by decide +kernel

/-- the table score is symmetric in its two arguments … -/
theorem mi_symm {α : Type} [Field α] (eps : α) (bv bw : List Nat) :
    miScore 0 eps (fun k => (k : α)) bv bw = miScore 0 eps (fun k => (k : α)) bw bv := by
  unfold miScore
  dsimp only
  rw [← List.zip_swap bw bv]
  generalize bw.zip bv = pairs
  rw [sumL_swap]
  apply congrArg
  apply List.map_congr_left
  intro i _
  apply congrArg
  apply List.map_congr_left
  intro j _
  simp only [List.length_map, count_swap, List.map_map]
  have e1 : (Prod.fst ∘ Prod.swap : Nat × Nat → Nat) = Prod.snd := rfl
  have e2 : (Prod.snd ∘ Prod.swap : Nat × Nat → Nat) = Prod.fst := rfl
  rw [e1, e2]
  ring

/-- … for every pairing of bin indices and every regulariser `eps ≥ 0` it is at most the number of
non-empty weight bins … -/
theorem mi_le_nonempty_bins {α : Type} [Field α] [LinearOrder α] [IsStrictOrderedRing α] (eps : α)
    (heps : 0 ≤ eps) (bv bw : List Nat) (h : bv.length = bw.length) :
    miScore 0 eps (fun k => (k : α)) bv bw ≤
      sumL 0 ((List.range 10).map (fun j => if 0 < bw.count j then (1 : α) else 0)) := by
  unfold miScore
  dsimp only
  rw [sumL_swap]
  exact sumL_le_sumL _ _ _ fun j _ =>
    (mi_column_le eps heps (bv.zip bw) j).trans_eq (by rw [List.map_snd_zip h.ge])

/-- … which is exactly the value for identical partitions (values = weights: the generating pose),
without the regulariser … -/
theorem mi_planted_value {α : Type} [Field α] [LinearOrder α] [IsStrictOrderedRing α] (b : List Nat) :
    miScore 0 0 (fun k => (k : α)) b b =
      sumL 0 ((List.range 10).map (fun i => if 0 < b.count i then (1 : α) else 0)) := by
  rw [miScore_self_eps]
  apply congrArg
  apply List.map_congr_left
  intro i _
  rw [add_zero]
  by_cases h0 : 0 < b.count i
  · have hc : (0 : α) < (b.count i : α) := Nat.cast_pos.mpr h0
    have hl : (0 : α) < (b.length : α) := hc.trans_le (Nat.cast_le.mpr List.count_le_length)
    rw [if_pos h0]
    exact div_self (mul_pos (div_pos hc hl) (div_pos hc hl)).ne'
  · rw [if_neg h0, Nat.eq_zero_of_not_pos h0, Nat.cast_zero, zero_div, zero_mul, zero_div]

/-- … hence **the generating pose is best** for the function the driver runs (`miOf`: numpy's binning
of the interpolated values and of the weights, then the table score), up to the regulariser
`eps = 2⁻⁵²` in the denominators of the planted value (which lowers it by at most
`#bins · eps · n²`; that last estimate is not proved here) -/
theorem mi_planted_best {α : Type} [Field α] [LinearOrder α] [IsStrictOrderedRing α] (eps : α)
    (heps : 0 ≤ eps) (v w : List α) (h : v.length = w.length) :
    miOf 0 eps (fun k => (k : α)) v w ≤ miOf 0 0 (fun k => (k : α)) w w := by
  unfold miOf
  rw [mi_planted_value]
  exact mi_le_nonempty_bins eps heps _ _ (by rw [List.length_map, List.length_map, h])

/-- **best within the regulariser**: with the code's `eps` in the denominators the planted value is at
least `(1 − eps·n²)` times the value of any other pose (`n` template points; `eps·n² ≈ 2.2·10⁻¹⁶·n²`) -/
theorem mi_planted_best_within_regulariser {α : Type} [Field α] [LinearOrder α] [IsStrictOrderedRing α]
    (eps : α) (heps : 0 ≤ eps) (v w : List α) (h : v.length = w.length)
    (hsmall : eps * ((w.length : α) * (w.length : α)) ≤ 1) :
    miOf 0 eps (fun k => (k : α)) v w * (1 - eps * ((w.length : α) * (w.length : α))) ≤
      miOf 0 eps (fun k => (k : α)) w w := by
  unfold miOf
  have h2 := miScore_self_ge eps heps (w.map (binOf (fun k => (k : α)) (listMin 0 w) (listMax 0 w)))
  rw [List.length_map] at h2
  exact (mul_le_mul_of_nonneg_right (mi_le_nonempty_bins eps heps _ _
    (by rw [List.length_map, List.length_map, h])) (sub_nonneg.mpr hsmall)).trans h2

example : (1 / 4503599627370496 : ℚ) * ((4 : ℚ) * 4) ≤ 1 := by norm_num

/-- symmetry of the whole score -/
theorem miOf_symm {α : Type} [Field α] [LinearOrder α] [IsStrictOrderedRing α] (eps : α) (v w : List α) :
    miOf 0 eps (fun k => (k : α)) v w = miOf 0 eps (fun k => (k : α)) w v := by
  unfold miOf
  exact mi_symm eps _ _

example : binOf (fun k => (k : Rat)) 0 10 0 = 0 ∧ binOf (fun k => (k : Rat)) 0 10 3 = 3 ∧
    binOf (fun k => (k : Rat)) 0 10 10 = 9 ∧ binOf (fun k => (k : Rat)) 2 2 2 = 5 := by decide +kernel

example : miOf (0 : Rat) 0 (fun k => (k : Rat)) [0, 5, 10, 5] [0, 5, 10, 5] = 3 ∧
    miOf (0 : Rat) 0 (fun k => (k : Rat)) [0, 10, 5, 5] [0, 5, 10, 5] = 9 / 4 := by decide +kernel

/-- **full template mask, template wholly inside the target** (`g` the template, `f` the target under
it, `n` voxels): numerator² ≤ (n·var g)·(n·var f), i.e. the value `numerator / (σ_g σ_f n)` lies in
[−1, 1] for every voxel translation … -/
theorem flc_full_sq_le {α : Type} [Field α] [LinearOrder α] [IsStrictOrderedRing α] (g f : List α)
    (h : g.length = f.length) (hn : (g.length : α) ≠ 0) :
    (flcCore 0 (g.length : α) g (List.replicate g.length 1) g (List.replicate g.length 1) f).1 ^ 2 ≤
      ((g.length : α) * (flcCore 0 (g.length : α) g (List.replicate g.length 1) g (List.replicate g.length 1) f).2.1) *
        ((g.length : α) * (flcCore 0 (g.length : α) g (List.replicate g.length 1) g (List.replicate g.length 1) f).2.2) := by
  rw [flcCore_full g f h hn]
  dsimp only
  rw [mul_div_cancel₀ _ hn, mul_div_cancel₀ _ hn]
  exact centred_sq_le _ g f rfl h.symm hn

/-- … and at the generating pose (target under the template = template) numerator = n·var g ≥ 0 and the
two variances agree: the value is exactly 1, the best possible -/
theorem flc_full_planted {α : Type} [Field α] [LinearOrder α] [IsStrictOrderedRing α] (g : List α)
    (hn : (g.length : α) ≠ 0) :
    (flcCore 0 (g.length : α) g (List.replicate g.length 1) g (List.replicate g.length 1) g).1 =
      (g.length : α) * (flcCore 0 (g.length : α) g (List.replicate g.length 1) g (List.replicate g.length 1) g).2.1 ∧
    (flcCore 0 (g.length : α) g (List.replicate g.length 1) g (List.replicate g.length 1) g).2.1 =
      (flcCore 0 (g.length : α) g (List.replicate g.length 1) g (List.replicate g.length 1) g).2.2 ∧
    0 ≤ (flcCore 0 (g.length : α) g (List.replicate g.length 1) g (List.replicate g.length 1) g).1 := by
  rw [flcCore_full g g rfl hn]
  dsimp only
  rw [mul_div_cancel₀ _ hn]
  exact ⟨rfl, rfl, centred_self_nonneg _ g rfl hn⟩

/-- the function the driver runs (`flcOf`: windows of `flcWindow`, gathering, `flcCore`) on a template
`[1,3,2]` cut from the target `[0,1,3,2,0,0]` at offset 1: planted parts (2, 2/3, 2/3, 3) — value
2/(√(2/3)·√(2/3)·3) = 1; one voxel further (1, 2/3, 14/9, 3) — value² = 9/28; half outside (translation −2:
one voxel of overlap) the window sums shrink accordingly -/
theorem flcOf_example :
    let g : List Nat → Rat := fun i => ([1, 3, 2] : List Rat).getD (i.headD 0) 0
    let f : List Int → Rat := fun p => ([0, 1, 3, 2, 0, 0] : List Rat).getD (p.headD 0).toNat 0
    flcOf 0 [3] [6] g (fun _ => 1) f [1] = (2, 2 / 3, 2 / 3, 3) ∧
      flcOf 0 [3] [6] g (fun _ => 1) f [0] = (1, 2 / 3, 14 / 9, 3) ∧
      flcOf 0 [3] [6] g (fun _ => 1) f [-2] = (0, 2 / 3, 0, 3) := by decide +kernel

example := flc_full_sq_le ([1, 3, 2] : List ℚ) [0, 1, 3] rfl (by norm_num)

/-- **any binary template mask** (template wholly inside the target, `n = Σ mask` voxels under the mask):
the formula is the full-mask formula on the masked voxels, so again numerator² ≤ (n·var g)(n·var f) … -/
theorem flc_binary_sq_le {α : Type} [Field α] [LinearOrder α] [IsStrictOrderedRing α] (g m f : List α)
    (hb : ∀ x ∈ m, x = 0 ∨ x = 1) (hg : g.length = m.length) (hf : f.length = m.length) (hn : sumL 0 m ≠ 0) :
    (flcCore 0 (sumL 0 m) g m g m f).1 ^ 2 ≤
      (sumL 0 m * (flcCore 0 (sumL 0 m) g m g m f).2.1) * (sumL 0 m * (flcCore 0 (sumL 0 m) g m g m f).2.2) := by
  rw [sumL_mask g m hg hb] at hn ⊢
  rw [flcCore_binary g m f hb hg hf]
  exact flc_full_sq_le (pick g m) (pick f m) (pick_length g f m (hg.trans hf.symm)) hn

/-- … with value 1 at the generating pose -/
theorem flc_binary_planted {α : Type} [Field α] [LinearOrder α] [IsStrictOrderedRing α] (g m : List α)
    (hb : ∀ x ∈ m, x = 0 ∨ x = 1) (hg : g.length = m.length) (hn : sumL 0 m ≠ 0) :
    (flcCore 0 (sumL 0 m) g m g m g).1 = sumL 0 m * (flcCore 0 (sumL 0 m) g m g m g).2.1 ∧
    (flcCore 0 (sumL 0 m) g m g m g).2.1 = (flcCore 0 (sumL 0 m) g m g m g).2.2 ∧
    0 ≤ (flcCore 0 (sumL 0 m) g m g m g).1 := by
  rw [sumL_mask g m hg hb] at hn ⊢
  rw [flcCore_binary g m g hb hg hg]
  exact flc_full_planted (pick g m) hn

example := flc_binary_sq_le ([1, 3, 2, 5] : List ℚ) [1, 0, 1, 1] [0, 1, 3, 4]
  (by simp) rfl rfl (by norm_num [sumL])

/-- **every voxel translation** — template inside, partly or wholly outside the target — for the function
the driver runs (`flcOf`: `flcWindow` windows, gathering, masked standardisation over the whole template,
window sums) and any binary template mask: numerator² ≤ (n·var g)(n·var f), i.e. |value| ≤ 1.  (The window
sums are whole-template sums against the target zero-extended outside the window: `flcCore_window`.) -/
theorem flcOf_sq_le {α : Type} [Field α] [LinearOrder α] [IsStrictOrderedRing α]
    (shape tshape : List Nat) (g m : List Nat → α) (f : List Int → α) (v : List Int)
    (hb : ∀ i ∈ allIdx shape, m i = 0 ∨ m i = 1)
    (hn : (flcOf 0 shape tshape g m f v).2.2.2 ≠ 0) :
    (flcOf 0 shape tshape g m f v).1 ^ 2 ≤
      ((flcOf 0 shape tshape g m f v).2.2.2 * (flcOf 0 shape tshape g m f v).2.1) *
        ((flcOf 0 shape tshape g m f v).2.2.2 * (flcOf 0 shape tshape g m f v).2.2.1) := by
  simp only [flcOf] at hn ⊢
  have hl : ∀ {β γ : Type} (p : List Nat → β) (q : List Nat → γ),
      ((allIdx shape).map p).length = ((allIdx shape).map q).length :=
    fun p q => (List.length_map p).trans (List.length_map q).symm
  rw [filter_map_pickB, filter_map_pickB, filter_map_pickB, flcCore_window _ _ _ _ _ (hl _ _) (hl _ _) (hl _ _)]
  exact flc_binary_sq_le _ _ _ (List.forall_mem_map.mpr hb) (hl _ _)
    ((maskB_length _ _ (hl _ _)).trans (hl _ _)) hn

/-- … and at the generating translation (the window is the whole template and the target under it is the
template) numerator = n·var g ≥ 0 and var f = var g: value 1 — **the generating pose is best among all
voxel translations** -/
theorem flcOf_planted {α : Type} [Field α] [LinearOrder α] [IsStrictOrderedRing α]
    (shape tshape : List Nat) (g m : List Nat → α) (f : List Int → α) (v : List Int)
    (hb : ∀ i ∈ allIdx shape, m i = 0 ∨ m i = 1)
    (hsel : (allIdx shape).filter (flcInWin shape (windows shape tshape v)) = allIdx shape)
    (hfg : ∀ i ∈ allIdx shape, f (flcTgt (windows shape tshape v) i) = g i)
    (hn : (flcOf 0 shape tshape g m f v).2.2.2 ≠ 0) :
    (flcOf 0 shape tshape g m f v).1 =
        (flcOf 0 shape tshape g m f v).2.2.2 * (flcOf 0 shape tshape g m f v).2.1 ∧
      (flcOf 0 shape tshape g m f v).2.1 = (flcOf 0 shape tshape g m f v).2.2.1 ∧
      0 ≤ (flcOf 0 shape tshape g m f v).1 := by
  simp only [flcOf] at hn ⊢
  rw [hsel, List.map_congr_left hfg]
  exact flc_binary_planted _ _ (List.forall_mem_map.mpr hb)
    ((List.length_map g).trans (List.length_map m).symm) hn

/-- non-vacuity of the two hypotheses of `flcOf_planted`: a 2 × 2 template cut from a 3 × 4 target at offset (1, 2) -/
example :
    let f : List Int → Int := fun p => ([[1, 2, 3, 4], [5, 6, 7, 9], [2, 0, 1, 8]] : List (List Int)).getD (p.headD 0).toNat []
      |>.getD (p.getD 1 0).toNat 0
    let g : List Nat → Int := fun i => f [(i.headD 0 : Int) + 1, (i.getD 1 0 : Int) + 2]
    (allIdx [2, 2]).filter (flcInWin [2, 2] (windows [2, 2] [3, 4] [1, 2])) = allIdx [2, 2] ∧
      (∀ i ∈ allIdx [2, 2], f (flcTgt (windows [2, 2] [3, 4] [1, 2]) i) = g i) ∧
      (allIdx [2, 2]).filter (flcInWin [2, 2] (windows [2, 2] [3, 4] [2, 3])) = [[0, 0]] := by decide

/-- non-vacuity of `flcOf_sq_le`: a binary mask with a hole, template half outside the target -/
example :
    let g : List Nat → Rat := fun i => ([1, 3, 2] : List Rat).getD (i.headD 0) 0
    let m : List Nat → Rat := fun i => ([1, 0, 1] : List Rat).getD (i.headD 0) 0
    let f : List Int → Rat := fun p => ([0, 1, 3, 2, 0, 0] : List Rat).getD (p.headD 0).toNat 0
    (∀ i ∈ allIdx [3], m i = 0 ∨ m i = 1) ∧ (flcOf 0 [3] [6] g m f [-1]).2.2.2 ≠ 0 ∧
      flcOf 0 [3] [6] g m f [-1] = (1 / 2, 1 / 4, 1 / 4, 2) := by decide +kernel

end Pm.C17
