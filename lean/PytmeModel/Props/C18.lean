import PytmeModel.Model.C18
import PytmeModel.Model.C18Cli
import PytmeModel.Proofs.C18Cli
import PytmeModel.Props.C01
import PytmeModel.Props.C03

/-! # C18 — command-line pipeline recovers a planted particle; results reload intact -/
namespace Pm.C18
open Pm.C01

/-- **The result container round-trips**: for any sequence of items (ordinary objects, tuples, memory maps) in which
no ordinary tuple starts with the marker string, loading what was written returns every item in order — ordinary
items unchanged, memory maps as maps of the relocated files with the same shape and dtype. -/
theorem pickle_roundtrip (fresh : Nat → String) : ∀ (items : List Item) (i : Nat) (fs : FS),
    NoFakeMarker items → loadAll (writeItems fresh i fs items).1 = expectedAll fresh i items := by
  intro items
  induction items with
  | nil => intro _ _ _; rfl
  | cons it rest ih =>
    intro i fs h
    obtain ⟨fs', e⟩ := writeItems_cons_fst fresh i fs it rest
    rw [e]
    show loadRec (itemRec fresh i it) :: loadAll _ = expected fresh i it :: expectedAll fresh (i + 1) rest
    obtain ⟨h1, h2⟩ := loadRec_itemRec fresh i h
    rw [h1, ih _ _ h2]

/-- the number of records equals the number of items: nothing is dropped or duplicated -/
theorem pickle_count (fresh : Nat → String) : ∀ (items : List Item) (i : Nat) (fs : FS),
    (writeItems fresh i fs items).1.length = items.length := by
  intro items
  induction items with
  | nil => intro _ _; rfl
  | cons it rest ih =>
    intro i fs
    obtain ⟨fs', e⟩ := writeItems_cons_fst fresh i fs it rest
    rw [e, List.length_cons, ih, List.length_cons]

/-- `load_pickle` returns exactly one object per record read -/
theorem loadAll_length (rs : List Rec) : (loadAll rs).length = rs.length :=
  List.length_map _

/-- the round trip preserves the number of items: what is loaded back has as many entries as were handed to `write_pickle` -/
theorem roundtrip_length (fresh : Nat → String) (items : List Item) (i : Nat) (fs : FS) :
    (loadAll (writeItems fresh i fs items).1).length = items.length := by
  rw [loadAll_length, pickle_count]

/-- the records `write_pickle` pickles do not depend on the state of the file system (only the moved files do) -/
theorem writeItems_recs_fs_indep (fresh : Nat → String) : ∀ (items : List Item) (i : Nat) (fs fs' : FS),
    (writeItems fresh i fs items).1 = (writeItems fresh i fs' items).1 := by
  intro items
  induction items with
  | nil => intro _ _ _; rfl
  | cons it rest ih =>
    intro i fs fs'
    obtain ⟨f1, e1⟩ := writeItems_cons_fst fresh i fs it rest
    obtain ⟨f2, e2⟩ := writeItems_cons_fst fresh i fs' it rest
    rw [e1, e2, ih (i + 1) f1 f2]

/-- moving a memory map's file keeps its content under the new name -/
theorem move_keeps_content (fs : FS) (src dst : String) (c : Nat) (h : FS.get fs src = some c) :
    FS.get (FS.move fs src dst) dst = some c := by
  rw [FS.move, h]
  simp only [FS.get, List.find?_cons_of_pos, beq_self_eq_true, Option.map_some]

/-- a memory map whose backing file is missing leaves the file system as it was (`FS.move` of an absent source) -/
theorem move_absent (fs : FS) (src dst : String) (h : FS.get fs src = none) : FS.move fs src dst = fs := by
  rw [FS.move, h]

/-- reading a result path right after `write_pickle` returns the records written -/
theorem write_then_read (d : Disk) (path : String) (rs : List Rec) :
    Disk.read (Disk.write d path rs) path = some rs := by
  simp only [Disk.write, Disk.read, List.find?_cons_of_pos, beq_self_eq_true, Option.map_some]

/-- **A path written again holds only the new records**: reading a result path returns what the last `write_pickle` to that
path wrote, whatever was written there (or elsewhere) before. -/
theorem rewrite_reads_last (d : Disk) (path : String) (a b : List Rec) :
    Disk.read (Disk.write (Disk.write d path a) path b) path = some b :=
  write_then_read _ path b

/-- writing one path leaves every other result file alone -/
theorem write_other_path (d : Disk) (p q : String) (rs : List Rec) (h : q ≠ p) :
    Disk.read (Disk.write d p rs) q = Disk.read d q := by
  have hpq : ¬ (fun e : String × List Rec => e.1 == q) (p, rs) = true := fun e => h (eq_of_beq e).symm
  rw [Disk.read, Disk.write, List.find?_cons_of_neg (p := fun e : String × List Rec => e.1 == q) hpq,
    List.find?_filter, Disk.read]
  -- among the entries that survive the filter the two searches test the same thing
  congr 2
  funext e
  cases hq : e.1 == q
  · exact decide_eq_false fun hh => Bool.false_ne_true hh.2
  · exact decide_eq_true ⟨bne_iff_ne.mpr fun hp => h ((eq_of_beq hq).symm.trans hp), rfl⟩

/-- writing, loading and writing the same records again leaves the same disk model (the write is idempotent) -/
theorem write_idempotent (d : Disk) (path : String) (rs : List Rec) :
    Disk.write (Disk.write d path rs) path rs = Disk.write d path rs := by
  simp [Disk.write, List.filter_filter]

/-- **Boundary distance**: a voxel that keeps exactly the requested distance from both faces of its axis is reported
(the bound is inclusive), one voxel closer to either face is not. -/
theorem kept_at_exact_distance (d n : Nat) (h : 2 * d < n) :
    keptAt d n d = true ∧ keptAt d n (n - 1 - d) = true ∧ (0 < d → keptAt d n (d - 1) = false) ∧ keptAt d n (n - d) = false := by
  rw [keptAt_iff, keptAt_iff, ← Bool.not_eq_true, ← Bool.not_eq_true, keptAt_iff, keptAt_iff]
  omega

/-- the container's quirk, as a witness: an ordinary tuple that starts with the marker string is read back as a memory map -/
theorem fake_marker_current_quirk :
    loadAll (writeItems (fun _ => "x") 0 [] [.tup "np.memmap" "payload"]).1 ≠
      expectedAll (fun _ => "x") 0 [.tup "np.memmap" "payload"] := by decide +kernel

/-- **Frame of the planted particle.**  With the template's box corner at `P0`, the window the score map evaluates
at the reference position `P0 + m//2` is exactly the planted box: voxel `k` of the template meets target voxel `P0 + k`. -/
theorem planted_window_at_reference : ∀ (ms : List Nat) (P0 : List Int) (k : List Nat),
    ms.length = P0.length → inShape ms k = true → specIdx ms (refPos ms P0) k = boxPos P0 k := by
  intro ms
  induction ms with
  | nil =>
    intro P0 k hl _
    cases P0 with
    | nil => rfl
    | cons _ _ => cases hl
  | cons m ms ih =>
    intro P0 k hl hk
    cases P0 with
    | nil => cases hl
    | cons p ps =>
      cases k with
      | nil => cases hk
      | cons k ks =>
        simp only [refPos, specIdx, boxPos]
        rw [ih ps ks (Nat.succ.inj hl) (inShape_cons.mp hk).2, Int.add_right_comm, Int.add_sub_cancel]

/-- **The pipeline's best entry is the planted reference position** (exact arithmetic): if the target shows the
(rotated) template `g` in the box at `P0` — `f(P0 + k) = g(k)` wherever the mask is non-zero — then the masked
window at the reference position is the template, so (C03) its normalised score is exactly 1 and no other
translation scores higher; by C01 this is the value the FFT pipeline reports at that voxel, by C02 also when the
target is tiled, by C05 the peak caller reports that voxel in target coordinates. -/
theorem pipeline_best_is_planted {α : Type} [Field α] [LinearOrder α] [IsStrictOrderedRing α]
    (ms : List Nat) (P0 : List Int) (f g w : List Int → α) (hl : ms.length = P0.length)
    (hplant : ∀ k, inShape ms k = true → w (natsToInts k) * f (boxPos P0 k) = w (natsToInts k) * g (natsToInts k))
    (hn : 0 < (Pm.C03.Win.mk ms (fun k => w (natsToInts k)) (fun k => f (specIdx ms (refPos ms P0) k)) (fun k => g (natsToInts k))).n)
    (σ : α) (hσ : 0 < σ)
    (eσ : σ * σ = (Pm.C03.Win.mk ms (fun k => w (natsToInts k)) (fun k => f (specIdx ms (refPos ms P0) k)) (fun k => g (natsToInts k))).B
        / (Pm.C03.Win.mk ms (fun k => w (natsToInts k)) (fun k => f (specIdx ms (refPos ms P0) k)) (fun k => g (natsToInts k))).n) :
    let W := Pm.C03.Win.mk ms (fun k => w (natsToInts k)) (fun k => f (specIdx ms (refPos ms P0) k)) (fun k => g (natsToInts k))
    (W.N / σ) / (σ * W.n) = 1 := by
  intro W
  refine (Pm.C03.Win.planted_eq_one W ?_ hn σ hσ eσ).2.2
  intro k hk
  show w (natsToInts k) * f (specIdx ms (refPos ms P0) k) = w (natsToInts k) * g (natsToInts k)
  rw [planted_window_at_reference ms P0 k hl hk]
  exact hplant k hk

/-- the box-centre reference point is the box corner shifted by `shape // 2` on every axis -/
theorem refPos_eq_boxPos : ∀ (ms : List Nat) (P0 : List Int), refPos ms P0 = boxPos P0 (ms.map (· / 2)) := by
  intro ms
  induction ms with
  | nil => intro P0; cases P0 <;> rfl
  | cons m ms ih =>
    intro P0
    cases P0 with
    | nil => rfl
    | cons p ps => exact congrArg ((p + ((m / 2 : Nat) : Int)) :: ·) (ih ps)

/-- **split-layout invariance / additivity**: shifting by `a` and then by `b` (chunk offset then local index, or planted
translation then centre shift) is shifting once by `a + b` -/
theorem boxPos_add : ∀ (P : List Int) (a b : List Nat),
    boxPos (boxPos P a) b = boxPos P (List.zipWith (· + ·) a b) := by
  intro P
  induction P with
  | nil => intro a b; rfl
  | cons p ps ih =>
    intro a b
    cases a with
    | nil => rfl
    | cons x xs =>
      cases b with
      | nil => rfl
      | cons y ys =>
        simp only [boxPos, List.zipWith_cons_cons]
        rw [ih xs ys, Int.natCast_add, Int.add_assoc]

/-- the reported position does not depend on which part of it is attributed to the chunk offset and which to the local index -/
theorem boxPos_comm (P : List Int) (a b : List Nat) : boxPos (boxPos P a) b = boxPos (boxPos P b) a := by
  rw [boxPos_add, boxPos_add, List.zipWith_comm]
  simp only [Nat.add_comm]

/-- the reference point moves with the planted translation: planting the box `t` voxels further moves `P0 + m//2` by `t` -/
theorem refPos_translate : ∀ (ms : List Nat) (P : List Int) (t : List Nat),
    refPos ms (boxPos P t) = boxPos (refPos ms P) t := by
  intro ms
  induction ms with
  | nil => intro P t; cases P <;> rfl
  | cons m ms ih =>
    intro P t
    cases P with
    | nil => rfl
    | cons p ps =>
      cases t with
      | nil => rfl
      | cons x xs =>
        simp only [refPos, boxPos]
        rw [ih ps xs, Int.add_right_comm]

example : Disk.read (Disk.write (Disk.write (Disk.write [] "out.pickle" [Rec.obj "first run"]) "other" [Rec.obj "x"]) "out.pickle" [Rec.obj "second run"])
    "out.pickle" = some [Rec.obj "second run"] := by decide +kernel
example : keptAt 3 20 3 = true ∧ keptAt 3 20 16 = true ∧ keptAt 3 20 2 = false ∧ keptAt 3 20 17 = false := by decide +kernel
example : refPos [5, 4] [3, 7] = [5, 9] := by decide +kernel
example : loadAll (writeItems (fun i => s!"f{i}") 0 [("a", 7)] [.obj "scores", .memmap [2, 3] "f4" "a" 7, .tup "meta" "x"]).1
    = [.obj "scores", .memmap (encShape [2, 3] "f4" "f1"), .tup "meta" "x"] := by decide +kernel

/-! ## The decision logic of `scripts/postprocess.py` (executable model: `Model/C18Cli.lean`, run by the driver and compared
with the script's own functions called in-process) -/

/-- `--mask_edges` is superseded by an explicit `--min_boundary_distance` -/
theorem effDist_pos (me : Bool) (d : Nat) (t : List Nat) (h : 0 < d) : effDist me d t = d := by
  have h0 : (d == 0) = false := beq_false_of_ne (Nat.ne_of_gt h)
  rw [effDist, h0, Bool.and_false]
  rfl

/-- without `--mask_edges` the distance is the one given -/
theorem effDist_off (d : Nat) (t : List Nat) : effDist false d t = d := rfl

/-- **`--mask_edges`** alone: the distance is half the largest template extent, rounded up — the window then excludes every
voxel whose template box (of the largest extent) would overhang the target -/
theorem effDist_mask_edges (t : List Nat) :
    maxL t ≤ 2 * effDist true 0 t ∧ 2 * effDist true 0 t ≤ maxL t + 1 := by
  show maxL t ≤ 2 * ((maxL t + 1) / 2) ∧ 2 * ((maxL t + 1) / 2) ≤ maxL t + 1
  have h : maxL t + 1 < 2 * ((maxL t + 1) / 2) + 2 := Nat.lt_mul_div_succ (maxL t + 1) Nat.zero_lt_two
  exact ⟨Nat.le_of_lt_succ (Nat.lt_of_succ_lt_succ h), Nat.mul_div_le _ 2⟩

/-- the window is the per-axis `keptAt` of the container theorems (composition with `kept_at_exact_distance`) -/
theorem inWindow_cons (d n x : Nat) (ns xs : List Nat) :
    inWindow d (n :: ns) (x :: xs) = (keptAt d n x && inWindow d ns xs) := rfl

/-- **Which voxels are inside the window**: on every axis `d ≤ x` and `x + d < n` (and the ranks agree) -/
theorem inWindow_iff (d : Nat) : ∀ (shape pos : List Nat),
    inWindow d shape pos = true ↔ List.Forall₂ (fun n x => d ≤ x ∧ x + d < n) shape pos := by
  intro shape
  induction shape with
  | nil =>
    intro pos
    cases pos with
    | nil => exact ⟨fun _ => .nil, fun _ => rfl⟩
    | cons _ _ => exact ⟨fun h => (nomatch h), fun h => (nomatch h)⟩
  | cons n ns ih =>
    intro pos
    cases pos with
    | nil => exact ⟨fun h => (nomatch h), fun h => (nomatch h)⟩
    | cons x xs => rw [inWindow_cons, Bool.and_eq_true, List.forall₂_cons, ih, keptAt_iff]

/-- **The planted voxel survives iff its own distance to the nearest face is at least `d`.** -/
theorem inWindow_iff_borderDist (d : Nat) : ∀ (shape pos : List Nat) (b : Nat),
    inShape shape pos = true → borderDist shape pos = some b → (inWindow d shape pos = true ↔ d ≤ b) := by
  intro shape
  induction shape with
  | nil => intro pos b _ hb; cases hb
  | cons n ns ih =>
    intro pos b hs hb
    cases pos with
    | nil => cases hs
    | cons x xs =>
      obtain ⟨hx, hr⟩ := inShape_cons.mp hs
      rw [inWindow_cons, Bool.and_eq_true, keptAt_iff_le_min hx]
      cases ns with
      | nil =>
        cases xs with
        | nil => cases hb; exact and_iff_left rfl
        | cons _ _ => cases hr
      | cons n' ns =>
        cases xs with
        | nil => cases hr
        | cons x' xs =>
          simp only [borderDist, Option.map_eq_some_iff] at hb
          obtain ⟨b', hb', rfl⟩ := hb
          rw [ih _ b' hr hb', ← Nat.le_min]

/-- **The surviving set is exactly the voxels within the window and the score range** (`d = 0`: no window), with their
original scores: the multiplication by the boundary mask changes nothing for a voxel that survives. -/
theorem mem_survivors_iff (d : Nat) (shape : List Nat) (lo hi : Option Int) (vox : List Vox) (c : Vox) :
    c ∈ survivors d shape lo hi vox ↔
      c ∈ vox ∧ (d = 0 ∨ inWindow d shape c.pos = true) ∧ inRange lo hi c.score = true := by
  rw [survivors, List.mem_filter, List.mem_map, survive_iff]
  constructor
  · rintro ⟨⟨v, hv, rfl⟩, hk, hr⟩
    rw [maskVox_pos] at hk
    rw [maskVox_of_kept hk] at hr ⊢
    exact ⟨hv, hk, hr⟩
  · rintro ⟨hv, hk, hr⟩
    exact ⟨⟨c, hv, maskVox_of_kept hk⟩, hk, hr⟩

/-- sorting keeps every candidate: the sorted orientation list is as long as its input -/
theorem sortDesc_length (l : List Vox) : (sortDesc l).length = l.length := (sortDesc_perm l).length_eq

/-- **the best entry of the sorted list carries the maximum score** -/
theorem sortDesc_head_is_max (l : List Vox) (h : Vox) (t : List Vox) (hs : sortDesc l = h :: t) :
    h ∈ l ∧ ∀ v ∈ l, v.score ≤ h.score :=
  ⟨(sortDesc_perm l).subset (hs ▸ List.mem_cons_self),
    fun _ hv => (sortDesc_desc l).le_head hs ((sortDesc_perm l).symm.subset hv)⟩

/-- **uniqueness of the best entry**: a candidate that strictly beats every other one is the first entry of the sorted list -/
theorem sortDesc_head_unique (l : List Vox) (p : Vox) (hp : p ∈ l) (hstrict : ∀ v ∈ l, v ≠ p → v.score < p.score) :
    (sortDesc l).head? = some p :=
  (sortDesc_desc l).head?_eq ((sortDesc_perm l).symm.subset hp) fun c hc hle =>
    Decidable.byContradiction fun hne => Int.not_lt.mpr hle (hstrict c ((sortDesc_perm l).subset hc) hne)

example : (sortDesc [⟨[0], 1⟩, ⟨[1], 7⟩, ⟨[2], 3⟩]).head? = some ⟨[1], 7⟩ := by decide +kernel

/-- whatever the limit on the number of peaks: only survivors are reported -/
theorem ppCall_subset (k d : Nat) (shape : List Nat) (lo hi : Option Int) (vox : List Vox) (c : Vox)
    (h : c ∈ ppCall k d shape lo hi vox) : c ∈ survivors d shape lo hi vox := by
  unfold ppCall at h
  unfold survivors
  rw [List.mem_filter] at h ⊢
  exact ⟨(sortDesc_perm _).subset (List.mem_of_mem_take h.1), h.2⟩

/-- **Without an effective limit** (`k` at least the number of voxels - what `--minimum_score` arranges, see
`ppNumberOfPeaks_lifted`) the reported set is exactly the surviving set. -/
theorem ppCall_unbounded (k d : Nat) (shape : List Nat) (lo hi : Option Int) (vox : List Vox) (hk : vox.length ≤ k) :
    (ppCall k d shape lo hi vox).Perm (survivors d shape lo hi vox) := by
  unfold ppCall survivors
  have hl : (sortDesc (vox.map (maskVox d shape))).length ≤ k := by
    rw [(sortDesc_perm _).length_eq, List.length_map]; exact hk
  rw [List.take_of_length_le hl]
  exact (sortDesc_perm _).filter _

/-- the reported list is ordered by descending score -/
theorem ppCall_desc (k d : Nat) (shape : List Nat) (lo hi : Option Int) (vox : List Vox) :
    (ppCall k d shape lo hi vox).Pairwise (fun a b => b.score ≤ a.score) := by
  unfold ppCall
  exact ((sortDesc_desc _).sublist (List.take_sublist _ _)).sublist List.filter_sublist

/-- **Completeness under a limit**: a survivor is reported as soon as at most `k` voxels of the masked map score as high
as it does (the limit is applied to the masked map *before* the window and range filters, as `call_peaks` does). -/
theorem ppCall_complete (k d : Nat) (shape : List Nat) (lo hi : Option Int) (vox : List Vox) (c : Vox)
    (hc : c ∈ survivors d shape lo hi vox)
    (hk : ((vox.map (maskVox d shape)).filter (fun w => decide (c.score ≤ w.score))).length ≤ k) :
    c ∈ ppCall k d shape lo hi vox := by
  unfold survivors at hc
  unfold ppCall
  rw [List.mem_filter] at hc ⊢
  refine ⟨?_, hc.2⟩
  have hmem : c ∈ sortDesc (vox.map (maskVox d shape)) := (sortDesc_perm _).symm.subset hc.1
  have h1 := mem_take_count_of_desc c _ (sortDesc_desc _) hmem
  rw [((sortDesc_perm _).filter _).length_eq] at h1
  exact List.take_subset_take_left _ hk h1

/-- **The best reported entry is the maximum over the surviving set** (no effective limit): its score bounds every survivor's. -/
theorem ppCall_head_is_max (k d : Nat) (shape : List Nat) (lo hi : Option Int) (vox : List Vox) (hk : vox.length ≤ k)
    (h : Vox) (t : List Vox) (hh : ppCall k d shape lo hi vox = h :: t) :
    h ∈ survivors d shape lo hi vox ∧ ∀ c ∈ survivors d shape lo hi vox, c.score ≤ h.score := by
  have hp := ppCall_unbounded k d shape lo hi vox hk
  exact ⟨hp.subset (hh ▸ List.mem_cons_self),
    fun _ hc => Desc.le_head (ppCall_desc k d shape lo hi vox) hh (hp.symm.subset hc)⟩

/-- something is reported iff something survives (no effective limit) -/
theorem ppCall_nonempty_iff (k d : Nat) (shape : List Nat) (lo hi : Option Int) (vox : List Vox) (hk : vox.length ≤ k) :
    ppCall k d shape lo hi vox ≠ [] ↔ survivors d shape lo hi vox ≠ [] := by
  have hp := ppCall_unbounded k d shape lo hi vox hk
  constructor
  · intro h e; rw [e] at hp; exact h hp.eq_nil
  · intro h e; rw [e] at hp; exact h hp.symm.eq_nil

/-- the second score filter of `postprocess.main` (on the orientation list) removes nothing from a score-map result:
what the tool writes is what the peak caller kept -/
theorem ppMain_eq_ppCall (k d : Nat) (shape : List Nat) (lo hi : Option Int) (vox : List Vox) :
    ppMain k d shape lo hi vox = ppCall k d shape lo hi vox := by
  unfold ppMain scoreFilter
  rw [List.filter_eq_self]
  intro c hc
  exact ((survive_iff d shape lo hi c).mp (List.mem_filter.mp hc).2).2

/-- **The planted voxel through post-processing.**  If the planted voxel `p` carries a positive score (or no boundary distance
is set), at most `k` voxels of the score map score as high, and its score is within the requested range, then the tool
reports it **iff its own distance to every face is at least `d`**; when it is reported its score bounds every reported one
that is not above it in the map, and it is reported with its own score (the mask does not touch it). -/
theorem planted_reported_iff (k d : Nat) (shape : List Nat) (lo hi : Option Int) (vox : List Vox) (p : Vox)
    (hp : p ∈ vox) (hpos : d = 0 ∨ 0 < p.score) (hr : inRange lo hi p.score = true)
    (hk : (vox.filter (fun w => decide (p.score ≤ w.score))).length ≤ k) :
    p ∈ ppMain k d shape lo hi vox ↔ (d = 0 ∨ inWindow d shape p.pos = true) := by
  rw [ppMain_eq_ppCall]
  constructor
  · intro h
    exact ((mem_survivors_iff d shape lo hi vox p).mp (ppCall_subset k d shape lo hi vox p h)).2.1
  · intro hw
    exact ppCall_complete k d shape lo hi vox p ((mem_survivors_iff d shape lo hi vox p).mpr ⟨hp, hw, hr⟩)
      (Nat.le_trans (filter_map_mask_le d shape p.score hpos vox) hk)

/-- **The best entry of the orientation list is the planted voxel.**  If moreover no other voxel of the map scores as high as
the planted one, then - whenever the planted voxel keeps the boundary distance - it is the *first* entry post-processing
writes (the list is ordered by descending score): the pipeline's best entry is the planted position. -/
theorem planted_is_best_entry (k d : Nat) (shape : List Nat) (lo hi : Option Int) (vox : List Vox) (p : Vox)
    (hp : p ∈ vox) (hpos : d = 0 ∨ 0 < p.score) (hr : inRange lo hi p.score = true)
    (hk : (vox.filter (fun w => decide (p.score ≤ w.score))).length ≤ k)
    (huniq : ∀ c ∈ vox, p.score ≤ c.score → c = p)
    (hw : d = 0 ∨ inWindow d shape p.pos = true) :
    (ppMain k d shape lo hi vox).head? = some p := by
  rw [ppMain_eq_ppCall]
  refine Desc.head?_eq (ppCall_desc k d shape lo hi vox) ?_ fun c hc hle =>
    huniq c ((mem_survivors_iff d shape lo hi vox c).mp (ppCall_subset k d shape lo hi vox c hc)).1 hle
  rw [← ppMain_eq_ppCall]
  exact (planted_reported_iff k d shape lo hi vox p hp hpos hr hk).mpr hw

/-- outside the window nothing is ever reported at the planted position, whatever the other options -/
theorem outside_window_never_reported (k d : Nat) (shape : List Nat) (lo hi : Option Int) (vox : List Vox) (pos : List Nat)
    (hd : 0 < d) (hw : inWindow d shape pos = false) : ∀ c ∈ ppMain k d shape lo hi vox, c.pos ≠ pos := by
  intro c hc e
  rw [ppMain_eq_ppCall] at hc
  have := ((mem_survivors_iff d shape lo hi vox c).mp (ppCall_subset k d shape lo hi vox c hc)).2.1
  rcases this with h0 | h
  · omega
  · rw [e, hw] at h; exact absurd h (by decide)

/-- **Flat index and voxel coordinates**: in the voxel list of a C-ordered score map the voxel with coordinates `p` carries the
value stored at flat position `flatIdx shape p` - no axis is swapped between the array and the reported coordinates. -/
theorem mem_voxOf (shape : List Nat) (scores : List Int) (mask : Option (List Int)) (p : List Nat)
    (hp : inShape shape p = true) (hl : (maskedVals scores mask).length = prodL shape) :
    ⟨p, (maskedVals scores mask).getD (flatIdx shape p) 0⟩ ∈ voxOf shape scores mask :=
  (mem_voxOf_iff_index shape scores mask _).mpr
    ⟨flatIdx shape p, flatIdx_lt hp, hl ▸ flatIdx_lt hp, by rw [unflat_flatIdx hp]⟩

/-- and conversely every voxel of the list is a voxel of the map with the value stored at its flat position -/
theorem voxOf_sound (shape : List Nat) (scores : List Int) (mask : Option (List Int)) (c : Vox)
    (hc : c ∈ voxOf shape scores mask) :
    inShape shape c.pos = true ∧ c.score = (maskedVals scores mask).getD (flatIdx shape c.pos) 0 := by
  obtain ⟨i, h1, _, rfl⟩ := (mem_voxOf_iff_index shape scores mask c).mp hc
  refine ⟨inShape_unflat shape i h1, ?_⟩
  show _ = (maskedVals scores mask).getD (flatIdx shape (unflat shape i)) 0
  rw [flatIdx_unflat shape i h1]

theorem eq_of_le_score_of_mem_voxOf {shape : List Nat} {scores : List Int} {mask : Option (List Int)} {p : List Nat}
    (hmax : ∀ q, inShape shape q = true → q ≠ p →
      (maskedVals scores mask).getD (flatIdx shape q) 0 < (maskedVals scores mask).getD (flatIdx shape p) 0)
    {c : Vox} (hc : c ∈ voxOf shape scores mask) (hle : (maskedVals scores mask).getD (flatIdx shape p) 0 ≤ c.score) :
    c = ⟨p, (maskedVals scores mask).getD (flatIdx shape p) 0⟩ := by
  obtain ⟨hin, hsc⟩ := voxOf_sound shape scores mask c hc
  by_cases hq : c.pos = p
  · cases c with
    | mk pos score =>
      simp only at hq hsc
      subst hq
      rw [hsc]
  · exact absurd (hsc ▸ hmax c.pos hin hq) (Int.not_lt.mpr hle)

/-- **The planted particle through post-processing, in array terms.**  For a C-ordered score map `scores` of shape `shape`
(optionally multiplied by a target mask): if the planted voxel `p` holds a positive value (or no boundary distance is set), at
most `k` voxels hold a value as high and the value is within the requested range, then `postprocess` reports position `p` with
that value **iff `p` keeps distance `d` from every face** (`keptAt` on every axis). -/
theorem planted_voxel_reported_iff (k d : Nat) (shape : List Nat) (lo hi : Option Int) (scores : List Int)
    (mask : Option (List Int)) (p : List Nat) (hp : inShape shape p = true)
    (hl : (maskedVals scores mask).length = prodL shape)
    (hpos : d = 0 ∨ 0 < (maskedVals scores mask).getD (flatIdx shape p) 0)
    (hr : inRange lo hi ((maskedVals scores mask).getD (flatIdx shape p) 0) = true)
    (hk : ((voxOf shape scores mask).filter
      (fun w => decide ((maskedVals scores mask).getD (flatIdx shape p) 0 ≤ w.score))).length ≤ k) :
    (⟨p, (maskedVals scores mask).getD (flatIdx shape p) 0⟩ : Vox) ∈ ppMain k d shape lo hi (voxOf shape scores mask) ↔
      (d = 0 ∨ inWindow d shape p = true) :=
  planted_reported_iff k d shape lo hi (voxOf shape scores mask) ⟨p, _⟩ (mem_voxOf shape scores mask p hp hl) hpos hr hk

/-- **In array terms: the first orientation written is the planted voxel** when its value is positive, strictly above the
value of every other voxel of the (masked) score map, within the requested range, and the voxel keeps the boundary distance. -/
theorem planted_voxel_is_best_entry (k d : Nat) (shape : List Nat) (lo hi : Option Int) (scores : List Int)
    (mask : Option (List Int)) (p : List Nat) (hp : inShape shape p = true)
    (hl : (maskedVals scores mask).length = prodL shape)
    (hpos : d = 0 ∨ 0 < (maskedVals scores mask).getD (flatIdx shape p) 0)
    (hr : inRange lo hi ((maskedVals scores mask).getD (flatIdx shape p) 0) = true)
    (hk : ((voxOf shape scores mask).filter
      (fun w => decide ((maskedVals scores mask).getD (flatIdx shape p) 0 ≤ w.score))).length ≤ k)
    (hmax : ∀ q, inShape shape q = true → q ≠ p →
      (maskedVals scores mask).getD (flatIdx shape q) 0 < (maskedVals scores mask).getD (flatIdx shape p) 0)
    (hw : d = 0 ∨ inWindow d shape p = true) :
    (ppMain k d shape lo hi (voxOf shape scores mask)).head? =
      some ⟨p, (maskedVals scores mask).getD (flatIdx shape p) 0⟩ :=
  planted_is_best_entry k d shape lo hi (voxOf shape scores mask) ⟨p, _⟩
    (mem_voxOf shape scores mask p hp hl) hpos hr hk (fun _ hc hle => eq_of_le_score_of_mem_voxOf hmax hc hle) hw

/-- **The pipeline's best entry, in array terms, without side conditions on the limit**: for any limit `k ≥ 1` on the number of
peaks, if the planted voxel `p` of a C-ordered (masked) score map holds a positive value that is strictly above every other
voxel's and within the requested score range, then the first orientation `postprocess` writes is `p` with that value whenever
`p` keeps the boundary distance from every face - and `p` is not reported at all when it does not
(`outside_window_never_reported`). -/
theorem planted_voxel_first (k d : Nat) (shape : List Nat) (lo hi : Option Int) (scores : List Int)
    (mask : Option (List Int)) (p : List Nat) (hk : 1 ≤ k) (hp : inShape shape p = true)
    (hl : (maskedVals scores mask).length = prodL shape)
    (hpos : d = 0 ∨ 0 < (maskedVals scores mask).getD (flatIdx shape p) 0)
    (hr : inRange lo hi ((maskedVals scores mask).getD (flatIdx shape p) 0) = true)
    (hmax : ∀ q, inShape shape q = true → q ≠ p →
      (maskedVals scores mask).getD (flatIdx shape q) 0 < (maskedVals scores mask).getD (flatIdx shape p) 0)
    (hw : d = 0 ∨ inWindow d shape p = true) :
    (ppMain k d shape lo hi (voxOf shape scores mask)).head? =
      some ⟨p, (maskedVals scores mask).getD (flatIdx shape p) 0⟩ := by
  refine planted_voxel_is_best_entry k d shape lo hi scores mask p hp hl hpos hr ?_ hmax hw
  -- the planted voxel is the only one at or above its own value, and it occurs once
  refine Nat.le_trans (length_le_one_of_nodup_all_eq ⟨p, (maskedVals scores mask).getD (flatIdx shape p) 0⟩ _
    ((voxOf_nodup shape scores mask).filter _) fun c hc => ?_) hk
  obtain ⟨hcv, hle⟩ := List.mem_filter.mp hc
  exact eq_of_le_score_of_mem_voxOf hmax hcv (of_decide_eq_true hle)

example : (⟨[1, 2], 7⟩ : Vox) ∈ ppMain 1 1 [3, 4] none none (voxOf [3, 4] [0, 1, 2, 3, 4, 5, 7, 6, 1, 1, 1, 1] none) := by decide +kernel
example : (ppMain 3 1 [3, 4] none none (voxOf [3, 4] [0, 1, 2, 3, 4, 5, 7, 6, 1, 1, 1, 1] none)).head? = some ⟨[1, 2], 7⟩ := by decide +kernel

/-- **Witness of an order dependence in the tool**: the limit on the number of peaks is applied to the masked map before
the window filter, so a map whose inside scores are all negative loses its (only) survivor to a zeroed border voxel:
something survives, nothing is reported. -/
theorem limit_before_window_current_quirk :
    survivors 1 [3] none none [⟨[0], -5⟩, ⟨[1], -2⟩, ⟨[2], -7⟩] = [⟨[1], -2⟩] ∧
    ppMain 1 1 [3] none none [⟨[0], -5⟩, ⟨[1], -2⟩, ⟨[2], -7⟩] = [] := by decide +kernel

/-- the same for `--maximum_score`: voxels above the maximum use up the limit -/
theorem limit_before_maximum_current_quirk :
    survivors 0 [3] none (some 4) [⟨[0], 9⟩, ⟨[1], 3⟩, ⟨[2], 8⟩] = [⟨[1], 3⟩] ∧
    ppMain 2 0 [3] none (some 4) [⟨[0], 9⟩, ⟨[1], 3⟩, ⟨[2], 8⟩] = [] := by decide +kernel

/-- a peak-list result passes through the score filter alone: exactly the candidates in range, in their order -/
theorem mem_scoreFilter_iff (lo hi : Option Int) (l : List Vox) (c : Vox) :
    c ∈ scoreFilter lo hi l ↔ c ∈ l ∧ inRange lo hi c.score = true := by
  unfold scoreFilter; rw [List.mem_filter]

/-- the score range is the closed interval -/
theorem inRange_iff (lo hi : Int) (s : Int) : inRange (some lo) (some hi) s = true ↔ lo ≤ s ∧ s ≤ hi := by
  rw [inRange, Bool.and_eq_true, decide_eq_true_eq, decide_eq_true_eq]

theorem inRange_none (s : Int) : inRange none none s = true := rfl

/-- **`--minimum_score` (or `--n_false_positives`) lifts the limit on the number of peaks** beyond any array numpy can hold,
so `ppCall_unbounded` applies: every voxel in window and range is reported -/
theorem ppNumberOfPeaks_lifted (hasMin hasNfp : Bool) (n : Option Nat) (h : hasMin = true ∨ hasNfp = true) :
    ppNumberOfPeaks hasMin hasNfp n = 2 ^ 63 - 1 := by
  unfold ppNumberOfPeaks
  rw [if_pos (Bool.or_eq_true_iff.mpr h)]
  rfl

/-- otherwise the limit is the one given, 1000 by default -/
theorem ppNumberOfPeaks_given (n : Option Nat) : ppNumberOfPeaks false false n = n.getD 1000 := by
  cases n <;> rfl

/-- **`--background_file`**: whenever the arguments are accepted there is one (possibly absent) background per input file, so
`background_file[index]` is defined for every input; given once it is the same file for every input; absent it is `None`
for every input -/
theorem ppBackground_length (bg : Option (List String)) (n : Nat) (l : List (Option String))
    (hne : bg ≠ some []) (h : ppBackground bg n = .ok l) : l.length = n := by
  cases bg with
  | none =>
    have h : Except.ok (List.replicate n none) = Except.ok l := h
    cases h; exact List.length_replicate
  | some b =>
    cases b with
    | nil => exact absurd rfl hne
    | cons f r =>
      cases r with
      | nil =>
        have h : Except.ok (List.replicate n (some f)) = Except.ok l := h
        cases h; exact List.length_replicate
      | cons g r =>
        simp only [ppBackground, bgList, List.map_cons] at h
        split at h
        · next hc =>
          cases h
          exact eq_of_beq (((Bool.or_eq_true _ _).mp hc).resolve_left (fun e => nomatch (eq_of_beq e)))
        · cases h

theorem ppBackground_absent (n : Nat) : ppBackground none n = .ok (List.replicate n none) := rfl

theorem ppBackground_once (f : String) (n : Nat) : ppBackground (some [f]) n = .ok (List.replicate n (some f)) := rfl

/-- the RELION box size is made even -/
theorem relionBox_even (n : Nat) : relionBox n % 2 = 0 ∧ n ≤ relionBox n ∧ relionBox n ≤ n + 1 := by
  refine ⟨?_, Nat.le_add_right _ _, Nat.add_le_add_left (Nat.le_of_lt_succ (Nat.mod_lt n Nat.zero_lt_two)) n⟩
  rw [relionBox, Nat.add_mod_mod, ← Nat.two_mul, Nat.mul_mod_right]

example : effDist true 0 [5, 8, 6] = 4 ∧ effDist true 3 [5, 8, 6] = 3 ∧ effDist false 0 [5, 8, 6] = 0 := by decide +kernel
example : inWindow 2 [10, 8] [2, 5] = true ∧ inWindow 2 [10, 8] [2, 6] = false ∧ borderDist [10, 8] [2, 5] = some 2 := by decide +kernel
example : ppMain 2 1 [4] (some 2) none (voxOf [4] [9, 3, 5, 8] none) = [⟨[2], 5⟩, ⟨[1], 3⟩] := by decide +kernel
example : ppMain 2 1 [4] (some 2) none (voxOf [4] [9, 3, 5, 8] (some [1, 1, 0, 1])) = [⟨[1], 3⟩] := by decide +kernel
example : ppBackground (some ["a", "b"]) 2 = .ok [some "a", some "b"] ∧ ppBackground (some ["a", "b"]) 3 = .error "ValueError" := by decide +kernel
example : ppNumberOfPeaks true false (some 5) = 9223372036854775807 ∧ ppNumberOfPeaks false false (some 5) = 5 := by decide +kernel

/-! ## The result tuple: writer (`match_template.main`) and reader (`postprocess.main`) agree -/

/-- **Reader and writer agree on the layout of the result tuple**, for targets of any rank `D`: the reader's test
`data[0].ndim == data[2].ndim` recognises a score-map result exactly when the writer did not call peaks, the names the
reader then gives to the positions are the members the writer put there, and the metadata record is the last member
(`data[-1]`) in both layouts. -/
theorem reader_writer_agree (D : Nat) (peakCalling : Bool) :
    readerIsScoreMap D (writerLayout peakCalling) = !peakCalling ∧
    readerNames (readerIsScoreMap D (writerLayout peakCalling)) = writerLayout peakCalling ∧
    (writerLayout peakCalling).getLast? = some Member.info ∧ (writerLayout peakCalling).length = 5 := by
  cases peakCalling with
  | false =>
    -- `scores` and `rotations` both have the rank of the target
    have h : readerIsScoreMap D (writerLayout false) = true := beq_self_eq_true (some D)
    rw [h]; exact ⟨rfl, rfl, rfl, rfl⟩
  | true => exact ⟨rfl, rfl, rfl, rfl⟩

/-- the positions `postprocess.main` reads from a peak-list result (`candidates[0], candidates[2], candidates[3]`) are the
translations, scores and details the peak caller's tuple has there -/
theorem reader_peak_positions :
    (writerLayout true)[0]? = some Member.translations ∧ (writerLayout true)[1]? = some Member.peakRotations ∧
    (writerLayout true)[2]? = some Member.peakScores ∧ (writerLayout true)[3]? = some Member.details := by decide +kernel

/-- the writer's tuple always has five members and ends with the metadata, for score-map and peak-list output alike -/
theorem writerLayout_shape (pc : Bool) : (writerLayout pc).length = 5 ∧ (writerLayout pc).getLast? = some .info := by
  cases pc <;> exact ⟨rfl, rfl⟩

/-! ## The decision logic of `scripts/match_template.py` -/

/-- **`parse_rotation_logic` is total and exactly one branch applies**: the identity alone iff `-a` is given and at least
180 degrees; the sampled grid iff `-a` is given and below 180; the cone iff `-a` is absent. -/
theorem rotPlan_identity_iff (a : RotArgs) :
    (∃ s o, rotPlan a = .identity s o) ↔ ∃ s, a.angular = some s ∧ 180000 ≤ s := by
  constructor
  · rintro ⟨s, o, e⟩
    cases h : a.angular with
    | none => rw [rotPlan_of_none h] at e; cases e
    | some s' =>
      rcases Int.lt_or_le s' 180000 with hs | hs
      · rw [rotPlan_of_some_lt h hs] at e; cases e
      · exact ⟨s', rfl, hs⟩
  · rintro ⟨s, h, hs⟩
    exact ⟨s, _, rotPlan_of_some_ge h hs⟩

theorem rotPlan_grid_iff (a : RotArgs) :
    (∃ s o, rotPlan a = .grid s o) ↔ ∃ s, a.angular = some s ∧ s < 180000 := by
  constructor
  · rintro ⟨s, o, e⟩
    cases h : a.angular with
    | none => rw [rotPlan_of_none h] at e; cases e
    | some s' =>
      rcases Int.lt_or_le s' 180000 with hs | hs
      · exact ⟨s', rfl, hs⟩
      · rw [rotPlan_of_some_ge h hs] at e; cases e
  · rintro ⟨s, h, hs⟩
    exact ⟨s, _, rotPlan_of_some_lt h hs⟩

theorem rotPlan_cone_iff (a : RotArgs) :
    (∃ ca cs aa as n, rotPlan a = .cone ca cs aa as n) ↔ a.angular = none := by
  constructor
  · rintro ⟨ca, cs, aa, as, n, e⟩
    cases h : a.angular with
    | none => rfl
    | some s' =>
      rcases Int.lt_or_le s' 180000 with hs | hs
      · rw [rotPlan_of_some_lt h hs] at e; cases e
      · rw [rotPlan_of_some_ge h hs] at e; cases e
  · intro h
    exact ⟨_, _, _, _, _, rotPlan_of_none h⟩

/-- the arguments each branch hands to the library: the sampling value unchanged, the optimised sets unless
`--no_use_optimized_set`; in the cone branch `--axis_sampling` defaults to `--cone_sampling` and is otherwise kept -/
theorem rotPlan_args (a : RotArgs) :
    (∀ s, a.angular = some s → s < 180000 → rotPlan a = .grid s (!a.noOptimized)) ∧
    (∀ s, a.angular = some s → 180000 ≤ s → rotPlan a = .identity s (!a.noOptimized)) ∧
    (a.angular = none → a.axisSampling = none →
      rotPlan a = .cone a.coneAngle a.coneSampling a.axisAngle a.coneSampling a.axisSymmetry) ∧
    (∀ x, a.angular = none → a.axisSampling = some x →
      rotPlan a = .cone a.coneAngle a.coneSampling a.axisAngle (some x) a.axisSymmetry) :=
  ⟨fun _ h hs => rotPlan_of_some_lt h hs, fun _ h hs => rotPlan_of_some_ge h hs,
    fun h h2 => by rw [rotPlan_of_none h, h2]; rfl, fun x h h2 => by rw [rotPlan_of_none h, h2]; rfl⟩

/-- the side effect on the argument namespace does not change the plan (a second call decides the same) and is idempotent -/
theorem rotPlan_after (a : RotArgs) :
    rotPlan (rotArgsAfter a) = rotPlan a ∧ rotArgsAfter (rotArgsAfter a) = rotArgsAfter a := by
  unfold rotArgsAfter rotPlan
  cases h : a.angular with
  | some s => simp [h]
  | none =>
    -- `optOr (optOr x c) c = optOr x c`, for each of the four shapes of `x` and `c`
    cases h2 : a.axisSampling <;> cases h3 : a.coneSampling <;> simp [optOr]

/-- with `--pad_edges` given the library is asked once and its answer is returned as it is -/
theorem schedule_user_padding (cps : SchedCall → SchedAns) (tmpl : List Nat) (pf : Bool) :
    schedule cps tmpl pf true = ⟨[schedCall tmpl pf true], cps (schedCall tmpl pf true), true⟩ := by
  unfold schedule
  cases cps (schedCall tmpl pf true) with
  | none => rfl
  | some r => rfl

/-- an unsplit first answer is returned as it is and the flag is left alone -/
theorem schedule_unsplit (cps : SchedCall → SchedAns) (tmpl : List Nat) (pf pe : Bool) (splits : List Nat) (sch : Nat × Nat)
    (h : cps (schedCall tmpl pf pe) = some (splits, sch)) (hs : prodL splits ≤ 1) :
    schedule cps tmpl pf pe = ⟨[schedCall tmpl pf pe], some (splits, sch), pe⟩ := by
  have hc : ¬ (!pe && decide (1 < prodL splits)) = true := by
    rw [decide_eq_false (Nat.not_lt.mpr hs), Bool.and_false]; exact Bool.false_ne_true
  rw [schedule, h]
  exact if_neg hc

/-- `compute_schedule` either asks once and returns the answer as it is (the edges were padded already, or the answer does
not split the target), or - without `--pad_edges`, on an answer that splits - asks again with the padding switched on -/
theorem schedule_cases (cps : SchedCall → SchedAns) (tmpl : List Nat) (pf pe : Bool) :
    (schedule cps tmpl pf pe = ⟨[schedCall tmpl pf pe], cps (schedCall tmpl pf pe), pe⟩ ∧
      (pe = true ∨ ∀ sp sc, cps (schedCall tmpl pf pe) = some (sp, sc) → prodL sp ≤ 1)) ∨
    (pe = false ∧ ∃ sp sc, cps (schedCall tmpl pf false) = some (sp, sc) ∧ 1 < prodL sp ∧
      schedule cps tmpl pf pe =
        ⟨[schedCall tmpl pf false, schedCall tmpl pf true], cps (schedCall tmpl pf true), true⟩) := by
  cases pe with
  | true => exact Or.inl ⟨schedule_user_padding cps tmpl pf, Or.inl rfl⟩
  | false =>
    cases h : cps (schedCall tmpl pf false) with
    | none => exact Or.inl ⟨by rw [schedule, h]; rfl, Or.inr fun _ _ e => nomatch e⟩
    | some r =>
      obtain ⟨sp, sc⟩ := r
      by_cases hs : 1 < prodL sp
      · refine Or.inr ⟨rfl, sp, sc, rfl, hs, ?_⟩
        rw [schedule, h]
        exact if_pos (decide_eq_true hs)
      · exact Or.inl ⟨schedule_unsplit cps tmpl pf false sp sc h (Nat.not_lt.mp hs),
          Or.inr fun _ _ e => by cases e; exact Nat.not_lt.mp hs⟩

/-- **`compute_schedule` asks the library once or twice**, always with the template box (or zeros without `--pad_fourier`)
as second shape -/
theorem schedule_calls (cps : SchedCall → SchedAns) (tmpl : List Nat) (pf pe : Bool) :
    ((schedule cps tmpl pf pe).calls.length = 1 ∨ (schedule cps tmpl pf pe).calls.length = 2) ∧
    (∀ c ∈ (schedule cps tmpl pf pe).calls, c.box = if pf then tmpl else zerosLike tmpl) ∧
    (schedule cps tmpl pf pe).calls.head? = some (schedCall tmpl pf pe) := by
  rcases schedule_cases cps tmpl pf pe with ⟨e, _⟩ | ⟨rfl, _, _, _, _, e⟩
  · rw [e]
    exact ⟨Or.inl rfl, List.forall_mem_cons.mpr ⟨rfl, fun _ h => nomatch h⟩, rfl⟩
  · rw [e]
    exact ⟨Or.inr rfl, List.forall_mem_cons.mpr ⟨rfl, List.forall_mem_cons.mpr ⟨rfl, fun _ h => nomatch h⟩⟩, rfl⟩

/-- **A split target is always searched with padded edges**: whenever the schedule that is returned splits the target,
`args.pad_edges` is on when `compute_schedule` returns and the returned schedule is the library's answer for a target padding
equal to the template box (the condition under which C02's tiles reproduce the unsplit scores). -/
theorem schedule_split_implies_padded (cps : SchedCall → SchedAns) (tmpl : List Nat) (pf pe : Bool)
    (splits : List Nat) (sch : Nat × Nat)
    (hr : (schedule cps tmpl pf pe).result = some (splits, sch)) (hs : 1 < prodL splits) :
    (schedule cps tmpl pf pe).padEdgesAfter = true ∧
    cps ⟨if pf then tmpl else zerosLike tmpl, tmpl⟩ = some (splits, sch) ∧
    (schedule cps tmpl pf pe).calls.getLast? = some ⟨if pf then tmpl else zerosLike tmpl, tmpl⟩ := by
  rcases schedule_cases cps tmpl pf pe with ⟨e, hpe⟩ | ⟨_, _, _, _, _, e⟩
  · rw [e] at hr ⊢
    -- a single call whose answer splits: the edges were padded by the user
    have hpe : pe = true := hpe.resolve_right fun h => Nat.not_lt.mpr (h _ _ hr) hs
    subst hpe
    exact ⟨rfl, hr, rfl⟩
  · rw [e] at hr ⊢
    exact ⟨rfl, hr, rfl⟩

/-- `exit(-1)` happens exactly when the last answer of the library is "no schedule" -/
theorem schedule_exit_iff (cps : SchedCall → SchedAns) (tmpl : List Nat) (pf pe : Bool) :
    (schedule cps tmpl pf pe).result = none ↔
      ∃ c, (schedule cps tmpl pf pe).calls.getLast? = some c ∧ cps c = none := by
  have key : ∀ c', cps c' = none ↔ ∃ c, some c' = some c ∧ cps c = none :=
    fun c' => ⟨fun h => ⟨c', rfl, h⟩, fun ⟨_, hc, h⟩ => by cases hc; exact h⟩
  rcases schedule_cases cps tmpl pf pe with ⟨e, _⟩ | ⟨_, _, _, _, _, e⟩
  · rw [e]; exact key _
  · rw [e]; exact key _

/-- **Witness**: the second answer (with padding) need not split at all - the search then runs unsplit, but with the padded
edges the first answer asked for (`args.pad_edges` stays on) -/
theorem schedule_second_answer_current_quirk :
    schedule (fun c => if c.padding = [0, 0] then some ([2, 1], (2, 1)) else some ([1, 1], (1, 2))) [4, 4] true false =
      ⟨[⟨[4, 4], [0, 0]⟩, ⟨[4, 4], [4, 4]⟩], some ([1, 1], (1, 2)), true⟩ := by decide +kernel

/-- padding branch of one schedule call stated outright: with `--pad_edges` the target padding is the template box; without it
nothing is padded; the box handed over is the template only with Fourier padding -/
theorem schedCall_branches (tmpl : List Nat) (pf : Bool) :
    (schedCall tmpl pf true).padding = tmpl ∧ (schedCall tmpl pf false).padding = zerosLike tmpl ∧
    (schedCall tmpl true false).box = tmpl ∧ (schedCall tmpl false false).box = zerosLike tmpl := by
  cases pf
  · exact ⟨rfl, List.map_map, rfl, rfl⟩
  · exact ⟨rfl, rfl, rfl, rfl⟩

/-- what `main` hands to `scan_subsets`: target edges are padded iff the user asked for it or the first schedule split the
target; the other flags are passed through; the template is centred unless `--no_centering` -/
theorem scanFlags_spec (pe pf pfl nc : Bool) (cps : SchedCall → SchedAns) (tmpl tshape : List Nat) :
    (scanFlags pe pf pfl nc cps tmpl tshape).padFourier = pf ∧ (scanFlags pe pf pfl nc cps tmpl tshape).padTemplateFilter = pfl ∧
    (scanFlags pe pf pfl nc cps tmpl tshape).centre = (!nc) ∧ (scanFlags pe pf pfl nc cps tmpl tshape).minDistance = maxL tshape / 3 ∧
    ((scanFlags pe pf pfl nc cps tmpl tshape).padTargetEdges = true ↔
      pe = true ∨ ∃ sp sc, cps (schedCall tmpl pf false) = some (sp, sc) ∧ 1 < prodL sp) := by
  refine ⟨rfl, rfl, rfl, rfl, ?_⟩
  show (schedule cps tmpl pf pe).padEdgesAfter = true ↔ _
  rcases schedule_cases cps tmpl pf pe with ⟨e, hpe⟩ | ⟨_, sp, sc, h, hs, e⟩
  · rw [e]
    refine ⟨Or.inl, fun hr => hr.elim id fun ⟨sp, sc, h, hs⟩ => hpe.elim id fun hle => ?_⟩
    cases pe with
    | true => rfl
    | false => exact absurd hs (Nat.not_lt.mpr (hle sp sc h))
  · rw [e]
    exact ⟨fun _ => Or.inr ⟨sp, sc, h, hs⟩, fun _ => rfl⟩

/-- centring branch: the template is centred unless `--no_centering`, whatever the padding flags and the schedule -/
theorem scanFlags_centre (pe pf pfl nc : Bool) (cps : SchedCall → SchedAns) (tmpl tshape : List Nat) :
    (scanFlags pe pf pfl nc cps tmpl tshape).centre = !nc ∧ (scanFlags pe pf pfl nc cps tmpl tshape).padFourier = pf ∧
    (scanFlags pe pf pfl nc cps tmpl tshape).padTemplateFilter = pfl := ⟨rfl, rfl, rfl⟩

/-- **A search that runs split always pads the target edges** (`scan_subsets(pad_target_edges=True)`): the composition of the
schedule with what `main` passes on -/
theorem split_search_pads_edges (pe pf pfl nc : Bool) (cps : SchedCall → SchedAns) (tmpl tshape : List Nat)
    (splits : List Nat) (sch : Nat × Nat)
    (hr : (schedule cps tmpl pf pe).result = some (splits, sch)) (hs : 1 < prodL splits) :
    (scanFlags pe pf pfl nc cps tmpl tshape).padTargetEdges = true :=
  (schedule_split_implies_padded cps tmpl pf pe splits sch hr hs).1

/-- the target mask is multiplied into the score map exactly for score-map output of every score but MCC (which consumed
the mask itself); the analyzer is the peak caller iff `-p` -/
theorem maskApplied_iff (pc tm mcc : Bool) :
    maskApplied pc tm mcc = true ↔ pc = false ∧ tm = true ∧ mcc = false := by
  revert pc tm mcc
  decide +kernel

theorem callbackName_spec : callbackName true = "PeakCallerMaximumFilter" ∧ callbackName false = "MaxScoreOverRotations" :=
  ⟨rfl, rfl⟩

/-- **`numpy.allclose` on shapes is exact equality for every axis shorter than 100000 voxels** (and on sampling rates
rounded to two decimals for every rate below 999.99) -/
theorem closeQ_exact (scale : Nat) (a b : Int) (hb : 1000 * b.natAbs + scale < 100000000) :
    closeQ scale a b = true ↔ a = b := by
  rw [closeQ, decide_eq_true_eq]
  constructor
  · intro h
    -- a difference of at least one unit exceeds the tolerance
    by_contra hne
    have h1 : 100000000 ≤ (a - b).natAbs * 100000000 :=
      Nat.le_mul_of_pos_left _ (Int.natAbs_pos.mpr (sub_ne_zero.mpr hne))
    exact Nat.lt_irrefl _ (Nat.lt_of_le_of_lt (Nat.le_trans h1 h) (Nat.add_comm _ _ ▸ hb))
  · rintro rfl
    rw [Int.sub_self, Int.natAbs_zero, Nat.zero_mul]
    exact Nat.zero_le _

/-- **Witness**: beyond that size the tolerance is wider than a voxel - a mask one voxel longer passes the shape check -/
theorem closeQ_current_quirk : closeQ 1 100001 100000 = true ∧ closeQ 1 100000 99999 = false := by decide +kernel

/-- **`load_and_validate_mask`** for a mask of the target's rank (`k` axes each, extents below 100000, rates below 999.99):
accepted iff the shapes are equal and the sampling rates agree after rounding to two decimals; a shape mismatch is
reported before a sampling-rate mismatch; without a path nothing is checked -/
theorem maskCheck_no_path (ms ts mr tr : List Int) : maskCheck false ms ts mr tr = .noMask := rfl

theorem all2_closeQ_exact (scale : Nat) : ∀ (a b : List Int), a.length = b.length →
    (∀ y ∈ b, 1000 * y.natAbs + scale < 100000000) → (all2 (closeQ scale) a b = true ↔ a = b) := by
  intro a
  induction a with
  | nil =>
    intro b h _
    cases b with
    | nil => exact ⟨fun _ => rfl, fun _ => rfl⟩
    | cons _ _ => cases h
  | cons x xs ih =>
    intro b h hb
    cases b with
    | nil => cases h
    | cons y ys =>
      rw [all2, Bool.and_eq_true, ih ys (Nat.succ.inj h) fun z hz => hb z (List.mem_cons_of_mem _ hz),
        closeQ_exact scale x y (hb y List.mem_cons_self), List.cons.injEq]

theorem maskCheck_same_rank (ms ts mr tr : List Int) (h1 : ms.length = ts.length) (h2 : mr.length = tr.length)
    (hts : ∀ y ∈ ts, 1000 * y.natAbs + 1 < 100000000)
    (htr : ∀ y ∈ tr.map roundCenti, 1000 * y.natAbs + 100 < 100000000) :
    (maskCheck true ms ts mr tr = .ok ↔ ms = ts ∧ mr.map roundCenti = tr.map roundCenti) ∧
    (maskCheck true ms ts mr tr = .shapeMismatch ↔ ms ≠ ts) ∧
    (maskCheck true ms ts mr tr = .samplingMismatch ↔ ms = ts ∧ mr.map roundCenti ≠ tr.map roundCenti) := by
  have e1 := all2_closeQ_exact 1 ms ts h1 hts
  have e2 := all2_closeQ_exact 100 (mr.map roundCenti) (tr.map roundCenti)
    (by rw [List.length_map, List.length_map, h2]) htr
  rw [maskCheck_of_length_eq h1 h2, Ne, Ne, ← e1, ← e2]
  exact maskCheck_verdict _ _

/-- **Witness**: numpy's broadcasting inside the shape check accepts a one-dimensional mask for a cubic target -/
theorem maskCheck_broadcast_current_quirk :
    maskCheck true [5] [5, 5, 5] [1000] [1000, 1000, 1000] = .ok ∧
    maskCheck true [5, 5] [5, 5, 5] [1000, 1000] [1000, 1000, 1000] = .broadcastError := by decide +kernel

/-- rounding to two decimals: the result is within half a hundredth, ties go to the even hundredth -/
theorem roundCenti_spec (m : Int) :
    (10 * roundCenti m - m ≤ 5 ∧ m - 10 * roundCenti m ≤ 5) ∧
    (m % 10 = 5 → roundCenti m % 2 = 0) ∧ (m % 10 = 0 → 10 * roundCenti m = m) := by
  have hm := Int.mul_ediv_add_emod m 10
  have h0 := Int.emod_nonneg m (by decide : (10 : Int) ≠ 0)
  have h10 := Int.emod_lt_of_pos m (by decide : (0 : Int) < 10)
  obtain ⟨hc, hev⟩ := roundCenti_cases m
  generalize roundCenti m = c at hc hev ⊢
  generalize m / 10 = q at hm hc
  generalize m % 10 = r at hm h0 h10 hc hev ⊢
  subst hm
  rcases hc with ⟨h, rfl⟩ | ⟨h, rfl⟩
  · -- rounded down: off by `r`
    rw [sub_add_cancel_left, add_sub_cancel_left]
    exact ⟨⟨Int.le_trans (Int.neg_nonpos_of_nonneg h0) (by decide), h⟩, hev, fun hz => by rw [hz, Int.add_zero]⟩
  · -- rounded up: off by `10 - r`
    rw [Int.mul_add, add_sub_add_left_eq_sub, add_sub_add_left_eq_sub]
    exact ⟨⟨Int.sub_left_le_of_le_add (Int.add_le_add_right h 5),
      Int.sub_left_le_of_le_add (Int.le_trans (Int.le_of_lt h10) (by decide))⟩, hev,
      fun hz => absurd (hz ▸ h) (by decide)⟩

/-- the cross-option checks of `match_template.parse_args`: accepted iff (`--tilt_angles` implies `--wedge_axes` and a file
or a number) and (`--ctf_file` implies `--tilt_angles`) -/
theorem mtValidate_ok_iff (ht tf tn hw hc : Bool) :
    mtValidate ht tf tn hw hc = .ok ↔
      (ht = true → hw = true ∧ (tf = true ∨ tn = true)) ∧ (hc = true → ht = true) := by
  revert ht tf tn hw hc
  decide +kernel

/-- a negative `--interpolation_order` means "library default", anything else is passed on -/
theorem mtInterpolation_spec (o : Int) : (o < 0 → mtInterpolation o = none) ∧ (0 ≤ o → mtInterpolation o = some o) :=
  ⟨fun h => if_pos h, fun h => if_neg (Int.not_lt.mpr h)⟩

example : rotPlan ⟨some 200000, false, none, none, 360000, none, 1000⟩ = .identity 200000 true := by decide +kernel
example : rotPlan ⟨some 60000, true, none, none, 360000, none, 1000⟩ = .grid 60000 false := by decide +kernel
example : rotPlan ⟨none, false, some 30000, some 10000, 360000, none, 1000⟩ =
    .cone (some 30000) (some 10000) 360000 (some 10000) 1000 := by decide +kernel
example : schedule (fun c => if c.padding = [0, 0] then some ([2, 1], (2, 1)) else some ([2, 2], (4, 1))) [4, 6] false false =
    ⟨[⟨[0, 0], [0, 0]⟩, ⟨[0, 0], [4, 6]⟩], some ([2, 2], (4, 1)), true⟩ := by decide +kernel
example : maskCheck true [6, 5, 4] [6, 5, 4] [1125, 1125, 1125] [1120, 1120, 1120] = .ok ∧
    maskCheck true [6, 5, 4] [6, 5, 4] [1375, 1375, 1375] [1370, 1370, 1370] = .samplingMismatch ∧
    maskCheck true [6, 5, 4] [6, 4, 5] [1375, 1375, 1375] [1370, 1370, 1370] = .shapeMismatch := by decide +kernel
example : roundCenti 1125 = 112 ∧ roundCenti 1375 = 138 ∧ roundCenti 1126 = 113 ∧ roundCenti 1124 = 112 := by decide +kernel
example : mtValidate true false true true true = .ok ∧ mtValidate true false false true false = .tiltNeitherFileNorRange ∧
    mtValidate false false false false true = .needTiltAngles ∧ mtValidate true true false false false = .needWedgeAxes := by decide +kernel

/-! ## Backend selection (`match_template.main`) -/

/-- **Whatever is chosen is importable, admitted by the options and - when `--backend` is given - the requested one** -/
theorem selectBackend_chosen (available : List String) (req : Option String) (g m pc : Bool) (n : String) (dev : Option String)
    (h : selectBackend available req g m pc = .chosen n dev) :
    n ∈ available ∧ n ∈ beSelection g m ∧ n ∈ bePreference g ∧ (∀ r, req = some r → n = r) ∧
    (dev = if n = "pytorch" then some (if g then "cuda" else "cpu") else none) := by
  rw [selectBackend] at h
  cases hc : candidateBackends available req g m pc with
  | none => rw [hc] at h; cases h
  | some av =>
    rw [hc] at h
    dsimp only at h
    cases hf : (bePreference g).find? av.contains with
    | none => rw [hf] at h; cases h
    | some p =>
      rw [hf] at h
      obtain ⟨rfl, rfl⟩ := BackendChoice.chosen.inj h
      obtain ⟨h1, h2, h3⟩ := mem_candidateBackends hc (List.contains_iff_mem.mp (List.find?_some hf))
      refine ⟨h1, h2, List.mem_of_find?_eq_some hf, h3, ?_⟩
      by_cases hp : p = "pytorch"
      · rw [if_pos hp, if_pos (beq_iff_eq.mpr hp)]
      · rw [if_neg hp, if_neg fun e => hp (eq_of_beq e)]

/-- on a CPU installation (`numpyfftw` importable) without further options the FFTW backend is chosen -/
theorem selectBackend_default (available : List String) (pc : Bool) (h : "numpyfftw" ∈ available) :
    selectBackend available none false false pc = .chosen "numpyfftw" none := by
  have hm : "numpyfftw" ∈ available.filter (beSelection false false).contains :=
    List.mem_filter.mpr ⟨h, List.contains_iff_mem.mpr List.mem_cons_self⟩
  have hc : ∃ av, candidateBackends available none false false pc = some av ∧ "numpyfftw" ∈ av := by
    cases pc with
    | false => exact ⟨_, rfl, hm⟩
    | true => exact ⟨_, rfl, List.mem_filter.mpr ⟨hm, by decide⟩⟩
  obtain ⟨av, hav, hin⟩ := hc
  have hf : (bePreference false).find? av.contains = some "numpyfftw" :=
    List.find?_cons_of_pos (List.contains_iff_mem.mpr hin)
  rw [selectBackend, hav]
  dsimp only
  rw [hf]
  rfl

/-- with `--use_gpu` the CPU-only backends are never chosen -/
theorem selectBackend_gpu (available : List String) (req : Option String) (m pc : Bool) (n : String) (dev : Option String)
    (h : selectBackend available req true m pc = .chosen n dev) : n ≠ "numpyfftw" ∧ n ≠ "mlx" := by
  have := (selectBackend_chosen available req true m pc n dev h).2.2.1
  simp only [bePreference, if_true, List.mem_cons, List.mem_nil_iff, or_false] at this
  rcases this with rfl | rfl | rfl <;> decide

/-- **Witness**: a requested backend the other options do not admit is silently ignored - `--backend cupy` without `--use_gpu`
leaves the backend as it was (the search then runs on the default backend) -/
theorem selectBackend_ignored_current_quirk :
    selectBackend ["numpyfftw", "cupy"] (some "cupy") false false false = .unchanged := by decide +kernel

example : selectBackend ["numpyfftw", "pytorch", "jax"] none true false true = .chosen "pytorch" (some "cuda") ∧
    selectBackend ["numpyfftw", "pytorch", "jax"] none false true false = .chosen "numpyfftw" none ∧
    selectBackend ["numpyfftw", "jax"] (some "mlx") false false false = .rejected ∧
    backendInterpolation (.chosen "pytorch" (some "cpu")) (some 3) = some 1 := by decide +kernel

/-! ## Background subtraction (`postprocess.load_match_template_output`) -/

/-- **A background-normalised score is never negative** and is a proper fraction (or `+inf` where the background score is
exactly 1) -/
theorem bgNorm_nonneg (fg bg : Int × Nat) (n : Int) (d : Nat) (h : bgNorm fg bg = .fin n d) :
    0 ≤ n ∧ 0 < d := bgSel_fin h

/-- **Without a background signal (`bg = 0`) the score is the foreground score clipped at 0** -/
theorem bgNorm_no_background (a : Int) (b e : Nat) (hb : 0 < b) (he : 0 < e) :
    ∃ n d, bgNorm (a, b) (0, e) = .fin n d ∧ 0 < d ∧ n * (b : Int) = max a 0 * (d : Int) := by
  have he' : (0 : Int) < e := Int.natCast_pos.mpr he
  have hden : (0 : Int) < (b : Int) * e := Int.mul_pos (Int.natCast_pos.mpr hb) he'
  rw [bgNorm_eq]
  simp only [Int.zero_mul, Int.sub_zero]
  rw [bgSel_of_pos hden]
  by_cases ha : a * e ≤ 0
  · have ha0 : a ≤ 0 := Int.not_lt.mp fun h => Int.not_lt.mpr ha (Int.mul_pos h he')
    rw [if_pos ha]
    exact ⟨0, 1, rfl, Nat.one_pos, by rw [Int.max_eq_right ha0, Int.zero_mul, Int.zero_mul]⟩
  · have ha0 : 0 ≤ a := Int.not_lt.mp fun h => ha (Int.le_of_lt (Int.mul_neg_of_neg_of_pos h he'))
    rw [if_neg ha]
    refine ⟨_, _, rfl, Int.pos_iff_toNat_pos.mp hden, ?_⟩
    rw [Int.max_eq_left ha0, Int.toNat_of_nonneg (Int.le_of_lt hden), Int.mul_right_comm, Int.mul_assoc]

/-- **A voxel that scores like its background scores 0** (for every background score other than 1) -/
theorem bgNorm_self (x : Int × Nat) (hb : 0 < x.2) (h1 : x.1 ≠ x.2) : bgNorm x x = .fin 0 1 := by
  rw [bgNorm_eq, Int.sub_self]
  exact bgSel_zero_left (Int.mul_ne_zero (Int.natCast_ne_zero.mpr (Nat.ne_of_gt hb)) (sub_ne_zero_of_ne (Ne.symm h1)))

/-- **A perfect foreground score stays perfect** under any background score below 1 -/
theorem bgNorm_one (b : Nat) (bg : Int × Nat) (hb : 0 < b) (hlt : bg.1 < bg.2) :
    ∃ n d, bgNorm ((b : Int), b) bg = .fin n d ∧ 0 < d ∧ n = (d : Int) := by
  have hd : (0 : Int) < (b : Int) * ((bg.2 : Int) - bg.1) := Int.mul_pos (Int.natCast_pos.mpr hb) (Int.sub_pos.mpr hlt)
  rw [bgNorm_eq, Int.mul_sub, Int.mul_comm bg.1, ← Int.mul_sub, bgSel_of_pos hd, if_neg (Int.not_le.mpr hd)]
  exact ⟨_, _, rfl, Int.pos_iff_toNat_pos.mp hd, (Int.toNat_of_nonneg (Int.le_of_lt hd)).symm⟩

example : bgNorm (3, 4) (1, 2) = .fin 2 4 ∧ bgNorm (1, 4) (1, 2) = .fin 0 1 ∧ bgNorm (3, 4) (4, 4) = .fin 0 1 ∧
    bgNorm (5, 4) (4, 4) = .inf ∧ bgNorm (1, 4) (6, 4) = .fin 20 8 := by decide +kernel

/-! ## Merging several results (`postprocess.merge_outputs`) -/

/-- the merged score bounds the running value and every input, and is one of them -/
theorem mergeVoxelFrom_score : ∀ (l : List Int) (lab : Nat) (c : Int × Nat),
    c.1 ≤ (mergeVoxelFrom c lab l).1 ∧ (∀ x ∈ l, x ≤ (mergeVoxelFrom c lab l).1) ∧
    ((mergeVoxelFrom c lab l).1 = c.1 ∨ (mergeVoxelFrom c lab l).1 ∈ l) := by
  intro l
  induction l with
  | nil => intro _ c; exact ⟨Int.le_refl _, fun _ h => (nomatch h), Or.inl rfl⟩
  | cons x xs ih =>
    intro lab c
    rw [mergeVoxelFrom_cons]
    by_cases h : c.1 < x
    · rw [mergeStep_of_lt h]
      obtain ⟨h1, h2, h3⟩ := ih (lab + 1) (x, lab)
      exact ⟨Int.le_trans (Int.le_of_lt h) h1, List.forall_mem_cons.mpr ⟨h1, h2⟩,
        Or.inr (h3.elim (fun e => e ▸ List.mem_cons_self) (List.mem_cons_of_mem _))⟩
    · rw [mergeStep_of_le (Int.not_lt.mp h)]
      obtain ⟨h1, h2, h3⟩ := ih (lab + 1) c
      exact ⟨h1, List.forall_mem_cons.mpr ⟨Int.le_trans (Int.not_lt.mp h) h1, h2⟩, h3.imp id (List.mem_cons_of_mem _)⟩

/-- **The merged score map is the elementwise maximum of the inputs** -/
theorem mergeVoxel_score (all : List Int) (hne : all ≠ []) :
    (∀ x ∈ all, x ≤ (mergeVoxel all).1) ∧ (mergeVoxel all).1 ∈ all := by
  cases all with
  | nil => exact absurd rfl hne
  | cons first rest =>
    obtain ⟨_, h2, h3⟩ := mergeVoxelFrom_score (first :: rest) 1 (first, 0)
    exact ⟨h2, h3.elim (fun e => e ▸ List.mem_cons_self) id⟩

/-- **and therefore does not depend on the order in which the input files are given** -/
theorem mergeVoxel_score_perm (a b : List Int) (h : a.Perm b) : (mergeVoxel a).1 = (mergeVoxel b).1 := by
  by_cases hne : a = []
  · subst hne; rw [h.symm.eq_nil]
  · have hnb : b ≠ [] := fun e => hne (e ▸ h).eq_nil
    obtain ⟨a1, a2⟩ := mergeVoxel_score a hne
    obtain ⟨b1, b2⟩ := mergeVoxel_score b hnb
    exact Int.le_antisymm (b1 _ (h.subset a2)) (a1 _ (h.symm.subset b2))

/-- the label bookkeeping of the loop: either no input beats the running value (value and entity stay), or the entity is the
label of the *first* input that attains the final (strictly larger) value -/
theorem mergeVoxelFrom_entity : ∀ (l : List Int) (lab : Nat) (c : Int × Nat),
    (mergeVoxelFrom c lab l = c ∧ ∀ x ∈ l, x ≤ c.1) ∨
    (∃ j, (mergeVoxelFrom c lab l).2 = lab + j ∧ l[j]? = some (mergeVoxelFrom c lab l).1 ∧ c.1 < (mergeVoxelFrom c lab l).1 ∧
      ∀ i y, i < j → l[i]? = some y → y < (mergeVoxelFrom c lab l).1) := by
  intro l
  induction l with
  | nil => intro _ c; exact Or.inl ⟨rfl, fun _ h => nomatch h⟩
  | cons x xs ih =>
    intro lab c
    rw [mergeVoxelFrom_cons]
    have hs := mergeStep_ge c x lab
    -- the later inputs either leave the value after this step alone, or the first of them to attain the final value beats it
    rcases ih (lab + 1) (mergeStep c x lab) with ⟨he, hall⟩ | ⟨j, hj1, hj2, hj3, hj4⟩
    · rw [he]
      by_cases h : c.1 < x
      · rw [mergeStep_of_lt h]
        exact Or.inr ⟨0, rfl, rfl, h, fun i _ hi => nomatch hi⟩
      · rw [mergeStep_of_le (Int.not_lt.mp h)] at hall ⊢
        exact Or.inl ⟨rfl, List.forall_mem_cons.mpr ⟨Int.not_lt.mp h, hall⟩⟩
    · refine Or.inr ⟨j + 1, hj1.trans (Nat.add_right_comm lab 1 j), hj2, Int.lt_of_le_of_lt hs.1 hj3, fun i y hi hy => ?_⟩
      cases i with
      | zero => cases hy; exact Int.lt_of_le_of_lt hs.2 hj3
      | succ i => exact hj4 i y (Nat.lt_of_succ_lt_succ hi) hy

/-- **The entity map**: entity 0 means that no input exceeds the first one at that voxel; entity `e > 0` is the (1-based) position
of the *first* input file, in command-line order, whose value is the merged maximum -/
theorem mergeVoxel_entity (first : Int) (rest : List Int) :
    ((mergeVoxel (first :: rest)).2 = 0 ∧ (mergeVoxel (first :: rest)).1 = first ∧ ∀ x ∈ rest, x ≤ first) ∨
    (∃ j, (mergeVoxel (first :: rest)).2 = j + 1 ∧ (first :: rest)[j]? = some (mergeVoxel (first :: rest)).1 ∧
      first < (mergeVoxel (first :: rest)).1 ∧ ∀ i y, i < j → (first :: rest)[i]? = some y → y < (mergeVoxel (first :: rest)).1) := by
  simp only [mergeVoxel]
  rcases mergeVoxelFrom_entity (first :: rest) 1 (first, 0) with ⟨he, hall⟩ | ⟨j, hj1, hj⟩
  · rw [he]
    exact Or.inl ⟨rfl, rfl, fun x hx => hall x (List.mem_cons_of_mem _ hx)⟩
  · exact Or.inr ⟨j, hj1.trans (Nat.add_comm 1 j), hj⟩

/-- **Witness: the entity map does depend on the order** - of two inputs that tie at a voxel the one listed first is credited
(the comparison is strict), so swapping them credits the other file; a voxel where no later input beats the first keeps entity 0 -/
theorem mergeVoxel_entity_order_current_quirk :
    mergeVoxel [1, 5, 5] = (5, 2) ∧ mergeVoxel [1, 5, 7] = (7, 3) ∧ mergeVoxel [1, 7, 5] = (7, 2) ∧
    mergeVoxel [5, 5, 1] = (5, 0) ∧ mergeVoxel [5, 1, 5] = (5, 0) := by decide +kernel

example : mergeVoxel [3, -2, 8, 8, 1] = (8, 3) := by decide +kernel

end Pm.C18
